/-
  Fbr.Lemmas.PtHostOwner — "objects created for a caller are owned by that caller", trace level.
  The host enters through two laws about creation, `OwnerLaws H` (only creating calls create; a new
  object belongs to the creating thread's fsuid, and to its fsgid or the set-gid directory's group;
  `Fbr.Lemmas.HostRefOwner` proves them of the reference FS).  The passthrough's part: every creating
  call of mkdir / mknod / symlink / create is issued inside the `set_creds` scope, entered with effective
  ids 0, hence with the caller's ids (`Br.asCaller`, by induction over the bracket structure that
  `br_handle` gives), and every other call of every request creates nothing.
-/
import Fbr.Lemmas.PtHostCreds
import Fbr.Lemmas.PtHostDirect

namespace Fbr.Host

def HCall.creates : HCall → Bool
  | .openat _ _ fl _ => has fl O_CREAT
  | .mkdirat .. | .mknodat .. | .symlinkat .. => true
  | _ => false

def HCall.dirFd : HCall → Option Fd
  | .openat d _ _ _ | .mkdirat d _ _ | .mknodat d _ _ _ | .symlinkat _ d _ => some d
  | _ => none

end Fbr.Host

namespace Fbr.PtHost
open Fbr.Host

variable {σ : Type} {α β : Type}

def S_ISGID : Nat := 1024

/-- the group of a new object: the creating thread's, or the group of the set-gid directory it is
    created in -/
def GidOk (H : HostOps σ) (s : σ) (c : HCall) (gid : Nat) (n : Node) : Prop :=
  n.gid = gid ∨
  ∃ df d dn, c.dirFd = some df ∧ H.fdObj s df = some d ∧ H.view s d = some dn ∧ has dn.perm S_ISGID = true ∧ n.gid = dn.gid

class OwnerLaws (H : HostOps σ) : Prop where
  /-- only creating calls bring objects into existence -/
  new_only : ∀ s c o, c.creates = false → H.view s o = none → H.view (H.step s c).2 o = none
  /-- a new object is owned by the creating thread: its fsuid; its fsgid, or the directory's group
      when the directory is set-gid -/
  new_owner : ∀ s c o n, H.view s o = none → H.view (H.step s c).2 o = some n →
    n.uid = (H.creds s).euid ∧ GidOk H s c (H.creds s).egid n

def Steps (H : HostOps σ) (R : σ → HCall → Prop) : Prog α → σ → Prop
  | .pure _, _ => True
  | .call c k, s => R s c ∧ Steps H R (k (H.step s c).1) (H.step s c).2

theorem steps_mono {H : HostOps σ} {R R' : σ → HCall → Prop} (hr : ∀ s c, R s c → R' s c) {p : Prog α} {s : σ}
    (h : Steps H R p s) : Steps H R' p s := by
  induction p generalizing s with
  | pure a => trivial
  | call c k ih => exact ⟨hr _ _ h.1, ih _ h.2⟩

theorem steps_bind {H : HostOps σ} {R : σ → HCall → Prop} {p : Prog α} {f : α → Prog β} {s : σ}
    (hp : Steps H R p s) (hf : Steps H R (f (val H p s)) (fin H p s)) : Steps H R (p.bind f) s := by
  induction p generalizing s with
  | pure a => exact hf
  | call c k ih => exact ⟨hp.1, ih _ hp.2 hf⟩

theorem steps_of_only {H : HostOps σ} {R : σ → HCall → Prop} {P : HCall → Prop} (hpr : ∀ s c, P c → R s c)
    {p : Prog α} (hp : p.OnlyCalls P) {s : σ} : Steps H R p s := by
  induction p generalizing s with
  | pure a => trivial
  | call c k ih => exact ⟨hpr _ _ hp.1, ih _ (hp.2 _)⟩

theorem stepsM_bind {H : HostOps σ} {R : σ → HCall → Prop} {m : M α} {f : α → M β} {pt : PtState} {s : σ}
    (hm : Steps H R (m pt) s)
    (hf : ∀ a, (val H (m pt) s).1 = .ok a → Steps H R (f a (val H (m pt) s).2) (fin H (m pt) s)) :
    Steps H R ((m >>= f) pt) s := by
  show Steps H R (M.bind' m f pt) s
  unfold M.bind'
  refine steps_bind hm ?_
  cases hv : (val H (m pt) s).1 with
  | ok a => simp only []; exact hf a hv
  | error e => simp only []; trivial

def NoCreate (c : HCall) : Prop := c.creates = false

theorem Aux.noCreate (c : HCall) (h : Aux c) : NoCreate c := by cases h <;> rfl
theorem Look.noCreate (c : HCall) (h : Look c) : NoCreate c := by cases h <;> first | rfl | decide
theorem Switch.noCreate (c : HCall) (h : Switch c) : NoCreate c := by cases h <;> rfl

def AsCaller (H : HostOps σ) (uid gid : Nat) : σ → HCall → Prop :=
  fun s c => c.creates = true → (H.creds s).euid = uid ∧ (H.creds s).egid = gid

/-- `Acts NoCreate false m` says no more than `OnlyM NoCreate m`; it is the form in which the lemmas about blocks give it -/
theorem steps_noCreate {H : HostOps σ} {uid gid : Nat} {m : M α} (hm : Acts NoCreate false m) {pt : PtState} {s : σ} :
    Steps H (AsCaller H uid gid) (m pt) s :=
  steps_of_only (fun _ c hc hcr => by rw [hc] at hcr; cases hcr) (hm.only.h pt)

theorem inScope_ids (c0 : Creds) (b : Base c0) (uid gid : Nat) :
    (inScope c0 uid gid).euid = uid ∧ (inScope c0 uid gid).egid = gid := by
  obtain ⟨r1, r2, _⟩ := b
  by_cases hu : uid = 0 <;> by_cases hg : gid = 0 <;> simp [inScope, Creds.afterSetuid, hu, hg, r1, r2]

section
variable {H : HostOps σ} [L : HostLaws H]

omit L in
theorem steps_try {R : σ → HCall → Prop} {m : M α} {pt : PtState} {s : σ} (h : Steps H R (m pt) s) :
    Steps H R (M.try' m pt) s :=
  steps_bind h trivial

/-- **the guarded block**: entered from the serving thread's state, the body runs with the caller's ids;
    the guard set-up and drop create nothing -/
theorem steps_withCreds {uid gid : Nat} {body : M α} {pt : PtState} {s : σ} (hb0 : Base (H.creds s))
    (hb : ∀ pt' s', (H.creds s').euid = uid ∧ (H.creds s').egid = gid → Steps H (AsCaller H uid gid) (body pt') s') :
    Steps H (AsCaller H uid gid) (withCreds uid gid body pt) s := by
  unfold withCreds
  refine stepsM_bind (steps_noCreate (acts_setCreds Switch.noCreate uid gid)) fun g hg => ?_
  have hsc : H.creds (fin H (setCreds uid gid pt) s) = inScope (H.creds s) uid gid := by
    have := (hoareM_setCreds (H.creds s) hb0 uid gid).run pt s rfl
    rw [hg] at this
    exact this.2
  refine stepsM_bind (steps_try (hb _ _ (by rw [hsc]; exact inScope_ids _ hb0 _ _))) fun r _ => ?_
  exact steps_noCreate (.bind (acts_dropCreds Switch.noCreate g) fun _ => acts_ofExcept _)

theorem steps_inScope {u g : Nat} {B : HCall → Prop} (hB : ∀ c, B c → NotCred c) {p : Prog α} (hp : p.OnlyCalls B)
    {s : σ} (h : (H.creds s).euid = u ∧ (H.creds s).egid = g) : Steps H (AsCaller H u g) p s := by
  induction p generalizing s with
  | pure a => trivial
  | call c k ih => exact ⟨fun _ => h, ih _ (hp.2 _) (by rw [L.creds_other s c (hB c hp.1)]; exact h)⟩

theorem base_dropCap (c : Bool) (pt : PtState) (s : σ) (b : Base (H.creds s)) :
    Base (H.creds (fin H ((if c then dropCapFsetid else pure false : M Bool) pt) s)) := by
  refine (hoareM_conseq (Q' := fun _ => Base) (hoareM_dropCap (H.creds s) c) fun r _ h => ?_).run pt s rfl
  rcases r with _ | _ | _
  · exact h ▸ b
  · exact h ▸ b
  · exact h.2 ▸ ⟨b.1, b.2.1, nofun⟩

/-- **creating calls run as the caller**: outside the `set_creds(u, g)` scopes nothing is created, and
    from the serving thread's state every such scope runs its block with effective ids `u`, `g` -/
theorem Br.asCaller {cfg : Cfg} {n : Name} {u g : Nat} {P B : HCall → Prop} {m : M α} (hP : ∀ c, P c → NotCred c)
    (hN : ∀ c, P c → NoCreate c) (hB : ∀ c, B c → NotCred c) (h : Br cfg n u g P B m) (pt : PtState) (s : σ)
    (hb : Base (H.creds s)) : Steps H (AsCaller H u g) (m pt) s := by
  induction h generalizing pt s with
  | of_acts h => exact steps_noCreate (h.mono hN).any
  | lookup p => exact steps_noCreate (acts_doLookup Aux.noCreate Look.noCreate cfg p n)
  | forget => exact steps_noCreate (acts_modify_any _)
  | bind h1 _ ih1 ih2 =>
    exact stepsM_bind (ih1 pt s hb) fun a _ => ih2 a _ _ (((h1.neutral hP hB).h pt s hb).base hb)
  | try' _ ih => exact steps_try (ih pt s hb)
  | withCreds h => exact steps_withCreds hb fun pt' _ => steps_inScope hB (h.only.h pt')
  | @withKillpriv _ c body _ ih =>
    -- the guard's own calls (`capget`, `capset`) create nothing, and dropping the capability leaves
    -- the ids at 0: the body is entered from a `Base` state (not a `Root` one)
    unfold Fbr.PtHost.withKillpriv
    have hd : Acts NoCreate false (if c then dropCapFsetid else pure false : M Bool) := by
      split
      · exact acts_dropCap Switch.noCreate
      · exact acts_pure _
    refine stepsM_bind (steps_noCreate hd) fun gd _ => ?_
    refine stepsM_bind (steps_try (ih _ _ (base_dropCap c pt s hb))) fun r _ => ?_
    refine steps_noCreate (.bind ?_ fun _ => acts_ofExcept r)
    split
    · exact acts_raiseCap Switch.noCreate
    · exact acts_pure _

end

/-- every object that comes into existence at some step of the run is, at that moment, owned by
    `uid`, with group `gid` (or the set-gid directory's) -/
def NewOwned (H : HostOps σ) (uid gid : Nat) (p : Prog α) (s : σ) : Prop :=
  Steps H (fun s c => ∀ o n, H.view s o = none → H.view (H.step s c).2 o = some n → n.uid = uid ∧ GidOk H s c gid n) p s

def NoNew (H : HostOps σ) (p : Prog α) (s : σ) : Prop :=
  Steps H (fun s c => ∀ o, H.view s o = none → H.view (H.step s c).2 o = none) p s

def ReqOwned (H : HostOps σ) (cfg : Cfg) (pt : PtState) (r : Req) (s : σ) : Prop :=
  match r.caller with
  | some ctx => NewOwned H ctx.uid ctx.gid (step cfg pt r) s
  | none => NoNew H (step cfg pt r) s

theorem newOwned_of_asCaller {H : HostOps σ} [O : OwnerLaws H] {uid gid : Nat} {p : Prog α} {s : σ}
    (h : Steps H (AsCaller H uid gid) p s) : NewOwned H uid gid p s := by
  refine steps_mono ?_ h
  intro s c hc o n h0 h1
  cases hcr : c.creates with
  | false => have := O.new_only s c o hcr h0; rw [this] at h1; cases h1
  | true =>
    obtain ⟨e1, e2⟩ := hc hcr
    have := O.new_owner s c o n h0 h1
    rw [e1, e2] at this
    exact this

theorem Tame.noCreate {r : Req} {c : HCall} (hr : r.caller = none) (h : Tame r c) : NoCreate c := by
  cases c <;> first | rfl | exact absurd hr h | exact absurd hr h.2.2

theorem Outer.noCreate {r : Req} (c : HCall) (h : Outer r c) : NoCreate c := by
  cases h with
  | aux h => exact h.noCreate
  | own hr h => exact h.2.noCreate hr

theorem reqOwned {H : HostOps σ} [L : HostLaws H] [O : OwnerLaws H] (cfg : Cfg) (pt : PtState) (r : Req) (s : σ)
    (hroot : (H.creds s).Root) : ReqOwned H cfg pt r s := by
  unfold ReqOwned
  cases hr : r.caller with
  | some ctx =>
    have h := (br_handle cfg r).asCaller Outer.notCred Outer.noCreate (fun _ h => h.2.notCred) pt s
      (.of_root hroot)
    rw [hr] at h
    exact newOwned_of_asCaller h
  | none =>
    exact steps_of_only (fun s c hn o h0 => O.new_only s c o hn h0)
      ((only_handle cfg r Aux.noCreate Look.noCreate (fun _ h => h.2.noCreate hr) Switch.noCreate).h pt)

def HistOwned (H : HostOps σ) (cfg : Cfg) : PtState → σ → List Req → Prop
  | _, _, [] => True
  | pt, s, r :: rs =>
    ReqOwned H cfg pt r s ∧ HistOwned H cfg (val H (step cfg pt r) s).2 (fin H (step cfg pt r) s) rs

theorem histOwned {H : HostOps σ} [L : HostLaws H] [O : OwnerLaws H] (cfg : Cfg) (rs : List Req) :
    ∀ (pt : PtState) (s : σ), (H.creds s).Root → HistOwned H cfg pt s rs := by
  induction rs with
  | nil => intro _ _ _; trivial
  | cons r rs ih =>
    intro pt s hroot
    refine ⟨reqOwned cfg pt r s hroot, ih _ _ ?_⟩
    have h1 : H.creds (fin H (step cfg pt r) s) = H.creds s := (neutralM_handle cfg r).root pt s hroot
    rw [h1]; exact hroot

end Fbr.PtHost
