/-
  Well-formedness of the pseudo tree (`WF`): kept by `create_inode`, and enough for `restorePseudo` to
  rebuild the tree from what `save` stores of it.
-/
import Fbr.Vfs
import Fbr.Persist

namespace Fbr.Lemmas.VfsPseudo
open Fbr.Vfs Fbr.Persist

/-- the children a node must list: the non-root nodes whose parent it is, in table order -/
def childrenOf (nodes : List PNode) (k : Nat) : List (Nat × Name) :=
  (nodes.filter (fun x => x.parent == k && x.ino != 1)).map (fun x => (x.ino, x.name))

structure WF (p : Pseudo) : Prop where
  root : ∃ c rest, p.nodes = { ino := 1, parent := 1, name := [SLASH], children := c } :: rest
  /-- inode numbers increase along the table (creation order) -/
  sorted : p.nodes.Pairwise (fun a b => a.ino < b.ino)
  bound : ∀ n ∈ p.nodes, n.ino < p.nextInode
  parent : ∀ n ∈ p.nodes, ∃ q ∈ p.nodes, q.ino = n.parent
  children : ∀ n ∈ p.nodes, n.children = childrenOf p.nodes n.ino

theorem wf_new : WF Pseudo.new := by
  refine ⟨⟨[], [], rfl⟩, by simp [Pseudo.new], ?_, ?_, ?_⟩
  · intro n hn; simp [Pseudo.new] at hn; subst hn; decide
  · intro n hn
    refine ⟨{ ino := 1, parent := 1, name := [SLASH], children := [] }, by simp [Pseudo.new], ?_⟩
    simp [Pseudo.new] at hn; subst hn; rfl
  · intro n hn; simp [Pseudo.new] at hn; subst hn; decide

theorem find_some_mem {p : Pseudo} {ino : Nat} {n : PNode} (h : p.find ino = some n) : n ∈ p.nodes ∧ n.ino = ino := by
  unfold Pseudo.find at h
  exact ⟨List.mem_of_find?_eq_some h, by simpa using List.find?_some h⟩

theorem find_of_mem {p : Pseudo} (hs : p.nodes.Pairwise (fun a b => a.ino < b.ino)) {n : PNode} (hn : n ∈ p.nodes) :
    p.find n.ino = some n := by
  unfold Pseudo.find
  generalize p.nodes = nodes at hs hn ⊢
  induction nodes with
  | nil => cases hn
  | cons x rest ih =>
    rw [List.pairwise_cons] at hs
    rcases List.mem_cons.mp hn with h | h
    · subst h; simp
    · have hlt := hs.1 n h
      have : (x.ino == n.ino) = false := by simp; omega
      rw [List.find?_cons, this]
      exact ih hs.2 h

theorem childrenOf_append (A B : List PNode) (j : Nat) : childrenOf (A ++ B) j = childrenOf A j ++ childrenOf B j := by
  simp [childrenOf, List.filter_append]

theorem childrenOf_map (N : List PNode) (f : PNode → PNode) (j : Nat)
    (hf : ∀ n, (f n).ino = n.ino ∧ (f n).parent = n.parent ∧ (f n).name = n.name) :
    childrenOf (N.map f) j = childrenOf N j := by
  induction N with
  | nil => rfl
  | cons x rest ih =>
    have hx := hf x
    simp only [childrenOf, List.map_cons, List.filter_cons] at ih ⊢
    rw [hx.1, hx.2.1]
    split
    · simp only [List.map_cons, hx.1, hx.2.2]
      rw [ih]
    · exact ih

/-- the update `insert_child` applies to the table -/
def addChild (par ino : Nat) (name : Name) (n : PNode) : PNode :=
  if n.ino == par then { n with children := n.children ++ [(ino, name)] } else n

theorem addChild_keeps (par ino : Nat) (name : Name) (n : PNode) :
    (addChild par ino name n).ino = n.ino ∧ (addChild par ino name n).parent = n.parent ∧ (addChild par ino name n).name = n.name := by
  unfold addChild
  split <;> exact ⟨rfl, rfl, rfl⟩

theorem addChild_children (par ino : Nat) (name : Name) (n : PNode) :
    (addChild par ino name n).children = n.children ++ if par = n.ino then [(ino, name)] else [] := by
  unfold addChild
  by_cases h : n.ino = par
  · rw [if_pos (by simpa using h), if_pos h.symm]
  · rw [if_neg (by simpa using h), if_neg (fun e => h e.symm), List.append_nil]

theorem child_append {n n' : PNode} {l : List (Nat × Name)} (he : n'.children = n.children ++ l) (name : Name) :
    n'.child name = (n.child name).or ((l.find? (fun c => c.2 == name)).map (·.1)) := by
  unfold PNode.child
  rw [he, List.find?_append]
  cases n.children.find? (fun c => c.2 == name) <;> rfl

theorem createInode_nodes {p : Pseudo} (hb : ∀ n ∈ p.nodes, n.ino < p.nextInode) (par : Nat) (hpar : par < p.nextInode) (name : Name) :
    (p.createInode par name).1.nodes =
      p.nodes.map (addChild par p.nextInode name) ++ [{ ino := p.nextInode, parent := par, name := name, children := [] }] ∧
    (p.createInode par name).1.nextInode = p.nextInode + 1 := by
  unfold Pseudo.createInode
  refine ⟨?_, rfl⟩
  have hfil : p.nodes.filter (fun n => n.ino != p.nextInode) = p.nodes := by
    apply List.filter_eq_self.mpr
    intro n hn
    have := hb n hn
    simp; omega
  simp only [hfil, List.map_append, List.map_cons, List.map_nil]
  congr 1
  have : ¬ p.nextInode = par := by omega
  simp [this]

theorem mem_createInode {p : Pseudo} (hb : ∀ n ∈ p.nodes, n.ino < p.nextInode) {par : Nat} (hpar : par < p.nextInode) {name : Name}
    {n : PNode} : n ∈ (p.createInode par name).1.nodes ↔
      (∃ a ∈ p.nodes, addChild par p.nextInode name a = n) ∨
        n = { ino := p.nextInode, parent := par, name := name, children := [] } := by
  rw [(createInode_nodes hb par hpar name).1, List.mem_append, List.mem_map, List.mem_singleton]

theorem createInode_wf {p : Pseudo} (h : WF p) (par : PNode) (hpar : par ∈ p.nodes) (name : Name) :
    WF (p.createInode par.ino name).1 := by
  have hparlt := h.bound par hpar
  obtain ⟨hn, hni⟩ := createInode_nodes h.bound par.ino hparlt name
  have hmem := @mem_createInode p h.bound par.ino hparlt name
  have hkeep := addChild_keeps par.ino p.nextInode name
  obtain ⟨c, rest, hroot⟩ := h.root
  have hk1 : 1 < p.nextInode := h.bound _ (by rw [hroot]; exact List.mem_cons_self)
  constructor
  case root =>
    rw [hn, hroot]
    simp only [List.map_cons, List.cons_append]
    refine ⟨(addChild par.ino p.nextInode name { ino := 1, parent := 1, name := [SLASH], children := c }).children,
      List.map (addChild par.ino p.nextInode name) rest ++ [{ ino := p.nextInode, parent := par.ino, name := name, children := [] }], ?_⟩
    congr 1
    unfold addChild
    split <;> rfl
  case sorted =>
    rw [hn, List.pairwise_append, List.pairwise_map]
    refine ⟨h.sorted.imp (fun {a b} hab => by rw [(hkeep a).1, (hkeep b).1]; exact hab), by simp, ?_⟩
    intro a ha b hb
    obtain ⟨a', ha', rfl⟩ := List.mem_map.mp ha
    rw [List.mem_singleton.mp hb, (hkeep a').1]
    exact h.bound a' ha'
  case bound =>
    intro n hnm
    rw [hni]
    rcases hmem.mp hnm with ⟨a, ha, rfl⟩ | rfl
    · rw [(hkeep a).1]
      exact Nat.lt_succ_of_lt (h.bound a ha)
    · exact Nat.lt_succ_self _
  case parent =>
    intro n hnm
    rcases hmem.mp hnm with ⟨a, ha, rfl⟩ | rfl
    · obtain ⟨q, hq, hqi⟩ := h.parent a ha
      exact ⟨_, hmem.mpr (.inl ⟨q, hq, rfl⟩), by rw [(hkeep q).1, (hkeep a).2.1]; exact hqi⟩
    · exact ⟨_, hmem.mpr (.inl ⟨par, hpar, rfl⟩), (hkeep par).1⟩
  case children =>
    -- in the parent links only `par` gains a child
    have hco : ∀ k, childrenOf (p.createInode par.ino name).1.nodes k =
        childrenOf p.nodes k ++ if par.ino = k then [(p.nextInode, name)] else [] := by
      intro k
      have hk : ¬ p.nextInode = 1 := by omega
      rw [hn, childrenOf_append, childrenOf_map _ _ _ hkeep]
      by_cases hp : par.ino = k <;> simp [childrenOf, hp, hk]
    intro n hnm
    rw [hco]
    rcases hmem.mp hnm with ⟨a, ha, rfl⟩ | rfl
    · rw [(hkeep a).1, ← h.children a ha, addChild_children]
    · -- nobody has the node created as parent
      have h1 : childrenOf p.nodes p.nextInode = [] := by
        unfold childrenOf
        rw [List.map_eq_nil_iff, List.filter_eq_nil_iff]
        intro x hx
        obtain ⟨q, hq, hqi⟩ := h.parent x hx
        have := h.bound q hq
        simp; omega
      rw [h1, List.nil_append]
      exact (if_neg (Nat.ne_of_lt hparlt)).symm

theorem child_is_node {p : Pseudo} (h : WF p) {n : PNode} (hn : n ∈ p.nodes) {name : Name} {c : Nat}
    (hc : n.child name = some c) : ∃ x ∈ p.nodes, x.ino = c := by
  unfold PNode.child at hc
  cases hf : n.children.find? (fun c => c.2 == name) with
  | none => simp [hf] at hc
  | some pr =>
    simp only [hf, Option.map_some, Option.some.injEq] at hc
    have hmem := List.mem_of_find?_eq_some hf
    rw [h.children n hn] at hmem
    unfold childrenOf at hmem
    obtain ⟨x, hx, hxe⟩ := List.mem_map.mp hmem
    exact ⟨x, (List.mem_filter.mp hx).1, by rw [← hc, ← hxe]⟩

theorem root_mem {p : Pseudo} (h : WF p) : ∃ n ∈ p.nodes, n.ino = 1 := by
  obtain ⟨c, rest, hr⟩ := h.root
  exact ⟨_, by rw [hr]; exact List.mem_cons_self, rfl⟩

theorem sortByIno_sorted (l : List PInodeState) (h : l.Pairwise (fun a b => a.ino < b.ino)) : sortByIno l = l := by
  induction l with
  | nil => rfl
  | cons x t ih =>
    rw [List.pairwise_cons] at h
    unfold sortByIno at ih ⊢
    simp only [List.foldr_cons]
    rw [ih h.2]
    cases t with
    | nil => rfl
    | cons y t' =>
      have := h.1 y List.mem_cons_self
      simp [insertByIno, this]

/-- the children the connect loop gives node `k` -/
def kids (states : List PInodeState) (k : Nat) : List (Nat × Name) :=
  (states.filter (fun st => st.parent == k)).map (fun st => (st.ino, st.name))

theorem connect_spec : ∀ (states : List PInodeState) (nodes : List PNode),
    (∀ st ∈ states, ∃ n ∈ nodes, n.ino = st.parent) →
    connect nodes states = some (nodes.map fun n => { n with children := n.children ++ kids states n.ino }) := by
  intro states
  induction states with
  | nil =>
    intro nodes _
    simp only [connect, kids, List.filter_nil, List.map_nil, List.append_nil]
    congr 1
    exact (List.map_id' nodes).symm
  | cons st rest ih =>
    intro nodes hp
    obtain ⟨n0, hn0, hn0i⟩ := hp st List.mem_cons_self
    have hany : nodes.any (fun n => n.ino == st.parent) = true := by
      rw [List.any_eq_true]; exact ⟨n0, hn0, by simp [hn0i]⟩
    simp only [connect, hany, if_true]
    rw [ih]
    · congr 1
      rw [List.map_map]
      apply List.map_congr_left
      intro n _
      simp only [Function.comp]
      by_cases hk : n.ino = st.parent
      · have h1 : (n.ino == st.parent) = true := by simp [hk]
        have h2 : (st.parent == n.ino) = true := by simp [hk]
        simp [h1, kids, h2, List.append_assoc]
      · have h1 : (n.ino == st.parent) = false := by simp [hk]
        have h2 : (st.parent == n.ino) = false := by simp; exact fun h => hk h.symm
        simp [h1, kids, h2]
    · intro st' hst'
      obtain ⟨n, hn, hni⟩ := hp st' (List.mem_cons_of_mem _ hst')
      refine ⟨_, List.mem_map_of_mem hn, ?_⟩
      split <;> exact hni

def toState (n : PNode) : PInodeState := { ino := n.ino, parent := n.parent, name := n.name }

theorem kids_saved (nodes : List PNode) (k : Nat) :
    kids ((nodes.filter (fun n => n.ino != ROOT_ID)).map toState) k = childrenOf nodes k := by
  unfold kids childrenOf
  rw [List.filter_map, List.map_map, List.filter_filter]
  rfl

theorem restorePseudo_save {p : Pseudo} (h : WF p) :
    restorePseudo p.nextInode ((p.nodes.filter (fun n => n.ino != ROOT_ID)).map fun n => { ino := n.ino, parent := n.parent, name := n.name })
      = some p := by
  obtain ⟨c, rest, hroot⟩ := h.root
  have hsorted := h.sorted
  rw [hroot, List.pairwise_cons] at hsorted
  -- what is saved is the table without its head, the root
  have hfil : p.nodes.filter (fun n => n.ino != ROOT_ID) = rest := by
    rw [hroot, List.filter_cons_of_neg (by simp [ROOT_ID])]
    apply List.filter_eq_self.mpr
    intro x hx
    have : 1 < x.ino := hsorted.1 x hx
    simp [ROOT_ID]; omega
  have hkids : ∀ k, kids (rest.map toState) k = childrenOf p.nodes k := fun k => by
    rw [← hfil]; exact kids_saved p.nodes k
  have hsort : sortByIno (rest.map fun n => ({ ino := n.ino, parent := n.parent, name := n.name } : PInodeState)) =
      rest.map toState :=
    sortByIno_sorted _ (List.pairwise_map.mpr hsorted.2)
  -- the connect loop starts from the table with every children list emptied
  have hnodes0 : rootNode :: (rest.map toState).map (fun st =>
      ({ ino := st.ino, parent := st.parent, name := st.name, children := [] } : PNode)) =
      p.nodes.map fun n => { n with children := [] } := by
    rw [hroot, List.map_map]; rfl
  rw [hfil]
  unfold restorePseudo
  simp only [hsort, hnodes0]
  rw [connect_spec]
  · simp only [Option.map_some, Option.some.injEq, List.map_map]
    cases p with
    | mk nextInode nodes =>
      congr 1
      rw [List.map_congr_left (g := id), List.map_id]
      intro x hx
      simp only [Function.comp, List.nil_append, id, hkids]
      rw [← h.children x hx]
  · intro st hst
    obtain ⟨x, hx, rfl⟩ := List.mem_map.mp hst
    obtain ⟨q, hq, hqi⟩ := h.parent x (by rw [hroot]; exact List.mem_cons_of_mem _ hx)
    exact ⟨_, List.mem_map_of_mem hq, hqi⟩

end Fbr.Lemmas.VfsPseudo
