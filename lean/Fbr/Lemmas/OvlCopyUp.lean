/-
  `create_upper_dir` / `copy_node_up` keep the forest a valid cache of the disk.  `CUD p s s'` is what a
  successful copy-up of `p` from `s` guarantees; it holds of a node that is in the upper layer already
  (`CUD.refl`), and extends from the parent to a node below it that only lower layers have
  (`CUD.extend`).  `copy_node_up` as one step: `copyNodeUp_spec`.  In theorem names of the
  files that follow the suffix `_cons` says "keeps `Consistent`", as in `loadDirectory_cons` of OvlSimRO (in
  OvlMerge, OvlEval and OvlSim it is the list constructor).
-/
import Fbr.Lemmas.OvlEntry

namespace Fbr.Ovl

/-- every node keeps a first real inode of the same kind: a directory stays one, a non-directory
    stays one, and what was not a whiteout does not become one -/
def StatKept (s s' : St) : Prop := ∀ p' m0 r0 rest0, s.mem p' = some m0 → m0.reals = r0 :: rest0 →
  ∃ m1 r1 rest1, s'.mem p' = some m1 ∧ m1.reals = r1 :: rest1 ∧
    (s'.disk.statReal r1).isDir = (s.disk.statReal r0).isDir ∧
    ((s.disk.statReal r0).isWhiteout = false → (s'.disk.statReal r1).isWhiteout = false)

theorem StatKept.refl (s : St) : StatKept s s :=
  fun _ m0 r0 rest0 h hr => ⟨m0, r0, rest0, h, hr, rfl, fun h => h⟩

theorem StatKept.trans {s s1 s2 : St} (h1 : StatKept s s1) (h2 : StatKept s1 s2) : StatKept s s2 := by
  intro p' m0 r0 rest0 hm hr
  obtain ⟨m1, r1, rest1, hm1, hr1, hd1, hw1⟩ := h1 p' m0 r0 rest0 hm hr
  obtain ⟨m2, r2, rest2, hm2, hr2, hd2, hw2⟩ := h2 p' m1 r1 rest1 hm1 hr1
  exact ⟨m2, r2, rest2, hm2, hr2, by rw [hd2, hd1], fun h => hw2 (hw1 h)⟩

/-- the upper entry at `p` afterwards shows what the node's first real inode showed before, up to
    the xattr -/
def ImgKept (p : Path) (s s' : St) : Prop := ∀ m0 r0 rest0, s.mem p = some m0 → m0.reals = r0 :: rest0 →
  m0.whiteout = false → (s'.disk.nodeAt 0 p).view.dropX = (s.disk.statReal r0).view.dropX

/-- Four relations say that a step leaves the SPEC union alone up to the `user.x` xattr: `ViewX`
    everywhere and `FrameX q0` outside the subtree at `q0`, both between states; `ViewD` and `FrameD`
    are the same two between disks (`FrameX q0 s s'` unfolds to `FrameD s.disk s'.disk q0`), for
    statements whose precondition names the disk (`CD d`). -/
def ViewX (s s' : St) : Prop := ∀ q, (merge s'.disk q).dropX = (merge s.disk q).dropX

theorem ViewX.refl (s : St) : ViewX s s := fun _ => rfl

theorem ViewX.trans {s s1 s2 : St} (h1 : ViewX s s1) (h2 : ViewX s1 s2) : ViewX s s2 :=
  fun q => (h2 q).trans (h1 q)

theorem ViewX.of_disk {s s' : St} (h : s'.disk = s.disk) : ViewX s s' := fun q => by rw [h]

def FrameX (q0 : Path) (s s' : St) : Prop :=
  ∀ q, q0.isSuffixOf q = false → (merge s'.disk q).dropX = (merge s.disk q).dropX

theorem ViewX.frame {s s' : St} (h : ViewX s s') (q0 : Path) : FrameX q0 s s' := fun q _ => h q

theorem FrameX.after {s s1 s2 : St} {q0 : Path} (h1 : ViewX s s1) (h2 : FrameX q0 s1 s2) : FrameX q0 s s2 :=
  fun q hq => (h2 q hq).trans (h1 q)

def FrameD (d d' : Disk) (q0 : Path) : Prop :=
  ∀ q, q0.isSuffixOf q = false → (merge d' q).dropX = (merge d q).dropX

theorem FrameD.refl (d : Disk) (q0 : Path) : FrameD d d q0 := fun _ _ => rfl

def ViewD (d d' : Disk) : Prop := ∀ q, (merge d' q).dropX = (merge d q).dropX

theorem ViewD.refl (d : Disk) : ViewD d d := fun _ => rfl

theorem ViewD.frame {d d' : Disk} (h : ViewD d d') (q0 : Path) : FrameD d d' q0 := fun q _ => h q

theorem FrameX.toD {q0 : Path} {s s' : St} (h : FrameX q0 s s') : FrameD s.disk s'.disk q0 := h

theorem ViewX.toD {s s' : St} (h : ViewX s s') (q0 : Path) : FrameD s.disk s'.disk q0 := fun q _ => h q

/-- what `create_upper_dir(p)` guarantees when it succeeds from `s` -/
structure CUD (p : Path) (s s' : St) : Prop where
  cons : Consistent s'
  up : UpAt p s'
  lowers : s'.disk.lowers = s.disk.lowers
  upper : s'.disk.upper.isSome
  frame : ∀ p', ¬ p'.isSuffixOf p → s'.mem p' = s.mem p'
  keep : ∀ p' m0, s.mem p' = some m0 → ∃ m1, s'.mem p' = some m1 ∧ m1.loaded = m0.loaded ∧ m1.kids = m0.kids
  stat : StatKept s s'
  /-- the node itself and every ancestor directory: what the upper entry shows afterwards is
      what the node showed before (type, mode, content, target), up to the xattr -/
  anc : ∀ q, q.isSuffixOf p = true → ImgKept q s s'
  /-- copying a DIRECTORY up changes the union nowhere (up to xattrs) -/
  view : DirNode p s → ViewX s s'

/-- what `create_upper_dir` guarantees when it fails from `s` -/
structure CUDE (s s' : St) : Prop where
  cons : Consistent s'
  lowers : s'.disk.lowers = s.disk.lowers
  upper : s'.disk.upper.isSome
  view : ViewX s s'

theorem dirNode_of_child {s : St} (hc : Consistent s) {n : Name} {pp : Path} {m : MNode}
    (hm : s.mem (n :: pp) = some m) : DirNode pp s := by
  intro m0 r0 rest0 hm0 hr0
  cases hdd : (s.disk.statReal r0).isDir with
  | true => rfl
  | false =>
    have hnk := hc.listed hm0 hm
    rw [(nondir_no_kids hc hm0 hr0 hdd).1] at hnk
    cases hnk

theorem CUD.refl {s : St} (hc : Consistent s) {p : Path} {m : MNode} (hm : s.mem p = some m)
    (hmu : m.inUpper = true) : CUD p s s := by
  obtain ⟨L, hup⟩ := exists_upper hc hm hmu
  refine ⟨hc, ⟨m, hm, hmu⟩, rfl, by rw [hup]; rfl, fun _ _ => rfl, fun p' m0 h => ⟨m0, h, rfl, rfl⟩, StatKept.refl s,
    fun q hq m0 r0 rest0 hm0 hr0 _ => ?_, fun _ => ViewX.refl s⟩
  -- an ancestor of a node in the upper layer is in the upper layer: its first real inode is its upper entry
  have hmqu := ancestors_inUpper hc hq hm hmu hm0
  rw [statReal_upper hc hup hm0 hmqu hr0, nodeAt_zero hup]

theorem real_lower {s : St} (hc : Consistent s) {p : Path} {m : MNode} (hm : s.mem p = some m)
    {r : Real} {rest : List Real} (hr : m.reals = r :: rest) (hmu : m.inUpper = false) : r.layer ≠ 0 := by
  intro h0
  rw [MNode.inUpper_cons hr, (real_inUpper_iff hc hm (by simp [hr])).2 h0] at hmu
  cases hmu

/-- copy-up along a path: the parent first (`h1`, from `s` to `s1`), then the lower-only node `n :: pp` itself, given by
    the pointwise description of the state `s'` that second step ends in: the forest changed at `n :: pp` only, the upper
    layer `L'` shows there what the node's first real inode showed, keeps the entries of the ancestors and has elsewhere
    entries of the kind `L` had -/
theorem CUD.extend {s s1 s' : St} {n : Name} {pp : Path} (h1 : CUD pp s s1) (hc : Consistent s) {m : MNode}
    (hm : s.mem (n :: pp) = some m) {r : Real} {rest : List Real} (hr : m.reals = r :: rest) (hrl : r.layer ≠ 0)
    (hc' : Consistent s') {L L' : Layer} (hup : s1.disk.upper = some L) (hd : s'.disk = s1.disk.setLayer 0 L') {m' : MNode}
    (hmem : s'.mem = s1.mem.set (n :: pp) (some m')) (hmu' : m'.inUpper = true) (hlo : m'.loaded = m.loaded)
    (hk : m'.kids = m.kids) (hsh : ∀ q, q ≠ n :: pp → sameShape (L' q) (L q))
    (hanc : ∀ q, q.isSuffixOf pp = true → L' q = L q)
    (hdir : (L' (n :: pp)).isDir = (s.disk.statReal r).isDir) (hnw : (L' (n :: pp)).isWhiteout = false)
    (himg : m.whiteout = false → (L' (n :: pp)).view.dropX = (s.disk.statReal r).view.dropX)
    (hview : DirNode (n :: pp) s → ViewX s1 s') : CUD (n :: pp) s s' := by
  have hm1 : s1.mem (n :: pp) = some m := (h1.frame _ (by simp [not_below_parent])).trans hm
  have hst1 : s1.disk.statReal r = s.disk.statReal r := nodeAt_of_lowers h1.lowers hrl _
  have hm' : s'.mem (n :: pp) = some m' := by rw [hmem]; exact if_pos rfl
  have hold : ∀ {p'}, p' ≠ n :: pp → s'.mem p' = s1.mem p' := fun h => by rw [hmem]; exact if_neg h
  have h0 : ∀ q, s'.disk.nodeAt 0 q = L' q := fun q => by rw [hd, nodeAt_setLayer0, if_pos rfl]
  refine ⟨hc', ⟨m', hm', hmu'⟩, (by rw [hd]; rfl : s'.disk.lowers = s1.disk.lowers).trans h1.lowers, by rw [hd]; rfl,
    fun p' hp' => ?_, fun p' m0 hm0 => ?_, h1.stat.trans fun p' m0 r0 rest0 hm0 hr0 => ?_,
    fun q hq m0 r0 rest0 hm0 hr0 hw0 => ?_, fun hdn => (h1.view (dirNode_of_child hc hm)).trans (hview hdn)⟩
  · exact (hold fun h => hp' (by rw [h]; exact below_self _)).trans (h1.frame p' fun hsuf => hp' (below_of_below n hsuf))
  · obtain ⟨m1, hm1', hl1, hk1⟩ := h1.keep p' m0 hm0
    by_cases hp' : p' = n :: pp
    · subst hp'
      rw [hm] at hm0; cases hm0
      exact ⟨m', hm', hlo, hk⟩
    · exact ⟨m1, (hold hp').trans hm1', hl1, hk1⟩
  · -- from `s1` to `s'`
    by_cases hp' : p' = n :: pp
    · subst hp'
      rw [hm1] at hm0; cases hm0
      rw [hr] at hr0; cases hr0
      obtain ⟨r1, _, hl1, hp1, _, _, rest1, hr1⟩ := upper_head hc' hm' hmu'
      refine ⟨m', r1, rest1, hm', hr1, ?_, fun _ => ?_⟩ <;> rw [Disk.statReal, hl1, hp1, h0]
      · rw [hst1]; exact hdir
      · exact hnw
    · have hsame : sameShape (s'.disk.statReal r0) (s1.disk.statReal r0) := by
        rw [Disk.statReal, Disk.statReal, (reals_shape h1.cons hm0 r0 (by simp [hr0])).1, hd, nodeAt_setLayer0]
        split
        · rename_i hl0
          rw [hl0, nodeAt_zero hup]; exact hsh p' hp'
        · exact sameShape_refl _
      exact ⟨m0, r0, rest0, (hold hp').trans hm0, hr0, hsame.2.2.1, fun h => hsame.2.1.trans h⟩
  · rw [h0]
    by_cases hqe : q = n :: pp
    · subst hqe
      rw [hm] at hm0; cases hm0
      rw [hr] at hr0; cases hr0
      exact himg hw0
    · have hq' := below_cons hq (Ne.symm hqe)
      rw [hanc q hq', ← nodeAt_zero hup]
      exact h1.anc q hq' m0 r0 rest0 hm0 hr0 hw0

/-- the last three statements of `create_upper_dir(n :: pp)` for a lower-only directory node, after the copy-up `h1` of
    its parent -/
theorem cudStep_spec {s s1 : St} {n : Name} {pp : Path} (h1 : CUD pp s s1) (hc : Consistent s) {m : MNode}
    (hm : s.mem (n :: pp) = some m) (hmu : m.inUpper = false)
    {r : Real} {rest : List Real} (hr : m.reals = r :: rest) (hdir : (s.disk.statReal r).isDir = true)
    {E : St → Prop} : Outcome (cudStep n pp (s.disk.statReal r).mode s1) (fun _ s' => CUD (n :: pp) s s') E := by
  have hrl := real_lower hc hm hr hmu
  have hc1 := h1.cons
  obtain ⟨pm, hpm, hpu⟩ := h1.up
  have hm1 : s1.mem (n :: pp) = some m := (h1.frame _ (by simp [not_below_parent])).trans hm
  have hst1 : s1.disk.statReal r = s.disk.statReal r := nodeAt_of_lowers h1.lowers hrl _
  obtain ⟨L, hup⟩ := exists_upper hc1 hpm hpu
  obtain ⟨pr, hpr, hprl, hprp, hpru, _⟩ := upper_head hc1 hpm hpu
  obtain ⟨hdir0, habs, _⟩ := lowerNode_upper hc1 hup n pp hpm hm1 hpu hmu
  generalize hmode : (s.disk.statReal r).mode = mode
  obtain ⟨s2, h2, hd2, hm2⟩ := mkNode_ok' (s := s1) .mkdir n (.dir mode 0 0) hpru (by rw [hprl]; exact hup)
    (by rw [hprp]; exact hMk_ok _ hdir0 habs)
  obtain ⟨s3, h3, hd3, hm3⟩ := addUpperInode_ok' (s := s2) (childReal pr n) false (by rw [hm2]; exact hm1)
  have hdisk : s3.disk = s1.disk.setLayer 0 (L.set (n :: pp) (.dir mode 0 0)) := by rw [hd3, hd2, hprl]
  have hmem : s3.mem = s1.mem.set (n :: pp) (some (addUpperNode m (childReal pr n) false)) := by rw [hm3, hm2]
  obtain ⟨hc3, hview⟩ := upperDir_consistent hc1 hup n pp hpm hm1 hpu hmu hr (by rw [hst1]; exact hdir) mode
    (by rw [hst1, hmode]) hprl hprp hdisk hmem
  have hrun : cudStep n pp mode s1 = .ok () s3 := by
    unfold cudStep
    rw [bind_ok (getUpperReal_ok hpm hpr), bind_ok h2]
    exact h3
  rw [hrun]
  exact CUD.extend h1 hc hm hr hrl hc3 hup hdisk hmem (MNode.inUpper_cons (r := childReal pr n) rfl) rfl rfl
    (fun q hq => by rw [L.set_ne _ hq]; exact sameShape_refl _)
    (fun q hq => L.set_ne _ fun h => by rw [h, not_below_parent] at hq; cases hq)
    (by rw [L.set_self, hdir]; rfl) (by rw [L.set_self]; rfl)
    (fun _ => by rw [L.set_self, ← hmode]; exact dir_mode_view hdir)
    fun _ => hview

/-- `stat64` of a consistent node answers the attributes of its first real inode, ENOENT without one -/
theorem Outcome.nodeStat {β : Type} {s : St} (hc : Consistent s) {p : Path} {m : MNode} (hm : s.mem p = some m)
    {k : Node → M β} {Q : β → St → Prop} {E : St → Prop} (hE : E s)
    (hk : ∀ r rest, m.reals = r :: rest → Outcome (k (s.disk.statReal r) s) Q E) :
    Outcome ((Fbr.Ovl.nodeStat m >>= k) s) Q E := by
  have hst := nodeStat_eq hc hm
  cases hr : m.reals with
  | nil => rw [hr] at hst; rw [bind_err hst]; exact hE
  | cons r rest => rw [hr] at hst; rw [bind_ok hst]; exact hk r rest hr

/-- `if !parent.in_upper_layer() { create_upper_dir(parent) }`, given what `create_upper_dir` does -/
theorem whenNotUpper_spec {s : St} (hc : Consistent s) {pp : Path} {pm : MNode} (hpm : s.mem pp = some pm)
    {E : St → Prop} (h : Outcome (createUpperDir pp s) (fun _ s' => CUD pp s s') E) :
    Outcome (whenM (!pm.inUpper) (createUpperDir pp) s) (fun _ s' => CUD pp s s') E := by
  cases hpu : pm.inUpper with
  | true => exact CUD.refl hc hpm hpu
  | false => exact h

theorem createUpperDir_spec : ∀ (p : Path) (s : St), Consistent s →
    Outcome (createUpperDir p s) (fun _ s' => CUD p s s') (fun s' => Consistent s' ∧ ViewX s s')
  | p, s, hc => by
    have hE : Consistent s ∧ ViewX s s := ⟨hc, ViewX.refl s⟩
    rw [createUpperDir_eq]
    cases hm : s.mem p with
    | none => rw [bind_err (getNode_err hm)]; exact hE
    | some m =>
      rw [bind_ok (getNode_ok hm)]
      refine Outcome.nodeStat hc hm hE fun r rest hr => ?_
      cases hd : (s.disk.statReal r).isDir with
      | false => exact hE
      | true =>
        cases hmu : m.inUpper with
        | true => exact CUD.refl hc hm hmu
        | false =>
          cases p with
          | nil => exact hE
          | cons n pp =>
            obtain ⟨pm, hpm, _⟩ := hc.reach n pp m hm
            simp only [Bool.not_true, Bool.false_eq_true, if_false]
            rw [bind_ok (getNode_ok hpm)]
            refine (whenNotUpper_spec hc hpm (createUpperDir_spec pp s hc)).bind fun _ s1 h1 => ?_
            exact cudStep_spec h1 hc hm hmu hr hd

theorem upperCopy_shape (st : Node) (id : Nat) :
    (upperCopy st id).isDir = false ∧ (upperCopy st id).isWhiteout = false ∧ (upperCopy st id).isAbsent = false := by
  cases st <;> simp [upperCopy, Node.isDir, Node.isWhiteout, Node.isAbsent]

theorem parentUpperReal_spec {s : St} (hc : Consistent s) (pp : Path)
    {pm : MNode} (hpm : s.mem pp = some pm) :
    Outcome (parentUpperReal pp s)
      (fun pr s1 => CUD pp s s1 ∧
        ∃ pm1, s1.mem pp = some pm1 ∧ pm1.inUpper = true ∧ pm1.upperReal = some pr)
      (fun s1 => Consistent s1 ∧ ViewX s s1) := by
  unfold parentUpperReal
  rw [bind_ok (getNode_ok hpm)]
  refine (whenNotUpper_spec hc hpm (createUpperDir_spec pp s hc)).bind fun _ s1 h1 => ?_
  obtain ⟨pm1, hpm1, hpu1⟩ := h1.up
  obtain ⟨pr, _, _, _, hpr⟩ := upperReal_of_inUpper hpu1
  rw [getUpperReal_ok hpm1 hpr]
  exact ⟨h1, pm1, hpm1, hpu1, hpr⟩

/-- `copy_regfile_up` writes the content into the new upper file at `q` (the other kinds have none to
    copy): that succeeds, keeps the kind of every entry and every directory as it is, and the new entry
    then shows what `st` shows, up to the xattr -/
theorem copyContent_eval {s : St} {L : Layer} (hL : s.disk.upper = some L) (st : Node) (id : Nat) {ri : Real}
    {q : Path} (hril : ri.layer = 0) (hrip : ri.path = q) (hq : L q = upperCopy st id) :
    ∃ s' L', copyContent st ri s = .ok () s' ∧ s'.disk = s.disk.setLayer 0 L' ∧ s'.mem = s.mem ∧
      (∀ p, sameShape (L' p) (L p)) ∧ (∀ p, (L p).isDir = true → L' p = L p) ∧
      (st.isDir = false → st.isAbsent = false → st.isWhiteout = false → (L' q).view.dropX = st.view.dropX) := by
  cases st
  case file fid fmode fc fx =>
    obtain ⟨L', hwr⟩ : ∃ L', hWrite L q 0 fc = .ok L' := by simp [hWrite, hq, upperCopy]
    obtain ⟨s', h, hd, hm⟩ := layerCall_ok' (f := fun L => hWrite L q 0 fc) Method.write (i := 0) hL hwr
    have hac := attrCall_hWrite q 0 fc L L' hwr
    refine ⟨s', L', by simp only [copyContent, hril, hrip]; exact h, hd, hm, hac.1, fun p hp => ?_, fun _ _ _ => ?_⟩
    · simp only [hWrite, hq, upperCopy] at hwr
      cases hwr
      exact updFile_dir _ _ _ p hp
    · rw [hac.2, hq]
      simp [upperCopy, writeN, pwrite, Node.view, VNode.dropX]
  -- the other kinds: nothing is written
  all_goals refine ⟨s, L, rfl, setLayer0_self hL, rfl, fun _ => sameShape_refl _, fun _ _ => rfl, fun hd ha hw => ?_⟩
  case absent => cases ha
  case whiteout => cases hw
  case symlink t => rw [hq]; rfl
  case other oid omode => rw [hq]; rfl
  case dir dm dop dx => cases hd

theorem copyFileUp_spec {s : St} (hc : Consistent s) (n : Name) (pp : Path)
    {m : MNode} (hm : s.mem (n :: pp) = some m) (hmu : m.inUpper = false)
    {r : Real} {rest : List Real} (hr : m.reals = r :: rest) (hnd : (s.disk.statReal r).isDir = false) :
    Outcome (copyFileUp (s.disk.statReal r) pp n s) (fun _ s' => CUD (n :: pp) s s') (fun s' => Consistent s' ∧ ViewX s s') := by
  obtain ⟨pm, hpm, _⟩ := hc.reach n pp m hm
  have hrl := real_lower hc hm hr hmu
  unfold copyFileUp
  refine (parentUpperReal_spec hc pp hpm).bind fun pr s1 ⟨h1, pm1, hpm1, hpu1, hpr1⟩ => ?_
  have hc1 := h1.cons
  have hm1 : s1.mem (n :: pp) = some m := (h1.frame _ (by simp [not_below_parent])).trans hm
  have hst1 : s1.disk.statReal r = s.disk.statReal r := nodeAt_of_lowers h1.lowers hrl _
  obtain ⟨L, hup⟩ := exists_upper hc1 hpm1 hpu1
  obtain ⟨pr', hpr', hprl, hprp, hpru, _⟩ := upper_head hc1 hpm1 hpu1
  rw [hpr1] at hpr'; cases hpr'
  have hri := childReal_eq hprl hprp n
  obtain ⟨hdir0, habs, _⟩ := lowerNode_upper hc1 hup n pp hpm1 hm1 hpu1 hmu
  -- freshId, then the creation of the upper copy `X`
  generalize hX : upperCopy (s.disk.statReal r) s1.nextId = X
  obtain ⟨hXd, hXw, hXa⟩ : X.isDir = false ∧ X.isWhiteout = false ∧ X.isAbsent = false := by
    rw [← hX]; exact upperCopy_shape _ _
  obtain ⟨s1', hfresh, hd1', hm1'⟩ := freshId_ok' s1
  rw [bind_ok hfresh, hX]
  obtain ⟨s2, hmkn, hd2, hm2⟩ := mkNode_ok' (s := s1') (copyMethod (s.disk.statReal r)) n X hpru
    (by rw [hprl, hd1']; exact hup) (by rw [hprp]; exact hMk_ok X hdir0 habs)
  rw [bind_ok hmkn]
  have hdisk2 : s2.disk = s1.disk.setLayer 0 (L.set (n :: pp) X) := by rw [hd2, hd1', hprl]
  -- the content, then `add_upper_inode(ri, true)`
  obtain ⟨s3, L3, hcc, hd3, hm3, hsh, hdirs, himg⟩ := copyContent_eval (s := s2) (L := L.set (n :: pp) X)
    (by rw [hdisk2]; rfl) (s.disk.statReal r) s1.nextId (ri := childReal pr n) (q := n :: pp)
    (by rw [hri]) (by rw [hri]) (by rw [L.set_self, hX])
  rw [bind_ok hcc]
  obtain ⟨s4, hadd, hd4, hm4⟩ := addUpperInode_ok' (s := s3) (childReal pr n) true (by rw [hm3, hm2, hm1']; exact hm1)
  rw [hadd]
  have hdisk4 : s4.disk = s1.disk.setLayer 0 L3 := by rw [hd4, hd3, hdisk2]; rfl
  have hmem4 : s4.mem = s1.mem.set (n :: pp) (some (addUpperNode m (childReal pr n) true)) := by
    rw [hm4, hm3, hm2, hm1']
  -- the cache is valid with the empty copy in place, and writing changes the kind of no entry
  have hnk := nondir_no_kids hc1 hm1 hr (by rw [hst1]; exact hnd)
  have hA :=
    (entry_put (s' := { s1 with disk := s1.disk.setLayer 0 (L.set (n :: pp) X), mem := s4.mem }) hc1 hup n pp X hpm1 hpu1 (hc1.parent_loaded hm1 hpm1) hdir0 (fun _ _ => rfl) (hc1.trees 0 L hup)
      (leaf_of_nondir (hc1.trees 0 L hup) (Node.not_dir_of_absent habs)) hXa (Or.inl (by rw [hXd]; rfl)) hprl hprp
      (m' := addUpperNode m (childReal pr n) true) (by rw [hXw]; rfl) hnk.1 hXw.symm (fun _ => hXd)
      (fun x => by by_cases hx : x = n <;> simp [hx, hc1.listed hpm1 hm1]) rfl
      (hmem4.trans (set_eq_grafted hc1 hpm1 hnk.2 _))).1
  have hc4 : Consistent s4 :=
    (consistent_sameShape hA (L := L.set (n :: pp) X) rfl hsh []).congr
      (by rw [hd4, hd3, hdisk2]) rfl
  -- the upper entries of the ancestors are directories, which the write leaves alone
  have hancL : ∀ q, q.isSuffixOf pp = true → L3 q = L q := by
    intro q hq
    have hqe : q ≠ n :: pp := fun h => by rw [h, not_below_parent] at hq; cases hq
    have hLq : (L q).isDir = true := dir_of_below (hc1.trees 0 L hup) hq hdir0
    rw [hdirs q (by rw [L.set_ne X hqe]; exact hLq), L.set_ne X hqe]
  have hshq := hsh (n :: pp)
  rw [L.set_self] at hshq
  refine CUD.extend h1 hc hm hr hrl hc4 hup hdisk4 hmem4 (MNode.inUpper_cons (r := childReal pr n) rfl) rfl rfl
    (fun q hq => by rw [← L.set_ne X hq]; exact hsh q) hancL (by rw [hshq.2.2.1, hXd, hnd])
    (by rw [hshq.2.1, hXw]) (fun hmw => ?_) fun hdn => absurd (hdn m r rest hm hr) (by rw [hnd]; simp)
  exact himg hnd (head_present hc hm hr) (by rw [← whiteout_eq_stat hc hm hr]; exact hmw)

theorem copyNodeUp_spec (p : Path) (s : St) (hc : Consistent s) :
    Outcome (copyNodeUp p s) (fun _ s' => CUD p s s') (fun s' => Consistent s' ∧ ViewX s s') := by
  unfold copyNodeUp
  cases hm : s.mem p with
  | none => rw [bind_err (getNode_err hm)]; exact ⟨hc, ViewX.refl s⟩
  | some m =>
    rw [bind_ok (getNode_ok hm)]
    by_cases hmu : m.inUpper = true
    · simp only [hmu, if_true]
      exact CUD.refl hc hm hmu
    · simp only [hmu, Bool.false_eq_true, if_false]
      simp only [Bool.not_eq_true] at hmu
      refine Outcome.nodeStat hc hm ⟨hc, ViewX.refl s⟩ fun r rest hr => ?_
      by_cases hd : (s.disk.statReal r).isDir = true
      · simp only [hd, if_true]
        exact createUpperDir_spec p s hc
      · simp only [hd, Bool.false_eq_true, if_false]
        cases p with
        | nil => exact ⟨hc, ViewX.refl s⟩
        | cons n pp =>
          simp only [Bool.not_eq_true] at hd
          exact copyFileUp_spec hc n pp hm hmu hr hd

end Fbr.Ovl
