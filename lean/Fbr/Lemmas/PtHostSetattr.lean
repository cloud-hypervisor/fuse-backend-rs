/-
  Fbr.Lemmas.PtHostSetattr — SETATTR without a handle when every host call succeeds (`okAns`):
  what each block of `setattr` returns and which calls it makes, block by block (mode, owner and times are
  optional calls, `runFn_optCall`).
-/
import Fbr.Lemmas.PtHostBits
import Fbr.Lemmas.PtHostRun

namespace Fbr.PtHost
open Fbr.Host

variable {ans : HCall → HAns}

theorem runFn_unitCall (c : HCall) (s : PtState) (h : ans c = .ok) :
    (unitCall c s).runFn ans = ((.ok (), s), [c]) := by
  simp [unitCall, bind_def, M.bind', M.sys, Prog.bind, Prog.runFn, h, pure_def, M.pure']

theorem runFn_inodeData {s : PtState} {i : Nat} {d : InodeData} (hd : s.get i = some d) :
    (inodeData i s).runFn ans = ((.ok d, s), []) := by
  simp [inodeData, bind_def, M.bind', M.get, M.ofOption, hd, M.pure', Prog.bind, Prog.runFn]

theorem runFn_getFile {d : InodeData} {f : Fd} (hf : d.handle = .file f) (s : PtState) :
    (getFile d s).runFn ans = ((.ok f, s), []) := by
  simp [getFile, hf, pure_def, M.pure', Prog.runFn]

theorem runFn_setattrData (cfg : Cfg) (i : Nat) (f : Fd) (s : PtState) :
    (setattrData cfg i none f s).runFn ans = ((.ok (.procPath f), s), []) := by
  unfold setattrData; cases cfg.noOpen <;> rfl

/-- a block that is one optional call: `if cond { call()?; }` -/
theorem runFn_optCall (cond : Bool) (c : HCall) (s : PtState) (h : ans c = .ok) :
    ((if cond then unitCall c else pure () : M Unit) s).runFn ans = ((.ok (), s), if cond then [c] else []) := by
  cases cond with
  | true => exact runFn_unitCall c s h
  | false => rfl

variable (st : Stat)

/-- `100`: the descriptor `okAns` answers every re-open with -/
theorem runFn_openInode {cfg : Cfg} {s : PtState} {i : Nat} {d : InodeData} {f : Fd} (hd : s.get i = some d)
    (hf : d.handle = .file f) (hsafe : isSafeInode d.mode = true) (flags : Nat) :
    (openInode cfg i flags s).runFn (okAns st) =
      ((.ok 100, s), [.reopen f (reopenFlags (openInodeFlags cfg flags)) d.mode]) := by
  simp [openInode, bind_def, M.bind', M.get, M.ofOption, hd, hf, hsafe, M.pure', Prog.bind, Prog.runFn, M.sys, fdOf, okAns,
    pure_def]

theorem runFn_setattrSize {cfg : Cfg} {s : PtState} {i : Nat} {d : InodeData} {f : Fd} (hd : s.get i = some d)
    (hf : d.handle = .file f) (hsafe : isSafeInode d.mode = true) (hk : cfg.killprivV2 = false) (v size : Nat) :
    (setattrSize cfg i (.procPath f) v size s).runFn (okAns st) =
      ((.ok (), s), if has v FATTR_SIZE then
        [.reopen f (reopenFlags (openInodeFlags cfg (O_NONBLOCK ||| O_RDWR))) d.mode, .ftruncate 100 size] else []) := by
  unfold setattrSize; split
  · have hbody : ((openInode cfg i (O_NONBLOCK ||| O_RDWR) >>= fun f => unitCall (.ftruncate f size)) s).runFn (okAns st) =
        ((.ok (), s), [.reopen f (reopenFlags (openInodeFlags cfg (O_NONBLOCK ||| O_RDWR))) d.mode, .ftruncate 100 size]) := by
      rw [runFn_bind_ok (runFn_openInode st hd hf hsafe _), runFn_unitCall _ s rfl]; rfl
    simp only [withKillpriv, hk, Bool.false_and, Bool.false_eq_true, if_false]
    rw [runFn_bind_ok (st' := s) (a := false) (cs := []) rfl]
    show ((M.try' _ >>= _) s).runFn _ = _
    rw [runFn_bind_ok (st' := s) (a := .ok ()) (by unfold M.try'; rw [runFn_bind, hbody]; rfl)]
    rfl
  · rfl

theorem runFn_doGetattr {cfg : Cfg} {s : PtState} {i : Nat} {d : InodeData} {f : Fd} (hd : s.get i = some d)
    (hf : d.handle = .file f) :
    (doGetattr cfg i none s).runFn (okAns st) = ((.ok (.attr st cfg.attrTimeout), s), [.fstatat f [] STATX_FLAGS]) := by
  unfold doGetattr
  rw [runFn_bind_ok (runFn_inodeData hd)]
  have : (statInode d s).runFn (okAns st) = ((.ok st, s), [.fstatat f [] STATX_FLAGS]) := by
    unfold statInode
    rw [runFn_bind_ok (runFn_getFile hf s)]
    simp [statFd, bind_def, M.bind', M.sys, Prog.bind, Prog.runFn, okAns, statOf, pure_def, M.pure']
  cases cfg.noOpen <;> (simp only [Bool.not_true, Bool.not_false]; rw [runFn_bind_ok this]; rfl)

end Fbr.PtHost
