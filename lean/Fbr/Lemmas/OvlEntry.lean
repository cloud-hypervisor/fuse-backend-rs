/-
  One entry `n :: pp` of the upper layer appears or goes, below a parent node that is in the upper
  layer.  Copy-up, one level: a directory that exists only in lower layers gets an empty upper
  directory in front of its real inodes (`upperDir_consistent`).  What the code keeps at `n :: pp` once
  the upper layer has changed inside the subtree there (`expReals_entry`): a new upper entry where
  nothing is visible (no node, or a whiteout node) is kept alone (`newEntry_expReals`), so that a
  childless node with that one real inode is what the forest must have there (`entry_put`: the
  fresh node of `insert_child`, or the node of a lower-only file or of a whiteout after
  `add_upper_inode(ri, true)`; with the cache valid, the union then shows the entry's view at the
  path and nothing below it, `Leaves`, and is what it was outside the subtree); the upper entry of a
  node removed: when the name may go without a whiteout (`removed_needsNode`).
-/
import Fbr.Lemmas.OvlFrame

namespace Fbr.Ovl

/-- a node that offers no entry has no children -/
theorem no_entries_no_kids {s : St} (hc : Consistent s) {p : Path} {m : MNode} (hm : s.mem p = some m)
    (htd : takeDirs s.disk m.reals = []) : m.kids = [] ∧ ∀ c, s.mem (c :: p) = none := by
  have hloc : ∀ c, expReals s.disk (c :: p) = [] := fun c => by
    rw [expReals_child (hc.reals p m hm) c, htd]; rfl
  have hk : m.kids = [] := by
    cases hlo : m.loaded with
    | false => exact hc.unloaded p m hm hlo
    | true =>
      cases hks : m.kids with
      | nil => rfl
      | cons c ks =>
        exact absurd (hloc c) ((hc.kidsLoaded p m hm hlo c).1 (by rw [hks]; simp))
  exact ⟨hk, hc.no_child hm hk⟩

theorem nondir_no_kids {s : St} (hc : Consistent s) {p : Path} {m : MNode} (hm : s.mem p = some m)
    {r : Real} {rest : List Real} (hr : m.reals = r :: rest) (hnd : (s.disk.statReal r).isDir = false) :
    m.kids = [] ∧ ∀ c, s.mem (c :: p) = none :=
  no_entries_no_kids hc hm (by rw [hr]; exact takeDirs_nondir rest hnd)

theorem parent_isDir_of_kid {s : St} (hc : Consistent s) {L : Layer} (hup : s.disk.upper = some L) {pp : Path}
    {pm m : MNode} (hpm : s.mem pp = some pm) (hpu : pm.inUpper = true) {n : Name} (hm : s.mem (n :: pp) = some m) :
    (L pp).isDir = true := by
  obtain ⟨r, _, _, _, _, _, rest, hr⟩ := upper_head hc hpm hpu
  cases hd : (L pp).isDir with
  | true => rfl
  | false =>
    have hn := hc.listed hpm hm
    rw [(nondir_no_kids hc hpm hr (by rw [statReal_upper hc hup hpm hpu hr]; exact hd)).1] at hn
    cases hn

/-- a lower-only node below an upper directory: the upper layer has a directory at `pp` and nothing at
    `n :: pp` (an entry there would head the node's real inodes) -/
theorem lowerNode_upper {s : St} (hc : Consistent s) {L : Layer} (hup : s.disk.upper = some L) (n : Name) (pp : Path)
    {pm m : MNode} (hpm : s.mem pp = some pm) (hm : s.mem (n :: pp) = some m)
    (hpu : pm.inUpper = true) (hmu : m.inUpper = false) :
    (L pp).isDir = true ∧ (L (n :: pp)).isAbsent = true ∧
      ∃ tl, dirsIdx s.disk pp (expIdx s.disk pp) = 0 :: tl ∧ ∀ i ∈ tl, i ≠ 0 := by
  have hdir := parent_isDir_of_kid hc hup hpm hpu hm
  obtain ⟨t0, ht0⟩ := inUpper_stack hc hpm hpu
  obtain ⟨tl, htl, htl_pos⟩ := dirs_upper_first ht0 (by rw [nodeAt_zero hup]; exact hdir)
  refine ⟨hdir, ?_, tl, htl, htl_pos⟩
  cases ha : (L (n :: pp)).isAbsent with
  | true => rfl
  | false =>
    obtain ⟨t', ht'⟩ := stackWith_present (d := s.disk) (n := n) (pp := pp) (lowerCands s.disk n pp tl)
      (show (s.disk.nodeAt 0 (n :: pp)).isAbsent = false by rw [nodeAt_zero hup]; exact ha)
    rw [(inUpper_iff_stack hc hm).2 ⟨t', (expIdx_below_upper n pp htl).trans ht'⟩] at hmu
    cases hmu

/-- the real inodes of a node that is not in the upper layer are exactly those of the kept layers, all of them lower -/
theorem lowerNode_stack {s : St} (hc : Consistent s) {p : Path} {m : MNode} (hm : s.mem p = some m)
    (hmu : m.inUpper = false) {r : Real} {rest : List Real} (hr : m.reals = r :: rest) :
    ∃ j t, expIdx s.disk p = j :: t ∧ j ≠ 0 ∧ r = realOf s.disk p j ∧
      m.reals = (expIdx s.disk p).map (realOf s.disk p) := by
  rcases realsOK_forms hc.roots (hc.reals _ m hm) with h | ⟨i, _, hi0, h⟩
  · cases he : expIdx s.disk p with
    | nil => rw [he, hr] at h; cases h
    | cons j t =>
      rw [he, hr] at h
      simp only [List.map_cons, List.cons.injEq] at h
      refine ⟨j, t, rfl, ?_, h.1, by rw [hr, h.1, h.2]; rfl⟩
      intro hj
      have : m.inUpper = true := by rw [MNode.inUpper_cons hr, h.1, hj]; rfl
      rw [this] at hmu; cases hmu
  · have : m.inUpper = true := by rw [MNode.inUpper_cons h, hi0]; rfl
    rw [this] at hmu; cases hmu

/-- the state after `mkdir` of the upper directory and `add_upper_inode(ri, false)` -/
theorem upperDir_consistent {s s' : St} (hc : Consistent s) {L : Layer} (hup : s.disk.upper = some L)
    (n : Name) (pp : Path) {pm m : MNode}
    (hpm : s.mem pp = some pm) (hm : s.mem (n :: pp) = some m)
    (hpu : pm.inUpper = true) (hmu : m.inUpper = false)
    {r : Real} {rest : List Real} (hr : m.reals = r :: rest) (hdir : (s.disk.statReal r).isDir = true)
    (mode : Nat) (hmode : mode = (s.disk.statReal r).mode) {pr : Real} (hprl : pr.layer = 0) (hprp : pr.path = pp)
    (hd : s'.disk = s.disk.setLayer 0 (L.set (n :: pp) (.dir mode 0 0)))
    (hmem : s'.mem = s.mem.set (n :: pp) (some (addUpperNode m (childReal pr n) false))) :
    Consistent s' ∧ ∀ q, (merge s'.disk q).dropX = (merge s.disk q).dropX := by
  obtain ⟨j, t, hej, hj0, hrj, hmex⟩ := lowerNode_stack hc hm hmu hr
  obtain ⟨hdir0, habs, tl, htl, htl_pos⟩ := lowerNode_upper hc hup n pp hpm hm hpu hmu
  rw [← nodeAt_zero hup] at hdir0 habs
  have hu : s.disk.upper.isSome := by rw [hup]; rfl
  have hjdir : (s.disk.nodeAt j (n :: pp)).isDir = true := by
    rw [hrj] at hdir; exact hdir
  have ht_pos : ∀ i ∈ expIdx s.disk (n :: pp), i ≠ 0 := by
    intro i hi
    rw [hej] at hi
    rcases List.mem_cons.1 hi with hi | hi
    · rw [hi]; exact hj0
    · exact tail_pos (expIdx_sorted s.disk (n :: pp)) hej i hi
  have hbelow : ∀ c, (s.disk.nodeAt 0 (c :: n :: pp)).isAbsent = true := fun c => by
    rw [nodeAt_zero hup] at habs ⊢
    exact leaf_of_nondir (hc.trees 0 L hup) (Node.not_dir_of_absent habs) c
  have hstep : HostStep L (L.set (n :: pp) (.dir mode 0 0)) := by
    rw [nodeAt_zero hup] at hdir0 habs
    exact hostStep_mk L pp n _ hdir0 habs
  -- the kept stacks after the change: one more layer at the node, the old ones below it
  have hview := merge_upperDir hu mode htl htl_pos habs hbelow hej hjdir (by rw [hmode, hrj]; rfl)
  have hself := expIdx_upperDir_self hu mode htl htl_pos habs hej hjdir
  have hkid := expIdx_upperDir_below hu mode hself ht_pos hbelow
  have hroots : (s.disk.setUpper (n :: pp) (.dir mode 0 0)).RootsOK := by
    rw [setUpper_eq hup]; exact (wf_setLayer0 hup hc.roots hc.trees hstep).1
  rw [← setUpper_eq hup] at hd
  refine ⟨(consistent_setNode hc hup n pp (.dir mode 0 0) (m' := addUpperNode m (childReal pr n) false)
    hpm hm rfl rfl hstep (Or.inl ?_) (fun l hl => ?_) rfl (List.cons_ne_nil _ _) []).congr hd hmem, fun q => by rw [hd]; exact hview q⟩
  · show childReal pr n :: m.reals = _
    rw [expReals_eq _ hroots, hself, List.map_cons, hmex, map_realOf_setUpper _ _ _ hu _ _ (Or.inr ht_pos),
      realOf_setUpper_self _ hu, childReal_eq hprl hprp]
    rfl
  · rw [expReals_eq _ hroots, expReals_eq _ hc.roots, hkid l hl,
      map_realOf_setUpper _ _ _ hu _ _ (Or.inl fun h => hl (List.append_left_eq_self.1 h))]


/-- `X`, put into the upper layer at `n :: pp`, is all that shows there: it is not a plain directory,
    or no lower directory is left at `n :: pp` to merge under it -/
def HidesLower (d : Disk) (n : Name) (pp : Path) (X : Node) : Prop :=
  (X.isDir && !X.isOpaqueDir) = false ∨
    ∀ tl, dirsIdx d pp (expIdx d pp) = 0 :: tl → dirsIdx d (n :: pp) (lowerCands d n pp tl) = []

/-- The upper layer becomes `L'`, which is `L` outside the subtree at `n :: pp`, below a parent that is in the
    upper layer: the real inodes the code keeps at `n :: pp` are given by the law of the point update, with the
    entry of `L'` there. -/
theorem expReals_entry {s : St} (hc : Consistent s) {L L' : Layer} (hup : s.disk.upper = some L) (n : Name) {pp : Path}
    {pm : MNode} (hpm : s.mem pp = some pm) (hpu : pm.inUpper = true) (hpd : (L pp).isDir = true)
    (hout : ∀ q, (n :: pp).isSuffixOf q = false → L' q = L q) :
    ∃ t0 tl, expIdx s.disk pp = 0 :: t0 ∧ dirsIdx s.disk pp (expIdx s.disk pp) = 0 :: tl ∧ (∀ i ∈ tl, i ≠ 0) ∧
      expReals (s.disk.setLayer 0 L') (n :: pp) =
        (stackWith s.disk n pp (L' (n :: pp)) (lowerCands s.disk n pp tl)).map (realOf (s.disk.setLayer 0 L') (n :: pp)) := by
  have hnode := nodeAt_outside (d := s.disk) hup hout (not_below_parent n pp)
  have hroots : (s.disk.setLayer 0 L').RootsOK := fun i hi => by
    rw [hnode i [] (by simp)]; exact hc.roots i (indices_setLayer0 hup ▸ hi)
  obtain ⟨t0, ht0⟩ := inUpper_stack hc hpm hpu
  obtain ⟨tl, htl, htl_pos⟩ := dirs_upper_first ht0 (by rw [nodeAt_zero hup]; exact hpd)
  refine ⟨t0, tl, ht0, htl, htl_pos, ?_⟩
  rw [expReals_eq _ hroots, expIdx_child_on n pp htl htl_pos (expIdx_frame _ _ (indices_setLayer0 hup) pp hnode)
    (fun i => hnode i pp (below_self pp)) (fun i hi => by rw [nodeAt_setLayer0, if_neg hi]), nodeAt_setLayer0, if_pos rfl]

/-- after the upper layer got an entry at `n :: pp` that hides what is below it, the code keeps exactly that entry
    there -/
theorem newEntry_expReals {s : St} (hc : Consistent s) {L L' : Layer} (hup : s.disk.upper = some L) (n : Name) {pp : Path}
    {pm : MNode} (hpm : s.mem pp = some pm) (hpu : pm.inUpper = true) (hpd : (L pp).isDir = true)
    (hout : ∀ q, (n :: pp).isSuffixOf q = false → L' q = L q) {X : Node} (hX : L' (n :: pp) = X)
    (hXa : X.isAbsent = false) (hcut : HidesLower s.disk n pp X) :
    expReals (s.disk.setLayer 0 L') (n :: pp) =
      [{ layer := 0, inUpper := true, path := n :: pp, whiteout := X.isWhiteout, opq := X.isOpaqueDir }] := by
  subst hX
  obtain ⟨_, tl, _, htl, _, hstack⟩ := expReals_entry hc hup n hpm hpu hpd hout
  have : stackWith s.disk n pp (L' (n :: pp)) (lowerCands s.disk n pp tl) = [0] := by
    rcases hcut with hcut | hcut
    · exact stackWith_alone _ hXa hcut
    · cases hx : ((L' (n :: pp)).isDir && !(L' (n :: pp)).isOpaqueDir) with
      | false => exact stackWith_alone _ hXa hx
      | true => rw [stackWith_plainDir _ hXa hx, hcut tl htl]
  rw [hstack, this]
  simp [realOf, nodeAt_setLayer0]

/-- the forest at and below `n :: pp` when the node there has no children -/
theorem set_eq_grafted {s : St} (hc : Consistent s) {n : Name} {pp : Path} {pm : MNode} (hpm : s.mem pp = some pm)
    (hk : ∀ c, s.mem (c :: n :: pp) = none) (m' : MNode) :
    s.mem.set (n :: pp) (some m') = graftedMem s.mem n pp pm pm.kids (some m') := by
  funext p
  simp only [Mem.set, graftedMem]
  by_cases h2 : p = n :: pp
  · rw [if_pos h2, if_neg (by rw [h2]; exact List.cons_ne_self n pp), if_pos h2]
  · rw [if_neg h2, if_neg h2]
    by_cases h1 : p = pp
    · rw [if_pos h1, h1, hpm]
    · rw [if_neg h1]
      cases hb : (n :: pp).isSuffixOf p with
      | false => rfl
      | true =>
        cases hm : s.mem p with
        | none => rfl
        | some m0 =>
          obtain ⟨o, c, ho, hck⟩ := parent_of_below hc hm hb h2
          obtain ⟨cm, hcm⟩ := hc.kidsMem _ o c ho hck
          rw [hk c] at hcm; cases hcm

theorem specStat_upper_single {s : St} (hc : Consistent s) {q : Path} {m : MNode} {ri : Real}
    (hm : s.mem q = some m) (hr : m.reals = [ri]) (hl : ri.layer = 0) (hp : ri.path = q) :
    specStat s.disk q = (if ri.whiteout then none else some (s.disk.nodeAt 0 q)) ∧
      ∀ c, (s.disk.nodeAt 0 (c :: q)).isAbsent = true → specStat s.disk (c :: q) = none := by
  refine ⟨by rw [specStat_of_mem hc hm, hr, headStat_cons, Disk.statReal, hl, hp], fun c habs => ?_⟩
  rw [specStat_eq, expReals_child (hc.reals q m hm) c]
  have hlc : lookupChild s.disk ri c = none := by
    unfold lookupChild
    split
    · rfl
    · rw [hl, hp, Node.eq_absent habs]
  have htd : (takeDirs s.disk [ri]).filterMap (lookupChild s.disk · c) = [] :=
    List.filterMap_eq_nil_iff.2 fun a ha => by
      rw [List.mem_singleton.1 (takeDirs_sub s.disk [ri] a ha)]; exact hlc
  simp [hr, htd, newFromReals, headStat]

theorem merge_none_below (d : Disk) (hr : d.RootsOK) (p : Path) (h : specStat d p = none) (q : List Name) :
    merge d (q ++ p) = .none := by
  rw [merge_eq_specStat d hr, specStat_none_below d p h q]
  rfl

/-- what an operation that adds or removes the name at `q` (leaf first) leaves there: the union shows `v` at `q`
    (nothing, after a removal) and nothing below it -/
def Leaves (v : VNode) (q : Path) (d : Disk) : Prop :=
  merge d q = v ∧ ∀ (c : Name) (l : List Name), merge d (l ++ c :: q) = .none

theorem leaves_none (d : Disk) (hr : d.RootsOK) (p : Path) (h : specStat d p = none) : Leaves .none p d :=
  ⟨merge_none_below d hr p h [], fun c l => by simpa using merge_none_below d hr p h (l ++ [c])⟩

theorem Leaves.gone {q : Path} {d : Disk} (h : Leaves .none q d) (l : List Name) : merge d (l ++ q) = .none := by
  rcases List.eq_nil_or_concat l with rfl | ⟨l', c, rfl⟩
  · exact h.1
  · simpa using h.2 c l'

/-- The entry `X`, which hides what is below it, appears in the upper layer at `n :: pp` (where `L1` has nothing
    below that path and is `L` outside the subtree), under a loaded parent that is in the upper layer; in the forest
    the subtree at `n :: pp` becomes the childless node `m'` whose only real inode is that entry's, and the
    parent lists the name.  That real inode caches `opaque = false`: what scanning finds, or the stale form of it.
    Covers the fresh node of `insert_child` (over nothing, over a whiteout node: `do_mkdir`, `create_whiteout`)
    and `add_upper_inode(ri, true)` on a node without children (copy-up of a file, an entry made over a whiteout
    node), which may be loaded: below a non-directory the code keeps nothing.  A whiteout shows as nothing, so the
    whiteout `do_rm` leaves is the case `X = .whiteout`. -/
theorem entry_put {s : St} (hc : Consistent s) {L L1 : Layer} (hup : s.disk.upper = some L) (n : Name)
    (pp : Path) (X : Node) {pm : MNode} (hpm : s.mem pp = some pm) (hpu : pm.inUpper = true)
    (hlo : pm.loaded = true) (hpd : (L pp).isDir = true)
    (hout : ∀ q, (n :: pp).isSuffixOf q = false → L1 q = L q) (htree : TreeOK L1)
    (hleaf : ∀ c, (L1 (c :: n :: pp)).isAbsent = true) (hXa : X.isAbsent = false)
    (hcut : HidesLower s.disk n pp X) {pr : Real} (hprl : pr.layer = 0) (hprp : pr.path = pp)
    {m' : MNode} (hr : m'.reals = [{ childReal pr n with whiteout := X.isWhiteout }]) (hk : m'.kids = [])
    (hw : m'.whiteout = X.isWhiteout) (hld : m'.loaded = true → X.isDir = false)
    {kids' : List Name} (hkids : ∀ x, x ∈ kids' ↔ x ∈ pm.kids ∨ x = n) {s' : St}
    (hd : s'.disk = s.disk.setLayer 0 (L1.set (n :: pp) X))
    (hm : s'.mem = graftedMem s.mem n pp pm kids' (some m')) :
    Consistent s' ∧ Leaves X.view (n :: pp) s'.disk ∧
      ∀ q, (n :: pp).isSuffixOf q = false → merge s'.disk q = merge s.disk q := by
  have hout' : ∀ q, (n :: pp).isSuffixOf q = false → (L1.set (n :: pp) X) q = L q :=
    fun q hq => by rw [L1.set_ne _ (ne_of_not_below hq)]; exact hout q hq
  have hexp := newEntry_expReals hc hup n hpm hpu hpd hout' (L1.set_self _ X) hXa hcut
  have hcf : Consistent s' := by
    refine (consistent_graft hc hup n pp hpm kids' _ hout'
      (treeOK_set htree X (fun _ => by rw [hout pp (not_below_parent n pp)]; exact hpd) hleaf)
      (fun x => by rw [hkids]; by_cases hx : x = n <;> simp [hx]) (fun m0 h => ?_) (fun h => by cases h) []).congr hd hm
    cases h
    refine ⟨hlo, hk, ?_, by rw [hw, hr]; rfl, by rw [hr]; simp, fun hl c => ?_⟩
    · unfold RealsOK
      rw [hexp, hr]
      exact Or.inr ⟨_, rfl, rfl, by simp [childReal_eq hprl hprp, staleOf]⟩
    · -- below a non-directory the code keeps nothing
      rw [expReals_below_leaf (by
        rw [hexp]
        refine takeDirs_nondir [] ?_
        rw [Disk.statReal, nodeAt_setLayer0, if_pos rfl, L1.set_self]; exact hld hl) c]
      rfl
  have hmf : s'.mem (n :: pp) = some m' := by rw [hm, graftedMem, if_neg (List.cons_ne_self n pp), if_pos rfl]
  have h0 : ∀ q, s'.disk.nodeAt 0 q = (L1.set (n :: pp) X) q := fun q => by rw [hd, nodeAt_setLayer0, if_pos rfl]
  obtain ⟨hself, hbelow⟩ := specStat_upper_single hcf hmf hr hprl (by rw [← hprp]; rfl)
  refine ⟨hcf, ⟨?_, fun c => merge_none_below _ hcf.roots _
    (hbelow c (by rw [h0, L1.set_ne _ (List.cons_ne_self c _)]; exact hleaf c))⟩, merge_of_upper hup hd hout'⟩
  rw [merge_eq_specStat _ hcf.roots, hself, h0, L1.set_self]
  cases X <;> rfl

/-- when nothing answers LOOKUP at `n :: pp` and the upper layer has no entry there, no lower
    directory would merge under a new upper directory -/
theorem hidesLower_of_none {s : St} (hc : Consistent s) (n : Name) (pp : Path) (X : Node)
    (habs : (s.disk.nodeAt 0 (n :: pp)).isAbsent = true) (hnone : specStat s.disk (n :: pp) = none) :
    HidesLower s.disk n pp X := by
  refine Or.inr fun tl htl => ?_
  rw [specStat_eq, expReals_eq s.disk hc.roots, expIdx_below_upper n pp htl, stackWith_absent _ habs] at hnone
  cases hF : lowerCands s.disk n pp tl with
  | nil => rfl
  | cons j c' =>
    -- the head of the kept stack is `j`; nothing answers LOOKUP, so it is no directory
    refine dirsIdx_of_nondir ?_
    cases hd : (s.disk.nodeAt j (n :: pp)).isDir with
    | false => rfl
    | true =>
      obtain ⟨t, ht⟩ := dirsIdx_head c' hd
      rw [hF, cutW_of_dir hd, ht] at hnone
      simp [headStat, realOf, Node.not_whiteout_of_dir hd] at hnone

theorem absent_below_nondir {d : Disk} (ht : d.TreesOK) {j : Nat} {p : Path} (h : (d.nodeAt j p).isDir = false)
    (n : Name) : (d.nodeAt j (n :: p)).isAbsent = true := by
  unfold Disk.nodeAt at h ⊢
  cases hL : d.layer j with
  | none => rfl
  | some L => rw [hL] at h; exact leaf_of_nondir (ht j L hL) h n

/-- `lower_entry_exists` on layer indices: the first lower layer of the parent that has the name decides -/
theorem lowerEntryExists_idx {s : St} (hc : Consistent s) {pp : Path} {pm : MNode} (hpm : s.mem pp = some pm)
    {pr : Real} {rest : List Real} (hr : pm.reals = pr :: rest) (hpu : pr.inUpper = true) {t0 : List Nat}
    (ht0 : expIdx s.disk pp = 0 :: t0) (n : Name) :
    lowerEntryExists s.disk pm n =
      match lowerCands s.disk n pp t0 with
      | j :: _ => !(s.disk.nodeAt j (n :: pp)).isWhiteout
      | [] => false := by
  have hpos := tail_pos (expIdx_sorted s.disk pp) ht0
  have hrest : rest = t0.map (realOf s.disk pp) := by
    rcases realsOK_forms hc.roots (hc.reals pp pm hpm) with h | ⟨i, hi, _, h⟩
    · rw [hr, ht0] at h; exact (List.cons.inj h).2
    · rw [hr] at h; rw [ht0] at hi
      rw [(List.cons.inj h).2, (List.cons.inj hi).2]; rfl
  have hlow : (pm.reals.filter (!·.inUpper)) = rest := by
    rw [hr, List.filter_cons, hpu, hrest]
    simp only [Bool.not_true, Bool.false_eq_true, if_false]
    exact List.filter_eq_self.2 fun r hr' => by
      obtain ⟨j, hj, rfl⟩ := List.mem_map.1 hr'
      simpa [realOf] using hpos j hj
  unfold lowerEntryExists
  rw [hlow, hrest, filterMap_lookupChild s.disk pp n t0 fun j _ hw => absent_below_nondir hc.trees (Node.not_dir_of_whiteout hw) n, lowerCands]
  cases t0.filter _ with
  | nil => rfl
  | cons j c' => rfl

/-- once the upper entry at `n :: pp` is gone, nothing there needs a node — provided the
    parent's upper directory is opaque or no lower layer of the parent shows the name -/
theorem removed_needsNode {s : St} (hc : Consistent s) {L L' : Layer} (hup : s.disk.upper = some L) (n : Name) (pp : Path)
    {pm : MNode} (hpm : s.mem pp = some pm) {pr : Real} {rest : List Real} (hr : pm.reals = pr :: rest)
    (hpu : pr.inUpper = true) (hpd : (L pp).isDir = true)
    (hcond : pr.opq = true ∨ lowerEntryExists s.disk pm n = false)
    (hout : ∀ q, (n :: pp).isSuffixOf q = false → L' q = L q) (ha : (L' (n :: pp)).isAbsent = true) :
    needsNode (expReals (s.disk.setLayer 0 L') (n :: pp)) = false := by
  obtain ⟨t0, tl, ht0, htl, htl_pos, hstack⟩ :=
    expReals_entry hc hup n hpm ((MNode.inUpper_cons hr).trans hpu) hpd hout
  have hdir0 : (s.disk.nodeAt 0 pp).isDir = true := by rw [nodeAt_zero hup]; exact hpd
  have hopq : pr.opq = true → (s.disk.nodeAt 0 pp).isOpaqueDir = true := by
    intro h
    rcases realsOK_forms hc.roots (hc.reals pp pm hpm) with h' | ⟨i, _, _, h'⟩
    · rw [hr, ht0] at h'; rw [(List.cons.inj h').1] at h; exact h
    · rw [hr] at h'; rw [(List.cons.inj h').1] at h; cases h
  rw [hstack, stackWith_absent _ ha]
  cases hF : lowerCands s.disk n pp tl with
  | nil => rfl
  | cons j c' =>
    have hj0 : j ≠ 0 := htl_pos j (List.mem_filter.1 (show j ∈ lowerCands s.disk n pp tl by rw [hF]; simp)).1
    -- the first lower candidate is a whiteout: the parent's upper directory is not opaque, so the kept
    -- directories are a prefix of the parent's lower layers
    have hw : (s.disk.nodeAt j (n :: pp)).isWhiteout = true := by
      cases hop : (s.disk.nodeAt 0 pp).isOpaqueDir with
      | true => rw [ht0, dirsIdx_of_opaque hdir0 hop] at htl; rw [← (List.cons.inj htl).2] at hF; cases hF
      | false =>
        rw [ht0, dirsIdx_of_plain hdir0 hop] at htl
        rcases hcond with h | h
        · rw [hopq h] at hop; cases hop
        · rw [lowerEntryExists_idx hc hpm hr hpu ht0 n] at h
          have hpre : lowerCands s.disk n pp tl <+: lowerCands s.disk n pp t0 := by
            rw [← (List.cons.inj htl).2]; exact (dirsIdx_prefix s.disk pp t0).filter _
          rw [hF] at hpre
          obtain ⟨x, hx⟩ := hpre
          rw [← hx] at h
          simpa using h
    obtain ⟨t, ht⟩ := cutW_cons s.disk (n :: pp) j c'
    rw [ht]
    simp [needsNode, realOf, nodeAt_setLayer0, hw, hj0]

end Fbr.Ovl
