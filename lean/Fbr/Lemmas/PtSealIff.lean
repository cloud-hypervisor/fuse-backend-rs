/-
  C18: what sealing does with each request that names existing objects.  It has
  one of two effects (`Verdict`), according to whether the request reaches beyond the current size
  (`Beyond`): the request is refused, or it is carried out exactly as without sealing, the probes
  of the seal check aside.  WRITE and FALLOCATE are the two requests with a seal check
  (its two outcomes: `Verdict.refuse`, `Verdict.perform`); OPEN, CREATE and SETATTR consult
  `cfg.sealed` only when they set a size, RELEASE never.
-/
import Fbr.Lemmas.PtSeal

namespace Fbr.Lemmas.PtSeal
open Fbr.PtSeal Fbr.PtSealSpec

/-- sealed and unsealed outcomes agree up to the probes of the seal check -/
def Same (s u : Out) : Prop :=
  s.ret = u.ret ∧ s.st.host.size = u.st.host.size ∧ s.st.handles = u.st.handles ∧ s.st.next = u.st.next ∧
    s.calls.filter (fun c => !HostCall.probe c) = u.calls

/-- the sealed outcome `s` of a request against its unsealed outcome `u`: refused if the request is
    `beyond`, else performed like `u` -/
def Verdict (beyond : Prop) (s u : Out) : Prop :=
  (beyond ∧ Refused s) ∨ (¬ beyond ∧ ¬ Refused s ∧ Same s u)

theorem Verdict.refused_iff {p : Prop} {s u : Out} (v : Verdict p s u) : Refused s ↔ p := by
  rcases v with ⟨hp, hr⟩ | ⟨hp, hr, _⟩
  · exact ⟨fun _ => hp, fun _ => hr⟩
  · exact ⟨fun h => absurd h hr, fun h => absurd h hp⟩

theorem Verdict.same {p : Prop} {s u : Out} (v : Verdict p s u) (hp : ¬ p) : Same s u := by
  rcases v with ⟨h, _⟩ | ⟨_, _, hs⟩
  · exact absurd h hp
  · exact hs

theorem Verdict.pass {p : Prop} (hp : ¬ p) (st : St) (v : Nat) (c : List HostCall)
    (hc : c.filter (fun c => !HostCall.probe c) = c) :
    Verdict p { st := st, ret := .ok v, calls := c } { st := st, ret := .ok v, calls := c } :=
  .inr ⟨hp, fun ⟨⟨_, he⟩, _⟩ => (by cases he), ⟨rfl, rfl, rfl, rfl, hc⟩⟩

/-- calls that neither can change a size nor serve the seal check: made alike with and without
    sealing, and no obstacle to `Refused` -/
def Inert (c : List HostCall) : Prop :=
  c.all (fun c => !HostCall.mutating c) = true ∧ c.filter (fun c => !HostCall.probe c) = c

theorem Inert.append {a b : List HostCall} (ha : Inert a) (hb : Inert b) : Inert (a ++ b) :=
  ⟨by rw [List.all_append, ha.1, hb.1]; rfl, by rw [List.filter_append, ha.2, hb.2]⟩

/-- a request guarded by a seal check `chk` that passes exactly when the request is not beyond (`p`), refused:
    the sealed file system has made the inert calls `c` and the probes `pr` -/
theorem Verdict.refuse {p : Prop} {chk : Except Nat Unit} (hchk : chk = .ok () ↔ ¬ p) {e : Nat} (he : chk = .error e)
    {c pr : List HostCall} (hc : Inert c) (hpr : pr.all (fun c => !HostCall.mutating c) = true) (st : St) (u : Out) :
    Verdict p { st := st, ret := .error e, calls := c ++ pr } u :=
  .inl ⟨Classical.not_not.mp fun hn => (by cases (hchk.mpr hn).symm.trans he), ⟨e, rfl⟩,
    by rw [List.all_append, hc.1, hpr]; rfl⟩

/-- …and let through: it goes on to the mutating call `m`, which the unsealed one makes straight away -/
theorem Verdict.perform {p : Prop} {chk : Except Nat Unit} (hchk : chk = .ok () ↔ ¬ p) {u : Unit} (hu : chk = .ok u)
    {c pr : List HostCall} (hc : Inert c) (hpr : pr.filter (fun c => !HostCall.probe c) = []) (m : HostCall)
    (hm1 : HostCall.mutating m = true) (hm2 : HostCall.probe m = false) (st : St) (ret : Except Nat Nat) :
    Verdict p { st := st, ret := ret, calls := c ++ pr ++ [m] } { st := st, ret := ret, calls := c ++ [] ++ [m] } := by
  refine .inr ⟨hchk.mp hu, fun ⟨_, hall⟩ => ?_, ⟨rfl, rfl, rfl, rfl, ?_⟩⟩
  · simp [List.all_append, hm1] at hall
  · simp [List.filter_append, hc.2, hpr, hm2]

theorem resolve_handle {cfg : Cfg} (hno : cfg.noOpen = false) (st : St) (file h : Nat) (hd : Hnd) :
    resolve cfg st file h = some hd ↔ st.handles h = some hd ∧ hd.file = file := by
  unfold resolve
  rw [hno, if_neg Bool.false_ne_true]
  cases st.handles h with
  | none => exact ⟨fun h => (by cases h), fun h => (by cases h.1)⟩
  | some hd' =>
    dsimp only
    split
    · rename_i hf
      exact ⟨fun h => (by cases h; exact ⟨rfl, hf⟩), fun h => (by rw [h.1])⟩
    · rename_i hf
      exact ⟨fun h => (by cases h), fun h => absurd (Option.some.inj h.1 ▸ h.2) hf⟩

theorem getData_resolve (cfg : Cfg) (st : St) (file h : Nat) (hd : Hnd) (hr : resolve cfg st file h = some hd) :
    ∃ c, getData cfg st file h = (st, .ok hd, c) ∧ Inert c := by
  unfold getData
  cases hno : cfg.noOpen with
  | false =>
    obtain ⟨hx, hf⟩ := (resolve_handle hno st file h hd).mp hr
    simp only [Bool.not_false, if_true, hx, hf]
    exact ⟨[], rfl, rfl, rfl⟩
  | true =>
    unfold resolve at hr
    simp only [hno, if_true] at hr
    simp only [Bool.not_true, Bool.false_eq_true, if_false]
    cases hsz : st.host.size file with
    | none => simp [hsz] at hr
    | some sz =>
      simp only [hsz, Option.isSome_some, if_true] at hr
      cases hr
      -- the fresh descriptor is opened without `O_TRUNC`: the call neither mutates nor probes
      rw [openInode_existing cfg st file rdwr sz hsz rfl]
      exact ⟨_, rfl, by simp [HostCall.mutating, rdwr], rfl⟩

theorem getData_cfg (cfg : Cfg) (b : Bool) (st : St) (file h : Nat) :
    getData { cfg with sealed := b } st file h = getData cfg st file h := by
  unfold getData openInode openFlags
  rfl

theorem checkFdFlags_append (hd : Hnd) (fl : Flags) : (checkFdFlags hd fl).1.fd.append = appendAfter hd fl := by
  unfold checkFdFlags appendAfter
  split <;> rfl

theorem checkFdFlags_calls (hd : Hnd) (fl : Flags) : Inert (checkFdFlags hd fl).2 := by
  unfold checkFdFlags
  split <;> exact ⟨rfl, rfl⟩

theorem stepWrite_verdict (cfg : Cfg) (st : St) (file h : Nat) (fl : Flags) (len off : Nat) (hok : HostOk st.host)
    (hres : Resolves cfg st (.write file h fl len off)) :
    Verdict (Beyond cfg st (.write file h fl len off))
      (stepWrite { cfg with sealed := true } st file h fl len off)
      (stepWrite { cfg with sealed := false } st file h fl len off) := by
  obtain ⟨hd0, hr⟩ := Option.isSome_iff_exists.mp hres.1
  obtain ⟨sz, hsz⟩ := Option.isSome_iff_exists.mp hres.2
  obtain ⟨c0, hg, hc0⟩ := getData_resolve cfg st file h hd0 hr
  have hc := hc0.append (checkFdFlags_calls hd0 fl)
  have hiff : sealCheckWrite sz (if appendAfter hd0 fl = true then sz else off) len = .ok () ↔
      ¬ Beyond cfg st (.write file h fl len off) := by
    have hlt := hok _ _ hsz
    simp only [sealCheckWrite_ok_iff, Beyond, hr, hsz, Option.some.injEq, exists_and_left, exists_eq_left', U64, I64] at hlt ⊢
    omega
  -- both runs get the same descriptor and apply the same flag word; only the sealed one evaluates the check
  unfold stepWrite
  simp only [getData_cfg, hg, if_true, Bool.false_eq_true, if_false, putHnd_host, hsz, checkFdFlags_append]
  cases hsc : sealCheckWrite sz (if appendAfter hd0 fl = true then sz else off) len with
  | error e => exact .refuse hiff hsc hc rfl _ _
  | ok u => exact .perform hiff hsc hc rfl _ (by rfl) (by rfl) _ _

theorem stepFallocate_verdict (cfg : Cfg) (st : St) (file h mode off len : Nat) (hok : HostOk st.host)
    (hres : Resolves cfg st (.fallocate file h mode off len)) :
    Verdict (Beyond cfg st (.fallocate file h mode off len))
      (stepFallocate { cfg with sealed := true } st file h mode off len)
      (stepFallocate { cfg with sealed := false } st file h mode off len) := by
  obtain ⟨hd, hr⟩ := Option.isSome_iff_exists.mp hres.1
  obtain ⟨sz, hsz⟩ := Option.isSome_iff_exists.mp hres.2
  obtain ⟨c, hg, hc⟩ := getData_resolve cfg st file h hd hr
  have hiff : sealCheckFallocate sz off len mode = .ok () ↔ ¬ Beyond cfg st (.fallocate file h mode off len) := by
    have hlt := hok _ _ hsz
    simp only [sealCheckFallocate_ok_iff, Beyond, hsz, Option.some.injEq, exists_eq_left', U64, I64] at hlt ⊢
    by_cases hop : fallocOp mode = 0 ∨ fallocOp mode = FL_PUNCH_HOLE ∨ fallocOp mode = FL_ZERO <;> simp [hop] <;> omega
  unfold stepFallocate
  simp only [getData_cfg, hg, if_true, Bool.false_eq_true, if_false, hsz]
  cases hsc : sealCheckFallocate sz off len mode with
  | error e => exact .refuse hiff hsc hc rfl _ _
  | ok u => dsimp only; split <;> exact .perform hiff hsc hc rfl _ (by rfl) (by rfl) _ _

theorem stepOpen_verdict (cfg : Cfg) (st : St) (file : Nat) (fl : Flags) (hno : cfg.noOpen = false)
    (hex : (st.host.size file).isSome = true) :
    Verdict (fl.trunc = true) (stepOpen { cfg with sealed := true } st file fl)
      (stepOpen { cfg with sealed := false } st file fl) := by
  obtain ⟨sz, hsz⟩ := Option.isSome_iff_exists.mp hex
  unfold stepOpen doOpen
  cases ht : fl.trunc with
  | true => exact .inl ⟨rfl, by simp [hno, Refused]⟩
  | false =>
    simp only [hno, Bool.false_eq_true, if_false, Bool.and_false, openInode_existing _ st file fl sz hsz ht]
    exact .pass (by simp) _ _ _ (by simp [HostCall.probe])

theorem stepCreate_verdict (cfg : Cfg) (st : St) (file : Nat) (fl : Flags)
    (hres : ¬ ((st.host.size file).isSome = true ∧ fl.excl = true)) :
    Verdict ((st.host.size file).isSome = true ∧ fl.excl = false ∧ fl.trunc = true)
      (stepCreate { cfg with sealed := true } st file fl) (stepCreate { cfg with sealed := false } st file fl) := by
  unfold stepCreate
  cases hsz : st.host.size file with
  | none =>
    simp only
    split <;> exact .pass (by simp) _ _ _ (by simp [HostCall.probe])
  | some sz =>
    have hx : fl.excl = false := by
      cases h : fl.excl
      · rfl
      · exact absurd ⟨by rw [hsz]; rfl, h⟩ hres
    cases ht : fl.trunc with
    | true =>
      simp only [hx, Bool.false_eq_true, if_false, Bool.and_self, if_true]
      exact .inl ⟨⟨rfl, trivial, trivial⟩, ⟨_, rfl⟩, rfl⟩
    | false =>
      simp only [hx, Bool.false_eq_true, if_false, Bool.and_false]
      simp only [openInode_existing _ st file fl sz hsz ht]
      split <;> exact .pass (by simp) _ _ _ (by simp [HostCall.probe])

theorem setattrHnd_ok (cfg : Cfg) (st : St) (file : Nat) (h : Option Nat)
    (hres : cfg.noOpen = true ∨ h = none ∨ ∃ hh, h = some hh ∧ (resolve cfg st file hh).isSome = true) :
    ∃ hd, setattrHnd cfg st file h = .ok hd := by
  unfold setattrHnd
  cases hno : cfg.noOpen with
  | true => exact ⟨_, rfl⟩
  | false =>
    rcases hres with h1 | rfl | ⟨hh, rfl, h2⟩
    · simp [hno] at h1
    · exact ⟨_, rfl⟩
    · obtain ⟨hd, hr⟩ := Option.isSome_iff_exists.mp h2
      obtain ⟨hx, hf⟩ := (resolve_handle hno st file hh hd).mp hr
      exact ⟨some hd, by simp [hx, hf]⟩

theorem setattrHnd_cfg (cfg : Cfg) (b : Bool) (st : St) (file : Nat) (h : Option Nat) :
    setattrHnd { cfg with sealed := b } st file h = setattrHnd cfg st file h := rfl

theorem stepSetattr_verdict (cfg : Cfg) (st : St) (file : Nat) (h : Option Nat) (ss : Bool) (size : Nat) (sm : Bool)
    (hex : (st.host.size file).isSome = true)
    (hres : cfg.noOpen = true ∨ h = none ∨ ∃ hh, h = some hh ∧ (resolve cfg st file hh).isSome = true) :
    Verdict (ss = true) (stepSetattr { cfg with sealed := true } st file h ss size sm)
      (stepSetattr { cfg with sealed := false } st file h ss size sm) := by
  obtain ⟨sz, hsz⟩ := Option.isSome_iff_exists.mp hex
  obtain ⟨hd, hhd⟩ := setattrHnd_ok cfg st file h hres
  unfold stepSetattr
  simp only [hsz, setattrHnd_cfg, hhd]
  cases ss with
  | true => exact .inl ⟨rfl, ⟨_, rfl⟩, rfl⟩
  | false =>
    simp only [Bool.false_and, Bool.false_eq_true, if_false]
    exact .pass (by simp) _ _ _ (by cases sm <;> simp [HostCall.probe])

theorem stepRelease_verdict (cfg : Cfg) (st : St) (file h : Nat) (hno : cfg.noOpen = false)
    (hres : (resolve cfg st file h).isSome = true) :
    Verdict False (stepRelease { cfg with sealed := true } st file h)
      (stepRelease { cfg with sealed := false } st file h) := by
  obtain ⟨hd, hr⟩ := Option.isSome_iff_exists.mp hres
  obtain ⟨hx, hf⟩ := (resolve_handle hno st file h hd).mp hr
  unfold stepRelease
  simp only [hno, Bool.false_eq_true, if_false, hx, hf, if_true]
  exact .pass id _ _ _ rfl

theorem step_verdict (cfg : Cfg) (st : St) (r : Req) (hok : HostOk st.host) (hres : Resolves cfg st r) :
    Verdict (Beyond cfg st r) (step { cfg with sealed := true } st r) (step { cfg with sealed := false } st r) := by
  cases r with
  | opn file fl => exact stepOpen_verdict cfg st file fl hres.1 hres.2
  | create file fl => exact stepCreate_verdict cfg st file fl hres
  | write file h fl len off => exact stepWrite_verdict cfg st file h fl len off hok hres
  | setattr file h ss size sm => exact stepSetattr_verdict cfg st file h ss size sm hres.1 hres.2
  | fallocate file h mode off len => exact stepFallocate_verdict cfg st file h mode off len hok hres
  | release file h => exact stepRelease_verdict cfg st file h hres.1 hres.2

end Fbr.Lemmas.PtSeal
