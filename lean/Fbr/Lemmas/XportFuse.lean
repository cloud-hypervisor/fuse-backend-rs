/-
  FuseDevWriter: a `Vec` of length `len` and capacity `cap` laid over the borrowed buffer.  What
  `check_available_space`, `extend_from_slice`, `split_at` and `commit` compute from the writer's
  state, and what the operations return when the check refuses them (`*_of_err`) and when a `write`
  passes it (`fwrite_buffered`, `fwrite_unbuffered`, `fwriteVectored_unbuffered`).  Needs the model only.
-/
import Fbr.Xport

namespace Fbr.Xport

def FuseW.ok (f : FuseW) : Prop := f.len ≤ f.cap

theorem FuseW.ok_of_empty {f : FuseW} (h : f.len = 0) : f.ok := by
  unfold FuseW.ok; omega

def FuseW.inMem (f : FuseW) (m : Mem) : Prop := f.base + f.cap ≤ (m.get f.region).length

/-- not one of the two outcomes that would mean the Vec left (or overran) the borrowed buffer -/
def Benign (e : IoErr) : Prop :=
  e ≠ .panic "realloc of borrowed buffer" ∧ e ≠ .panic "capacity - len underflow"

theorem foldl_add_shift (bufs : List Bytes) (n k : Nat) :
    bufs.foldl (fun a x => a + x.length) (n + k) = bufs.foldl (fun a x => a + x.length) n + k := by
  induction bufs generalizing n with
  | nil => rfl
  | cons d rest ih => simp only [List.foldl]; rw [show n + k + d.length = n + d.length + k by omega, ih]

/-- the total length `write_vectored` checks is the length of the record it sends -/
theorem foldl_len_eq_flatten (bufs : List Bytes) : bufs.foldl (fun a x => a + x.length) 0 = bufs.flatten.length := by
  rw [List.length_flatten, List.sum_eq_foldl_nat, List.foldl_map]

theorem foldl_append_flatten (bufs : List Bytes) (acc : Bytes) : bufs.foldl (· ++ ·) acc = acc ++ bufs.flatten := by
  induction bufs generalizing acc with
  | nil => simp
  | cons d rest ih => simp only [List.foldl, ih, List.flatten_cons, List.append_assoc]

theorem fdWritev_keep (w : World) (r : Bytes) :
    (w.fdWritev r).mem = w.mem ∧ (w.fdWritev r).log = w.log
      ∧ (w.fdWritev r).fd = (if r.isEmpty then w.fd else w.fd ++ [r]) := by
  unfold World.fdWritev
  split <;> exact ⟨rfl, rfl, rfl⟩

theorem fcheckAvail_eq {f : FuseW} (hok : f.ok) (sz : Nat) :
    f.checkAvail sz = if f.buffered = true ∨ f.len = 0 then (if f.len + sz ≤ f.cap then .ok () else .error .invalidData)
      else .error (.panic "assert buffered || buf.is_empty()") := by
  unfold FuseW.ok at hok
  unfold FuseW.checkAvail FuseW.availableBytes
  by_cases h1 : f.buffered = true ∨ f.len = 0
  · have h2 : ¬ f.len > f.cap := by omega
    by_cases h3 : f.len + sz ≤ f.cap
    · simp only [h1, not_true_eq_false, h2, h3, if_true, if_false, show ¬ sz > f.cap - f.len by omega]
    · simp only [h1, not_true_eq_false, h2, h3, if_true, if_false, show sz > f.cap - f.len by omega]
  · simp only [h1, not_false_eq_true, if_true, if_false]

theorem fcheckAvail_ok_any {f : FuseW} {sz : Nat} (hok : f.ok) (h : f.checkAvail sz = .ok ()) : f.len + sz ≤ f.cap := by
  rw [fcheckAvail_eq hok] at h
  split at h
  · split at h
    · assumption
    · cases h
  · cases h

/-- `hmode`: the writer may write at all — it is buffered, or unbuffered and fresh -/
theorem fcheckAvail_fit {f : FuseW} {sz : Nat} (hok : f.ok) (hmode : f.buffered = true ∨ f.len = 0)
    (h : sz ≤ f.cap - f.len) : f.checkAvail sz = .ok () := by
  rw [fcheckAvail_eq hok, if_pos hmode, if_pos (by unfold FuseW.ok at hok; omega)]

theorem fcheckAvail_overflow {f : FuseW} {sz : Nat} (hok : f.ok) (hmode : f.buffered = true ∨ f.len = 0)
    (h : f.cap - f.len < sz) : f.checkAvail sz = .error .invalidData := by
  rw [fcheckAvail_eq hok, if_pos hmode, if_neg (by omega)]

theorem fcheckAvail_benign {f : FuseW} {sz : Nat} (hok : f.ok) {e : IoErr} (h : f.checkAvail sz = .error e) : Benign e := by
  rw [fcheckAvail_eq hok] at h
  split at h
  · split at h <;> cases h
    exact ⟨by decide, by decide⟩
  · cases h; exact ⟨by decide, by decide⟩

theorem FuseW.with_len_self (f : FuseW) : { f with len := f.len + 0 } = f := by cases f; rfl

section
variable {f : FuseW} (w : World)

theorem fwrite_of_err {data : Bytes} {e : IoErr} (h : f.checkAvail data.length = .error e) :
    FuseW.write f w data = ⟨.error e, (), f, w⟩ := by
  unfold FuseW.write; rw [h]

theorem fwriteVectored_of_err {bufs : List Bytes} {e : IoErr}
    (h : f.checkAvail bufs.flatten.length = .error e) : FuseW.writeVectored f w bufs = ⟨.error e, (), f, w⟩ := by
  unfold FuseW.writeVectored; rw [foldl_len_eq_flatten, h]

theorem fwriteFrom_of_err (src : Script) {count : Nat} (at_ : Option Nat) {e : IoErr}
    (h : f.checkAvail count = .error e) : FuseW.writeFrom f w src count at_ = ⟨.error e, src, f, w⟩ := by
  unfold FuseW.writeFrom; rw [h]

theorem fwriteAllFrom_of_err (src : Script) {count : Nat} {e : IoErr}
    (h : f.checkAvail count = .error e) : FuseW.writeAllFrom f w src count = ⟨.error e, src, f, w⟩ := by
  unfold FuseW.writeAllFrom; rw [h]

theorem fwrite_buffered {data : Bytes} (hb : f.buffered = true)
    (hc : f.checkAvail data.length = .ok ()) :
    FuseW.write f w data = (match f.extend w data with
      | .error e => ⟨.error e, (), f, w⟩
      | .ok (f1, w1) => ⟨.ok data.length, (), f1, w1⟩) := by
  unfold FuseW.write
  rw [hc]
  simp only [hb, if_true]
  cases f.extend w data <;> rfl

theorem fwrite_unbuffered {data : Bytes} (hb : f.buffered = false)
    (hc : f.checkAvail data.length = .ok ()) :
    FuseW.write f w data = ⟨.ok data.length, (), { f with len := f.len + data.length }, w.fdWrite data⟩ := by
  unfold FuseW.write
  rw [hc]
  simp only [hb, Bool.false_eq_true, if_false]

/-- also for `bufs = []`, where nothing is sent and `len` moves by 0 -/
theorem fwriteVectored_unbuffered {bufs : List Bytes} (hb : f.buffered = false)
    (hc : f.checkAvail bufs.flatten.length = .ok ()) :
    FuseW.writeVectored f w bufs
      = ⟨.ok bufs.flatten.length, (), { f with len := f.len + bufs.flatten.length }, w.fdWritev bufs.flatten⟩ := by
  unfold FuseW.writeVectored
  rw [foldl_len_eq_flatten, hc]
  simp only [hb, Bool.false_eq_true, if_false, foldl_append_flatten, List.nil_append]
  cases bufs with
  | nil => rw [← hb]; exact congrArg (fun g => (⟨.ok 0, (), g, w⟩ : FOut Nat Unit)) f.with_len_self.symm
  | cons d rest => rfl

end

theorem extend_ok {f : FuseW} (w : World) {data : Bytes} (h : f.len + data.length ≤ f.cap) :
    ∃ w1, f.extend w data = .ok ({ f with len := f.len + data.length }, w1) := by
  unfold FuseW.extend
  exact ⟨_, if_neg (by omega)⟩

theorem fsplit_ok {f a o : FuseW} {k : Nat} (hok : f.ok) (h : f.splitAt k = .ok (a, o)) :
    a.ok ∧ o.ok ∧ a.cap + o.cap = f.cap ∧ a.base = f.base ∧ o.base = f.base + a.cap
      ∧ a.len + o.len = f.len ∧ a.buffered = true ∧ o.buffered = true ∧ k ≤ f.cap ∧ a.cap = k := by
  unfold FuseW.splitAt at h
  unfold FuseW.ok at *
  by_cases hk : f.cap < k
  · simp [hk] at h
  · simp only [hk, if_false] at h
    by_cases hl : f.len > k
    · simp only [hl, if_true, Except.ok.injEq, Prod.mk.injEq] at h
      obtain ⟨rfl, rfl⟩ := h
      exact ⟨by simp only; omega, by simp only; omega, by simp only; omega, rfl, rfl, by simp only; omega, rfl, rfl, by omega, rfl⟩
    · simp only [hl, if_false, Except.ok.injEq, Prod.mk.injEq] at h
      obtain ⟨rfl, rfl⟩ := h
      exact ⟨by simp only; omega, by simp only; omega, by simp only; omega, rfl, rfl, by simp only; omega, rfl, rfl, by omega, rfl⟩

theorem fsplit_error_iff (f : FuseW) (k : Nat) : (∃ e, f.splitAt k = .error e) ↔ f.cap < k := by
  unfold FuseW.splitAt
  by_cases hk : f.cap < k
  · simp [hk]
  · simp only [hk, if_false, iff_false]
    rintro ⟨e, he⟩
    split at he <;> cases he

theorem fcommit_spec (f : FuseW) (w : World) (other : Option FuseW) (hb : f.buffered = true) :
    ∃ r : Bytes, r = f.slice w.mem ++ (match other with | some g => g.slice w.mem | none => [])
      ∧ (FuseW.commit f w other).1 = .ok r.length
      ∧ (FuseW.commit f w other).2.fd = (if r.isEmpty then w.fd else w.fd ++ [r])
      ∧ (FuseW.commit f w other).2.mem = w.mem := by
  unfold FuseW.commit
  simp only [hb, not_true_eq_false, if_false]
  cases other with
  | none =>
    simp only
    generalize f.slice w.mem = s
    refine ⟨s ++ [], rfl, ?_⟩
    cases s <;> simp [World.fdWrite]
  | some g =>
    simp only
    generalize f.slice w.mem = s
    generalize g.slice w.mem = o
    refine ⟨s ++ o, rfl, ?_⟩
    -- the four emptiness branches of `commit` (nothing, `write o`, `write s`, `writev`) all amount
    -- to: one record `s ++ o` unless that is empty
    cases s <;> cases o <;> simp [World.fdWrite, World.fdWritev] <;> omega

theorem fsplit_region {f a o : FuseW} {k : Nat} (h : f.splitAt k = .ok (a, o)) :
    a.region = f.region ∧ o.region = f.region := by
  unfold FuseW.splitAt at h
  by_cases hk : f.cap < k
  · simp [hk] at h
  · simp only [hk, if_false] at h
    split at h <;> (simp only [Except.ok.injEq, Prod.mk.injEq] at h; obtain ⟨rfl, rfl⟩ := h; exact ⟨rfl, rfl⟩)

theorem slice_len_zero (f : FuseW) (m : Mem) (h : f.len = 0) : f.slice m = [] := by
  simp [FuseW.slice, readSeg, h]

end Fbr.Xport
