/-
  `forget_one` by cases (`forgetOne_cases`) and what follows for the stored entries; `InodeStore::remove`
  on the tables.
-/
import Fbr.PtRefs
import Fbr.Lemmas.PtMap
import Fbr.Lemmas.PtProj

namespace Fbr.PtRefs

/-- `InodeStore::remove` on the tables -/
def Tables.remove (T : Tables) (ino : Ino) (d : IData) (keepMapping : Bool) : Tables :=
  { T with
    data := mdel T.data ino,
    byHandle := if keepMapping then T.byHandle else (match d.fh with
      | some h => mdel T.byHandle h
      | none => T.byHandle),
    byId := if keepMapping then T.byId else mdel T.byId d.id }

theorem tables_removeInode (s : St) (i : Ino) (d : IData) (k : Bool) :
    (removeInode s i d k).tables = s.tables.remove i d k := by
  unfold removeInode
  simp only [tables_dropIData]
  cases k <;> rfl

@[simp] theorem removeInode_data (s : St) (i : Ino) (d : IData) (k : Bool) :
    (removeInode s i d k).data = mdel s.data i :=
  congrArg Tables.data (tables_removeInode s i d k)

@[simp] theorem setRefs_data (s : St) (i : Ino) (d : IData) (r : Nat) :
    (setRefs s i d r).data = mput s.data i { d with refs := r } := rfl

theorem forgetOne_cases (e : Env) (s : St) (i : Ino) (n : Nat) :
    forgetOne e s i n = s
    ∨ ∃ d, mget s.data i = some d ∧
        (forgetOne e s i n = setRefs s i d (d.refs - n)
         ∨ forgetOne e s i n = removeInode s i d (!e.useHostIno || decide (d.id.ino > MAX_HOST_INO))) := by
  unfold forgetOne
  split
  · exact .inl rfl
  · split
    · exact .inl rfl
    · rename_i d hd
      simp only
      split
      · exact .inr ⟨d, hd, .inr rfl⟩
      · exact .inr ⟨d, hd, .inl rfl⟩

theorem forgetOne_entries (e : Env) (s : St) (i : Ino) (n : Nat) :
    ∀ j d, mget (forgetOne e s i n).data j = some d →
      ∃ d', mget s.data j = some d' ∧ d'.id = d.id ∧ d'.fh = d.fh ∧ d.refs ≤ d'.refs := by
  rcases forgetOne_cases e s i n with h | ⟨d0, hd0, h | h⟩ <;> rw [h]
  · exact fun j d h => ⟨d, h, rfl, rfl, Nat.le_refl _⟩
  · rw [setRefs_data]
    exact forall_mget_mput ⟨d0, hd0, rfl, rfl, Nat.sub_le _ _⟩ fun j d h => ⟨d, h, rfl, rfl, Nat.le_refl _⟩
  · rw [removeInode_data]
    exact fun j d h => ⟨d, (mget_mdel_some h).2, rfl, rfl, Nat.le_refl _⟩

theorem forgetOne_frame (e : Env) (s : St) (i : Ino) (n : Nat) :
    { (forgetOne e s i n).tables with data := s.data, byId := s.byId, byHandle := s.byHandle } = s.tables := by
  rcases forgetOne_cases e s i n with h | ⟨d, _, h | h⟩ <;> rw [h]
  · rfl
  · rfl
  · rw [tables_removeInode]; rfl

theorem forgetOne_root (e : Env) (s : St) (n : Nat) : forgetOne e s ROOT_ID n = s := by
  simp [forgetOne]

theorem forgetOne_absent (e : Env) (s : St) (i : Ino) (n : Nat) (h : mget s.data i = none) :
    forgetOne e s i n = s := by
  unfold forgetOne
  split
  · rfl
  · simp [h]

theorem forgetOne_data_self (e : Env) (s : St) (i : Ino) (n : Nat) (d : IData)
    (hi : i ≠ ROOT_ID) (hd : mget s.data i = some d) :
    mget (forgetOne e s i n).data i =
      if d.refs - n = 0 then none else some { d with refs := d.refs - n } := by
  unfold forgetOne
  simp only [hi, if_false, hd]
  split <;> simp

theorem forgetOne_removes (e : Env) (s : St) (i : Ino) (n : Nat) (d : IData)
    (hi : i ≠ ROOT_ID) (hd : mget s.data i = some d) (hn : d.refs ≤ n) :
    mget (forgetOne e s i n).data i = none := by
  rw [forgetOne_data_self e s i n d hi hd, if_pos (by omega)]

theorem forgetOne_data_other (e : Env) (s : St) (i : Ino) (n : Nat) :
    ∀ j, i ≠ j → mget (forgetOne e s i n).data j = mget s.data j := by
  intro j h
  unfold forgetOne
  split
  · rfl
  · split
    · rfl
    · simp only
      split
      · simp [mget_mdel_ne _ h]
      · simp [mget_mput_ne _ _ h]

theorem batchForget_root (e : Env) (l : List (Ino × Nat)) (s : St) :
    mget (batchForget e s l).data ROOT_ID = mget s.data ROOT_ID := by
  induction l generalizing s with
  | nil => rfl
  | cons p r ih =>
    obtain ⟨i, n⟩ := p
    simp only [batchForget]
    rw [ih]
    by_cases h : i = ROOT_ID
    · subst h; rw [forgetOne_root]
    · exact forgetOne_data_other e s i n ROOT_ID h

end Fbr.PtRefs
