/-
  ONE HANDLE through ANY operation list.  For a reader handle `i` that is not itself split by the
  list: what it delivered, in operation order, is the prefix of what it held, as it was in memory
  at the start (`reader_handle_run`; any table whose invariant gives `MemOff`).  For a writer handle `i`
  of a virtio-fs table: its addresses hold what was stored through it, in operation order, the rest
  of its space and everything outside the writers' space is untouched (`writer_handle_run`).
  Operations on the other handles (reads, writes, splits of them) may be interleaved arbitrarily.
  At the end the fixed-order instances `vwrite_flat`, `split_write_flat`.
-/
import Fbr.Lemmas.XportCInv

namespace Fbr.Xport

theorem getElem?_set_append_ne {α : Type} {l : List α} {i h : Nat} {x a o : α} (hg : l[i]? = some x) (hne : h ≠ i) :
    (l.set h a ++ [o])[i]? = some x := by
  rw [List.getElem?_append_left (by rw [List.length_set]; exact lt_length_of_getElem? hg), List.getElem?_set_ne hne]
  exact hg

theorem getElem?_set_append_self {α : Type} {l : List α} {i : Nat} (a o : α) (hi : i < l.length) :
    (l.set i a ++ [o])[i]? = some a := by
  rw [List.getElem?_append_left (by rw [List.length_set]; exact hi)]
  exact List.getElem?_set_self hi

theorem getElem?_set_append_new {α : Type} (l : List α) (i : Nat) (a o : α) : (l.set i a ++ [o])[l.length]? = some o := by
  rw [List.getElem?_append_right (by rw [List.length_set]; exact Nat.le_refl _), List.length_set, Nat.sub_self]
  rfl

theorem RdC.flat {D : Bytes} {b b' : IoBufs} {w w' : World} {m : Mem} (h : RdC D b w b' w')
    (hag : ∀ a ∈ addrs b.segs, w.mem.byteAt a = m.byteAt a) (hin : InMem m (addrs b.segs)) :
    D ++ flat m b'.segs = flat m b.segs := by
  have hin' : InMem m (addrs b'.segs) := by rw [h.advBy.addrs']; exact hin.drop _
  have hD : D = ((addrs b.segs).take D.length).map m.byteAt :=
    h.bytes.trans (List.map_congr_left fun a ha => hag a (List.mem_of_mem_take ha))
  rw [flat_eq_map _ _ hin', flat_eq_map _ _ hin, h.advBy.addrs']
  conv => lhs; lhs; rw [hD]
  rw [← List.map_append, List.take_append_drop]

theorem RdC.absBytes {D : Bytes} {b b' : IoBufs} {w w' : World} (h : RdC D b w b' w')
    (hin : InMem w.mem (addrs b.segs)) :
    (b.absBytes w.mem).advance D.length = (D, b'.absBytes w.mem) := by
  have hfl := h.flat (fun _ _ => rfl) hin
  simp only [IoBufs.absBytes, Spec.advance, ← hfl, List.take_left' rfl, List.drop_left' rfl, h.advBy.consumed,
    List.length_append, Nat.min_eq_left (Nat.le_add_right _ _)]

theorem step_reader_handle {Z : List Addr} {m0 : Mem} {s : St} (hr : RdInv Z m0 s) (hm : MemOff Z m0 s) (op : Op) (i : Nat)
    (b0 : IoBufs) (hg : s.readers[i]? = some b0) (hns : ∀ k, op ≠ .rs i k) :
    ∃ b1, (step s op).1.readers[i]? = some b1 ∧ delivered s i op ++ flat m0 b1.segs = flat m0 b0.segs
      ∧ b1.consumed = b0.consumed + (delivered s i op).length := by
  rcases step_readers s op with ⟨e, hd⟩ | ⟨h, b, hrh, hgh, e⟩ | ⟨h, k, b, a, o, eop, hgh, hs, e⟩
  · exact ⟨b0, by rw [e]; exact hg, by rw [hd i]; rfl, by rw [hd i]; rfl⟩
  · rw [e, delivered_eq hrh hgh i]
    by_cases hi : i = h
    · subst hi
      rw [hg] at hgh; cases hgh
      rw [if_pos rfl]
      have hc := hr.rdc hm hg op
      exact ⟨_, List.getElem?_set_self (lt_length_of_getElem? hg),
        hc.flat (fun a ha => hr.agree hm a (mem_ahead_of hg ha))
          (fun a ha => hr.rin a (mem_ahead_of hg ha)), hc.advBy.consumed⟩
    · rw [if_neg hi]
      exact ⟨b0, by simp only; rw [List.getElem?_set_ne (Ne.symm hi)]; exact hg, rfl, rfl⟩
  · rw [e, eop, delivered_rs]
    exact ⟨b0, getElem?_set_append_ne hg (fun e' => hns k (by rw [eop, e'])), rfl, rfl⟩

/-- for a table whose memory stays as in `m0` off the zone `Z` along every run (a virtio-fs table with its
    writers inside `Z`: `exec_vinv`, `VInv.memOff`; a fusedev table and its buffer: `exec_finv`, `FInv.memOff`) -/
theorem reader_handle_run {Z : List Addr} {m0 : Mem} (ops : List Op) {s : St} (hm : ∀ ops', MemOff Z m0 (exec s ops'))
    (hr : RdInv Z m0 s) (i : Nat) (b0 : IoBufs)
    (hgi : s.readers[i]? = some b0) (hns : ∀ k, Op.rs i k ∉ ops) :
    ∃ bf, (exec s ops).readers[i]? = some bf ∧ deliveredAll s i ops ++ flat m0 bf.segs = flat m0 b0.segs
      ∧ bf.consumed = b0.consumed + (deliveredAll s i ops).length := by
  induction ops generalizing s b0 with
  | nil => exact ⟨b0, hgi, rfl, rfl⟩
  | cons op rest ih =>
    obtain ⟨b1, hg1, h1, c1⟩ := step_reader_handle hr (hm []) op i b0 hgi (fun k e => hns k (by rw [e]; exact List.mem_cons_self))
    obtain ⟨bf, hgf, h2, c2⟩ := ih (fun ops' => hm (op :: ops')) (step_rdinv hr op) b1 hg1
      (fun k hk => hns k (List.mem_cons_of_mem _ hk))
    exact ⟨bf, hgf, by rw [deliveredAll, List.append_assoc, h2, h1], by rw [c2, c1, deliveredAll, List.length_append]; omega⟩

theorem reads_run {Z : List Addr} {st : St} (hm : ∀ ops', MemOff Z st.w.mem (exec st ops'))
    (pre ops : List Op) (hr : RdInv Z st.w.mem st)
    (i : Nat) (b0 : IoBufs) (hi : (exec st pre).readers[i]? = some b0) (hns : ∀ k, Op.rs i k ∉ ops) :
    ∃ bf, (exec (exec st pre) ops).readers[i]? = some bf
      ∧ deliveredAll (exec st pre) i ops ++ flat st.w.mem bf.segs = flat st.w.mem b0.segs
      ∧ bf.consumed = b0.consumed + (deliveredAll (exec st pre) i ops).length
      ∧ (∀ a ∈ addrs bf.segs, (exec (exec st pre) ops).w.mem.byteAt a = st.w.mem.byteAt a) := by
  have hm1 : ∀ ops', MemOff Z st.w.mem (exec (exec st pre) ops') := fun ops' => exec_append st pre ops' ▸ hm (pre ++ ops')
  obtain ⟨bf, hgf, hfl, hc⟩ := reader_handle_run ops hm1 (exec_rdinv pre hr) i b0 hi hns
  exact ⟨bf, hgf, hfl, hc, fun a ha => (exec_rdinv ops (exec_rdinv pre hr)).agree (hm1 ops) a (mem_ahead_of hgf ha)⟩

/-- a list with pairwise distinct `ahead`: two different handles share no address.  Handle `h` is
    taken out of `ahead l` by overwriting it with the empty cursor `⟨[], 0⟩`: `perm_ahead_set` then
    gives `ahead l ~ addrs b.segs ++ ahead (the others)`, and `Nodup` of an append is `Nodup` of
    both parts plus disjointness -/
theorem ahead_disjoint_handles {l : List IoBufs} (hnd : (ahead l).Nodup) {i h : Nat} {b0 b : IoBufs}
    (hg : l[i]? = some b0) (hgh : l[h]? = some b) (hne : h ≠ i) : ∀ a ∈ addrs b0.segs, a ∉ addrs b.segs := by
  intro a ha hb
  exact (nodup_of_perm_append (perm_ahead_set l h b ⟨[], 0⟩ (addrs b.segs) hgh (by simp [addrs])) hnd).2.2 a hb
    (mem_ahead_of (by rw [List.getElem?_set_ne hne]; exact hg) ha)

theorem ahead_nodup_handle {l : List IoBufs} (hnd : (ahead l).Nodup) {i : Nat} {b : IoBufs} (hg : l[i]? = some b) :
    (addrs b.segs).Nodup :=
  (nodup_of_perm_append (perm_ahead_set l i b ⟨[], 0⟩ (addrs b.segs) hg (by simp [addrs])) hnd).1

section
variable {W0 : List Addr} {m0 : Mem}

theorem step_writer_handle {s : St} (hv : VInv W0 m0 s) (hW : W0.Nodup) (op : Op) (i : Nat)
    (b0 : IoBufs) (hg : s.writers[i]? = some b0) (hns : ∀ k, op ≠ .ws i k) :
    ∃ b1, (step s op).1.writers[i]? = some b1
      ∧ WrH (placed s i op) b0 s.w.mem (step s op).1.w.mem b1
      ∧ (∀ a ∈ (addrs b0.segs).take (placed s i op).length, a ∉ ahead (step s op).1.writers)
      ∧ (∀ a ∈ ahead (step s op).1.writers, a ∈ ahead s.writers)
      ∧ (∀ a, a ∉ ahead s.writers → (step s op).1.w.mem.byteAt a = s.w.mem.byteAt a) := by
  have hnd := (nodup_of_perm_append hv.wonce hW).2.1
  rcases step_writers s op hv.nofuse with ⟨e, hk, hd, _⟩ | ⟨h, b, hwh, hgh, e⟩ | ⟨h, k, b, a, o, eop, hgh, hs, e⟩
  · rw [e, hd i]; exact ⟨b0, hg, WrH.same (fun _ _ => by rw [hk.1]), by simp, fun _ h => h, fun _ _ => by rw [hk.1]⟩
  · rw [e, placed_eq hwh hgh i]
    have hw := hv.wrc hgh op
    have hsub := ahead_adv_subset hgh hw.toAdv
    have hfr : ∀ a, a ∉ ahead s.writers → (writerRun b s.w op).2.mem.byteAt a = s.w.mem.byteAt a :=
      fun a ha => hw.frame a fun hm => ha (mem_ahead_of hgh (List.mem_of_mem_take hm))
    by_cases hi : i = h
    · subst hi
      rw [hg] at hgh; cases hgh
      rw [if_pos rfl]
      refine ⟨_, List.getElem?_set_self (lt_length_of_getElem? hg), hw.toWrH (ahead_nodup_handle hnd hg), ?_, hsub, hfr⟩
      exact (nodup_of_perm_append (perm_ahead_adv hg hw.adv) hnd).2.2
    · rw [if_neg hi]
      refine ⟨b0, by simp only; rw [List.getElem?_set_ne (Ne.symm hi)]; exact hg, ?_, by simp, hsub, hfr⟩
      exact WrH.same fun a ha => hw.frame a fun hm =>
        ahead_disjoint_handles hnd hg hgh (Ne.symm hi) a ha (List.mem_of_mem_take hm)
  · rw [e, eop, placed_ws]
    exact ⟨b0, getElem?_set_append_ne hg (fun e' => hns k (by rw [eop, e'])), WrH.same (fun _ _ => rfl), by simp,
      ahead_split_subset hgh hs, fun _ _ => rfl⟩

theorem writer_handle_run (ops : List Op) {s : St} (hv : VInv W0 m0 s) (hW : W0.Nodup)
    (i : Nat) (b0 : IoBufs) (hg : s.writers[i]? = some b0) (hns : ∀ k, Op.ws i k ∉ ops) :
    ∃ bf, (exec s ops).writers[i]? = some bf
      ∧ WrH (placedAll s i ops) b0 s.w.mem (exec s ops).w.mem bf
      ∧ (∀ a, a ∉ ahead s.writers → (exec s ops).w.mem.byteAt a = s.w.mem.byteAt a) := by
  induction ops generalizing s b0 with
  | nil => exact ⟨b0, hg, WrH.same (fun _ _ => rfl), fun _ _ => rfl⟩
  | cons op rest ih =>
    obtain ⟨b1, hg1, h1, nin, sub, fr1⟩ := step_writer_handle hv hW op i b0 hg
      (fun k e => hns k (by rw [e]; exact List.mem_cons_self))
    obtain ⟨bf, hgf, h2, fr2⟩ := ih (step_vinv hv op) b1 hg1 (fun k hk => hns k (List.mem_cons_of_mem _ hk))
    refine ⟨bf, hgf, h1.trans h2 (fun a ha => fr2 a (nin a ha)), ?_⟩
    intro a ha
    show (exec (step s op).1 rest).w.mem.byteAt a = s.w.mem.byteAt a
    rw [fr2 a (fun hm => ha (sub a hm)), fr1 a ha]

theorem writer_flat_run (ops : List Op) {s : St} (hv : VInv W0 m0 s) (hW : W0.Nodup)
    (i : Nat) (b0 : IoBufs) (hg : s.writers[i]? = some b0) (hns : ∀ k, Op.ws i k ∉ ops) :
    flat (exec s ops).w.mem b0.segs = placedAll s i ops ++ (flat s.w.mem b0.segs).drop (placedAll s i ops).length := by
  obtain ⟨_, _, hwr, _⟩ := writer_handle_run ops hv hW i b0 hg hns
  exact hwr.flat (hv.inMem hg) (fun x => by rw [(exec_vinv ops hv).len, hv.len])

theorem split_writer_run (ops : List Op) {s : St} (hv : VInv W0 m0 s) (hW : W0.Nodup)
    {i k : Nat} {b a o : IoBufs} (hi : s.writers[i]? = some b) (hs : b.splitAt k = .ok (a, o))
    (hns : ∀ k', Op.ws i k' ∉ ops ∧ Op.ws s.writers.length k' ∉ ops) :
    flat (exec (step s (.ws i k)).1 ops).w.mem b.segs
      = (placedAll (step s (.ws i k)).1 i ops
          ++ (flat s.w.mem a.segs).drop (placedAll (step s (.ws i k)).1 i ops).length)
        ++ (placedAll (step s (.ws i k)).1 s.writers.length ops
          ++ (flat s.w.mem o.segs).drop (placedAll (step s (.ws i k)).1 s.writers.length ops).length) := by
  have hv1 := step_vinv hv (.ws i k)
  have e1 : (step s (.ws i k)).1 = { s with writers := s.writers.set i a ++ [o] } := by simp only [step, hi, hs, setAt]
  generalize (step s (.ws i k)).1 = s1 at *
  subst e1
  have fa := writer_flat_run ops hv1 hW i a (getElem?_set_append_self a o (lt_length_of_getElem? hi)) (fun k' => (hns k').1)
  have fo := writer_flat_run ops hv1 hW s.writers.length o (getElem?_set_append_new _ i a o) (fun k' => (hns k').2)
  rw [flat_of_addrs_append _ _ _ _ (splitAt_addrs hs) (fun x hx => by rw [(exec_vinv ops hv1).len, ← hv.len]; exact hv.inMem hi x hx), fa, fo]

end

/-! ### fixed-order instances, as flat content

  What writes leave in the writer's buffers: one `write`, a run of `write` calls, and a writer split into
  a header part and a data part — data written first, header afterwards (the order the server uses):
  the original buffers end up holding header ++ untouched header space ++ data ++ untouched data space.
  For any operation list, any writer operations and any interleaving on a table: `writer_flat_run`,
  `split_writer_run` above. -/

theorem vwrite_flat (b : IoBufs) (w : World) (data : Bytes)
    (hnd : (addrs b.segs).Nodup) (hin : InMem w.mem (addrs b.segs))
    (hov : b.consumed + total b.segs < USIZE) (hfit : data.length ≤ total b.segs) :
    flat (VirtioW.write b w data).w.mem b.segs = data ++ (flat w.mem b.segs).drop data.length := by
  have h := vwrite_fits b w data hin hov hfit
  exact (h.toWrH hnd).flat hin h.len

def writeMany (b : IoBufs) (w : World) : List Bytes → IoBufs × World
  | [] => (b, w)
  | d :: rest => writeMany (VirtioW.write b w d).b (VirtioW.write b w d).w rest

theorem writeMany_wrc (b : IoBufs) (w : World) (datas : List Bytes)
    (hin : InMem w.mem (addrs b.segs)) (hov : b.consumed + total b.segs < USIZE)
    (hfit : datas.flatten.length ≤ total b.segs) :
    WrC datas.flatten b w (writeMany b w datas).1 (writeMany b w datas).2 := by
  induction datas generalizing b w with
  | nil => exact WrC.refl b w
  | cons d rest ih =>
    simp only [List.flatten_cons, List.length_append] at hfit ⊢
    have h1 := vwrite_fits b w d hin hov (by omega)
    exact h1.trans (ih _ _ (h1.inMem hin) (h1.hov hov) (by rw [h1.adv.total_eq]; omega))

theorem flat_congr {m m' : Mem} {segs : List Seg} (hin : InMem m (addrs segs))
    (hlen : ∀ x, (m'.get x).length = (m.get x).length) (h : ∀ a ∈ addrs segs, m'.byteAt a = m.byteAt a) :
    flat m' segs = flat m segs := by
  rw [flat_eq_map _ _ hin, flat_eq_map _ _ (fun a ha => by rw [hlen]; exact hin a ha)]
  exact List.map_congr_left h

theorem split_write_flat (b a o : IoBufs) (w : World) (k : Nat) (hs : b.splitAt k = .ok (a, o))
    (datas hdrs : List Bytes) (hp : 0 < w.p)
    (hnd : (addrs b.segs).Nodup) (hin : InMem w.mem (addrs b.segs)) (hov : b.consumed + total b.segs < USIZE)
    (hfd : datas.flatten.length ≤ total o.segs) (hfh : hdrs.flatten.length ≤ total a.segs) :
    flat (writeMany a (writeMany o w datas).2 hdrs).2.mem b.segs
      = (hdrs.flatten ++ (flat w.mem a.segs).drop hdrs.flatten.length)
        ++ (datas.flatten ++ (flat w.mem o.segs).drop datas.flatten.length) := by
  obtain ⟨hova, hovo⟩ := split_facts hs hov
  have hsplit := splitAt_addrs hs
  have hnd2 := hnd
  rw [hsplit] at hnd2
  obtain ⟨hnda, hndo, hdis⟩ := List.nodup_append.mp hnd2
  have hina : InMem w.mem (addrs a.segs) := fun x hx => hin x (by rw [hsplit]; exact List.mem_append_left _ hx)
  have hino : InMem w.mem (addrs o.segs) := fun x hx => hin x (by rw [hsplit]; exact List.mem_append_right _ hx)
  have ho := writeMany_wrc o w datas hino hovo hfd
  have hina1 : InMem (writeMany o w datas).2.mem (addrs a.segs) := fun x hx => by rw [ho.len]; exact hina x hx
  have ha := writeMany_wrc a (writeMany o w datas).2 hdrs hina1 hova hfh
  have hlen : ∀ x, ((writeMany a (writeMany o w datas).2 hdrs).2.mem.get x).length = (w.mem.get x).length :=
    fun x => by rw [ha.len, ho.len]
  -- header space is untouched by the data writes, data space by the header writes
  have e1 : flat (writeMany o w datas).2.mem a.segs = flat w.mem a.segs :=
    flat_congr hina ho.len (fun x hx => ho.frame x (fun hm => hdis x hx x (List.mem_of_mem_take hm) rfl))
  have e2 : flat (writeMany a (writeMany o w datas).2 hdrs).2.mem o.segs = flat (writeMany o w datas).2.mem o.segs :=
    flat_congr (fun x hx => by rw [ho.len]; exact hino x hx) ha.len
      (fun x hx => ha.frame x (fun hm => hdis x (List.mem_of_mem_take hm) x hx rfl))
  rw [flat_of_addrs_append _ _ _ _ hsplit (fun x hx => by rw [hlen]; exact hin x hx),
    (ha.toWrH hnda).flat hina1 ha.len, e1, e2, (ho.toWrH hndo).flat hino ho.len]

end Fbr.Xport
