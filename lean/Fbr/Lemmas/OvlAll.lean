/-
  Every operation keeps the in-memory forest a valid cache of the disk.
-/
import Fbr.Lemmas.OvlLink
import Fbr.Lemmas.OvlLocal

namespace Fbr.Ovl

/-- every non-modifying operation, the six that copy up and change attributes, the four that create
    an entry, and unlink: everything except link and rmdir.  The statements that assume it hold
    without it (`runOp_cons_all`, `run_cons_all`). -/
def Op.covered : Op → Bool
  | .open .. | .write .. | .chmod .. | .truncate .. | .setx .. | .rmx .. => true
  | .create .. | .mkdir .. | .mknod .. | .symlink .. | .unlink .. => true
  | op => !op.isModifying

/-- that the six attribute-changing operations keep the cache valid is part of what they leave at their
    target (`runOp_attr_eff`) -/
theorem runOp_attr_cons {op : Op} {p : List Name} {g : Node → Node} (hop : op.attrChange = some (p, g)) :
    Triple Consistent (runOp op) (fun _ => Consistent) Consistent :=
  Triple.of_cd fun d => (runOp_attr_eff d op hop).post fun _ _ ⟨_, _, h⟩ => h.1

theorem runOp_cons_all (op : Op) : Triple Consistent (runOp op) (fun _ => Consistent) Consistent := by
  cases op with
  | «open» p fl =>
    cases hw : fl.isWrite with
    | true => exact runOp_attr_cons (if_pos hw)
    | false => exact runOp_ro loadDirectory_cons _ hw
  | write | chmod | truncate | setx | rmx => exact runOp_attr_cons rfl
  | lookup | readdir | read | readlink | getx | walk => exact runOp_ro loadDirectory_cons _ rfl
  | create | mkdir | mknod | symlink | unlink | rmdir => exact Triple.of_cd fun d => ((runOp_ns_spec d rfl).post fun _ _ h => h.1).onErr fun _ h => h.1
  | link src dst => exact Triple.of_cd fun d => (runOp_link_spec d src dst).post fun _ _ h => h.1

theorem run_cons_all (ops : List Op) : ∀ s, Consistent s → Consistent (run s ops) :=
  run_keeps ops fun op _ => runOp_cons_all op

theorem run_cons (ops : List Op) (hops : ∀ op ∈ ops, op.covered = true) :
    ∀ s, Consistent s → Consistent (run s ops) :=
  have _ := hops
  run_cons_all ops

end Fbr.Ovl
