/-
  The host calls on a layer (`hMk`, `hUnlink`, `hChmod`, …): what each computes when it succeeds.  A
  layer stays a tree with a directory root (`HostStep`) when one entry below a directory is replaced
  (`treeOK_set`, what the namespace calls do) and when every entry keeps its kind (`hostStep_of_shape`), as
  under the six attribute-changing calls, which change the entry they are applied to by a function on the
  node (`AttrCall`); WRITE is one of them, at the offset the layer's own entry gives (`attrCall_hWriteAt`).
-/
import Fbr.Ovl

namespace Fbr.Ovl

namespace Node

theorem not_absent_of_dir {n : Node} (h : n.isDir = true) : n.isAbsent = false := by
  cases n <;> simp_all [isDir, isAbsent]

theorem not_whiteout_of_dir {n : Node} (h : n.isDir = true) : n.isWhiteout = false := by
  cases n <;> simp_all [isDir, isWhiteout]

theorem not_dir_of_absent {n : Node} (h : n.isAbsent = true) : n.isDir = false := by
  cases n <;> simp_all [isDir, isAbsent]

theorem not_dir_of_whiteout {n : Node} (h : n.isWhiteout = true) : n.isDir = false := by
  cases n <;> simp_all [isDir, isWhiteout]

theorem not_opaque_of_not_dir {n : Node} (h : n.isDir = false) : n.isOpaqueDir = false := by
  cases n <;> simp_all [isDir, isOpaqueDir]

theorem eq_whiteout {n : Node} (h : n.isWhiteout = true) : n = .whiteout := by
  cases n <;> simp_all [isWhiteout]

theorem eq_absent {n : Node} (h : n.isAbsent = true) : n = .absent := by
  cases n <;> simp_all [isAbsent]

theorem exists_dir {n : Node} (h : n.isDir = true) : ∃ m o x, n = .dir m o x := by
  cases n <;> simp_all [isDir]

theorem view_ne_none {n : Node} (hw : n.isWhiteout = false) (ha : n.isAbsent = false) : n.view ≠ .none := by
  cases n <;> simp_all [view, isWhiteout, isAbsent]

theorem view_ne_dir {n : Node} (h : n.isDir = false) (m x : Nat) : n.view ≠ .dir m x := by
  cases n <;> simp_all [view, isDir]

end Node

/-- same kind of entry: scanning cannot tell the two nodes apart -/
def sameShape (a b : Node) : Prop :=
  a.isAbsent = b.isAbsent ∧ a.isWhiteout = b.isWhiteout ∧ a.isDir = b.isDir ∧ a.isOpaqueDir = b.isOpaqueDir

theorem sameShape_refl (a : Node) : sameShape a a := ⟨rfl, rfl, rfl, rfl⟩

/-- the layer is a tree: whatever exists lies in a directory -/
def TreeOK (L : Layer) : Prop := ∀ n p, (L (n :: p)).isAbsent = false → (L p).isDir = true

/-- one successful host call: the layer root stays a directory and the layer stays a tree -/
def HostStep (L L' : Layer) : Prop :=
  ((L []).isDir = true → (L' []).isDir = true) ∧ (TreeOK L → TreeOK L')

theorem leaf_of_nondir {L : Layer} (ht : TreeOK L) {q : Path} (hq : (L q).isDir = false) (m : Name) :
    (L (m :: q)).isAbsent = true := by
  cases ha : (L (m :: q)).isAbsent with
  | true => rfl
  | false => have := ht m q ha; rw [hq] at this; cases this

/-- in a tree, the ancestors of a directory are directories -/
theorem dir_of_below {L : Layer} (ht : TreeOK L) {q p : Path} (hq : q.isSuffixOf p = true) (hp : (L p).isDir = true) :
    (L q).isDir = true := by
  obtain ⟨t, rfl⟩ := List.isSuffixOf_iff_suffix.1 hq
  clear hq
  induction t with
  | nil => exact hp
  | cons c t ih => exact ih (ht c (t ++ q) (Node.not_absent_of_dir hp))

theorem hostStep_of_shape {L L' : Layer} (h : ∀ q, sameShape (L' q) (L q)) : HostStep L L' :=
  ⟨fun hd => by rw [(h []).2.2.1]; exact hd, fun ht n q hn => by rw [(h _).1] at hn; rw [(h _).2.2.1]; exact ht n q hn⟩

/-- replacing the entry `n` of `pp`, below which there is nothing, keeps a tree -/
theorem treeOK_set {L : Layer} (ht : TreeOK L) {pp : Path} {n : Name} (X : Node)
    (hp : X.isAbsent = false → (L pp).isDir = true) (hleaf : ∀ m, (L (m :: n :: pp)).isAbsent = true) :
    TreeOK (L.set (n :: pp) X) := by
  intro m q hmq
  simp only [Layer.set] at hmq ⊢
  by_cases h1 : m :: q = n :: pp
  · rw [if_pos h1] at hmq
    have hq : q = pp := by injection h1
    rw [hq, if_neg (fun h => by simpa using congrArg List.length h)]
    exact hp hmq
  · rw [if_neg h1] at hmq
    by_cases h2 : q = n :: pp
    · rw [h2, hleaf m] at hmq; cases hmq
    · rw [if_neg h2]; exact ht m q hmq

theorem hMk_ok {L : Layer} {pp : Path} {n : Name} (X : Node) (hp : (L pp).isDir = true)
    (ha : (L (n :: pp)).isAbsent = true) : hMk L pp n X = .ok (L.set (n :: pp) X) := by
  obtain ⟨m, o, x, hd⟩ := Node.exists_dir hp
  simp [hMk, hParent, hd, ha]

theorem of_hMk_ok {L L' : Layer} {pp : Path} {n : Name} {X : Node} (h : hMk L pp n X = .ok L') :
    (L pp).isDir = true ∧ (L (n :: pp)).isAbsent = true ∧ L' = L.set (n :: pp) X := by
  simp only [hMk, hParent] at h
  cases hx : L pp <;> simp [hx] at h
  by_cases ha : (L (n :: pp)).isAbsent = true
  · simp [ha] at h; exact ⟨rfl, ha, h.symm⟩
  · simp [ha] at h

theorem of_hUnlink_ok {L L' : Layer} {pp : Path} {n : Name} (h : hUnlink L pp n = .ok L') :
    L' = L.set (n :: pp) .absent ∧ (L (n :: pp)).isDir = false := by
  simp only [hUnlink] at h
  cases hx : L (n :: pp) <;> simp [hx] at h <;> exact ⟨h.symm, rfl⟩

theorem hCreateWhiteout_ok {L : Layer} {pp : Path} {n : Name} (hp : (L pp).isDir = true)
    (ha : (L (n :: pp)).isAbsent = true) : hCreateWhiteout L pp n = .ok (L.set (n :: pp) .whiteout) := by
  rw [hCreateWhiteout, Node.eq_absent ha]
  exact hMk_ok _ hp ha

theorem hDeleteWhiteout_ok {L : Layer} {pp : Path} {n : Name} (h : L (n :: pp) = .whiteout) :
    hDeleteWhiteout L pp n = .ok (L.set (n :: pp) .absent) := by
  simp [hDeleteWhiteout, hUnlink, h]

theorem hostStep_mk (L : Layer) (p : Path) (n : Name) (nd : Node) (hp : (L p).isDir = true)
    (ha : (L (n :: p)).isAbsent = true) : HostStep L (L.set (n :: p) nd) :=
  ⟨fun hd => by simpa [Layer.set] using hd, fun ht => treeOK_set ht nd (fun _ => hp) (leaf_of_nondir ht (Node.not_dir_of_absent ha))⟩

/-- `f` is a host call that only changes attributes: on success no entry changes its kind, and the
    entry at `p` becomes `g` of what it was -/
def AttrCall (f : Layer → Except Nat Layer) (p : Path) (g : Node → Node) : Prop :=
  ∀ L L', f L = .ok L' → (∀ q, sameShape (L' q) (L q)) ∧ L' p = g (L p)

def chmodN (mode : Nat) : Node → Node
  | .file i _ c x => .file i mode c x
  | .dir _ o x => .dir mode o x
  | .other i _ => .other i mode
  | n => n

def truncN (k : Nat) : Node → Node
  | .file i m c x => .file i m (resize c k) x
  | n => n

def openN (trunc : Bool) : Node → Node
  | .file i m c x => .file i m (if trunc then [] else c) x
  | n => n

def writeN (off : Nat) (data : List Nat) : Node → Node
  | .file i m c x => .file i m (pwrite c off data) x
  | n => n

def setxN (v : Nat) : Node → Node
  | .file i m c _ => .file i m c v
  | .dir m o _ => .dir m o v
  | n => n

/-- the offset of a WRITE on the file `X`: its end with O_APPEND (what `appendOff` reads off the state) -/
def writeOff (append : Bool) (off : Nat) (X : Node) : Nat :=
  if append then (match X with | .file _ _ c _ => c.length | _ => 0) else off

/-- WRITE(append?, off, data) on a node -/
def writeAtN (append : Bool) (off : Nat) (data : List Nat) (X : Node) : Node := writeN (writeOff append off X) data X

theorem attrCall_id (L : Layer) (p : Path) (g : Node → Node) (hg : g (L p) = L p) :
    (∀ q, sameShape (L q) (L q)) ∧ L p = g (L p) :=
  ⟨fun _ => sameShape_refl _, hg.symm⟩

/-- the call rewrites every name of the inode of the file (or special file) at `p` by `g`, which at
    `p` does what `g'` does (that `g` keeps the kind of a node is seen by cases) -/
theorem attrCall_updFile (L : Layer) (p : Path) (id : Nat) (g g' : Node → Node)
    (hp : (∃ m c x, L p = .file id m c x) ∨ ∃ m, L p = .other id m) (hgg : g (L p) = g' (L p))
    (hg : ∀ nd, sameShape (g nd) nd := by intro nd; cases nd <;> exact ⟨rfl, rfl, rfl, rfl⟩) :
    (∀ q, sameShape ((L.updFile id g) q) (L q)) ∧ (L.updFile id g) p = g' (L p) := by
  refine ⟨fun q => ?_, ?_⟩
  · unfold Layer.updFile
    cases L q with
    | file i m c x => simp only []; split <;> first | exact hg _ | exact sameShape_refl _
    | other i m => simp only []; split <;> first | exact hg _ | exact sameShape_refl _
    | _ => exact sameShape_refl _
  · rw [← hgg]
    rcases hp with ⟨m, c, x, h⟩ | ⟨m, h⟩ <;> simp [Layer.updFile, h]

theorem updFile_dir (L : Layer) (id : Nat) (f : Node → Node) (q : Path) (h : (L q).isDir = true) :
    (L.updFile id f) q = L q := by
  unfold Layer.updFile
  cases hx : L q <;> simp_all [Node.isDir]

theorem attrCall_setDir (L : Layer) (p : Path) {m o x : Nat} (h : L p = .dir m o x) (m' x' : Nat) :
    (∀ q, sameShape ((L.set p (.dir m' o x')) q) (L q)) ∧ (L.set p (.dir m' o x')) p = .dir m' o x' := by
  refine ⟨fun q => ?_, by simp [Layer.set]⟩
  simp only [Layer.set]
  split
  · rename_i hq; rw [hq, h]; exact ⟨rfl, rfl, rfl, rfl⟩
  · exact sameShape_refl _

theorem attrCall_hChmod (p : Path) (mode : Nat) : AttrCall (fun L => hChmod L p mode) p (chmodN mode) := by
  intro L L' h
  simp only [hChmod] at h
  split at h
  · cases h
  · rename_i id m c x hx
    cases h
    exact attrCall_updFile L p id _ _ (Or.inl ⟨m, c, x, hx⟩) (by rw [hx]; rfl)
  · rename_i m o x hx
    cases h
    have := attrCall_setDir L p hx mode x
    rw [hx]; exact this
  · rename_i id m hx
    cases h
    exact attrCall_updFile L p id _ _ (Or.inr ⟨m, hx⟩) (by rw [hx]; rfl)
  · cases h
  · rename_i hx
    cases h; exact attrCall_id L p _ (by rw [hx]; rfl)

theorem attrCall_hTruncate (p : Path) (k : Nat) : AttrCall (fun L => hTruncate L p k) p (truncN k) := by
  intro L L' h
  simp only [hTruncate] at h
  split at h
  · cases h
  · rename_i id m c x hx
    cases h
    exact attrCall_updFile L p id _ _ (Or.inl ⟨m, c, x, hx⟩) (by rw [hx]; rfl)
  · cases h
  · cases h

theorem attrCall_hOpen (p : Path) (t : Bool) : AttrCall (hOpen · p t) p (openN t) := by
  intro L L' h
  simp only [hOpen] at h
  split at h
  · cases h
  · rename_i id m c x hx
    split at h
    · rename_i ht
      cases h
      exact attrCall_updFile L p id _ _ (Or.inl ⟨m, c, x, hx⟩) (by rw [hx]; simp [openN, ht])
    · rename_i ht
      cases h; exact attrCall_id L p _ (by rw [hx]; simp [openN, ht])
  · rename_i hx
    cases h; exact attrCall_id L p _ (by rw [hx]; rfl)
  · cases h
  · cases h

theorem attrCall_hWrite (p : Path) (off : Nat) (data : List Nat) :
    AttrCall (hWrite · p off data) p (writeN off data) := by
  intro L L' h
  simp only [hWrite] at h
  split at h
  · rename_i id m c x hx
    cases h
    exact attrCall_updFile L p id _ _ (Or.inl ⟨m, c, x, hx⟩) (by rw [hx]; rfl)
  · cases h

/-- WRITE at the offset the layer's own entry gives -/
theorem attrCall_hWriteAt (p : Path) (append : Bool) (off : Nat) (data : List Nat) :
    AttrCall (fun L => hWrite L p (writeOff append off (L p)) data) p (writeAtN append off data) :=
  fun L L' h => attrCall_hWrite p _ data L L' h

theorem attrCall_hSetX (p : Path) (v : Nat) : AttrCall (fun L => hSetX L p v) p (setxN v) := by
  intro L L' h
  simp only [hSetX] at h
  split at h
  · cases h
  · rename_i id m c x hx
    cases h
    exact attrCall_updFile L p id _ _ (Or.inl ⟨m, c, x, hx⟩) (by rw [hx]; rfl)
  · rename_i m o x hx
    cases h
    have := attrCall_setDir L p hx m v
    rw [hx]; exact this
  · cases h

theorem attrCall_hRmX (p : Path) : AttrCall (fun L => hRmX L p) p (setxN 0) := by
  intro L L' h
  simp only [hRmX] at h
  split at h
  · cases h
  · split at h
    · cases h
    · exact attrCall_hSetX p 0 L L' h

end Fbr.Ovl
