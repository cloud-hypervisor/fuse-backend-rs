/-
  The operations of Reader and VirtioFsWriter at address level.  The retry loops are described once
  (`readExact_rule` … `writeAllLoop_rule`: what every single call preserves holds after the loop);
  with the closures of XportCall every public operation advances its cursor (`Adv`; a single call by
  `moved res`), reader operations leave memory, descriptor and write log alone (`KeepW`, no
  hypothesis on the cursor), `read` returns `min(n, available)` and a `write` that fits returns the
  full length.
-/
import Fbr.Lemmas.XportCall
import Fbr.Lemmas.XportStep

namespace Fbr.Xport

theorem readExact_rule (P : IoBufs → World → Bytes → Prop)
    (hstep : ∀ b w n acc, P b w acc →
      P (Reader.read b w n).b (Reader.read b w n).w (acc ++ (Reader.read b w n).aux)
      ∧ ((Reader.read b w n).res = .ok 0 ∨ (∃ e, (Reader.read b w n).res = .error e) →
          P (Reader.read b w n).b (Reader.read b w n).w acc))
    (fuel : Nat) (b : IoBufs) (w : World) (n : Nat) (acc : Bytes) (h : P b w acc) :
    P (Reader.readExact fuel b w n acc).b (Reader.readExact fuel b w n acc).w (Reader.readExact fuel b w n acc).aux := by
  fun_induction Reader.readExact fuel b w n acc
  -- out of fuel, or nothing left to read: nothing was called
  case case1 | case2 => exact h
  -- end of input: the accumulator stays
  case case3 _ hr => exact (hstep _ _ _ _ h).2 (.inl hr)
  -- a short count: the loop goes on with the bytes appended
  case case4 ih => exact ih (hstep _ _ _ _ h).1
  -- `Interrupted`: the loop goes on with the accumulator as it was
  case case5 _ hr ih => exact ih ((hstep _ _ _ _ h).2 (.inr ⟨_, hr⟩))
  -- any other error: the accumulator stays
  case case6 _ e _ hr => exact (hstep _ _ _ _ h).2 (.inr ⟨e, hr⟩)

theorem readExactTo_rule (P : IoBufs → World → Script → Prop)
    (hstep : ∀ b w s c, P b w s →
      P (Reader.readTo b w s c false).b (Reader.readTo b w s c false).w (Reader.readTo b w s c false).aux)
    (fuel : Nat) (b : IoBufs) (w : World) (s : Script) (c : Nat) (h : P b w s) :
    P (Reader.readExactTo fuel b w s c).b (Reader.readExactTo fuel b w s c).w (Reader.readExactTo fuel b w s c).aux := by
  fun_induction Reader.readExactTo fuel b w s c
  -- a short count or `Interrupted`: the loop goes on from what the call left
  case case4 ih | case5 ih => exact ih (hstep _ _ _ _ h)
  -- out of fuel, or nothing left to read: nothing was called
  case case1 | case2 => exact h
  -- end of input, or an error: what the last call left
  all_goals exact hstep _ _ _ _ h

/-- `write_all_from`; the last argument of `P` is the number of bytes still to be written, `0` when
    the loop succeeds -/
theorem writeAllLoop_rule (P : IoBufs → World → Script → Nat → Prop)
    (hstep : ∀ b w s c, P b w s c →
      P (VirtioW.writeFrom b w s c none).b (VirtioW.writeFrom b w s c none).w (VirtioW.writeFrom b w s c none).aux
        (c - moved (VirtioW.writeFrom b w s c none).res))
    (fuel : Nat) (b : IoBufs) (w : World) (s : Script) (c : Nat) (h : P b w s c) :
    ∃ c', P (VirtioW.writeAllLoop fuel b w s c).b (VirtioW.writeAllLoop fuel b w s c).w
        (VirtioW.writeAllLoop fuel b w s c).aux c'
      ∧ ((VirtioW.writeAllLoop fuel b w s c).res = .ok () → c' = 0) := by
  fun_induction VirtioW.writeAllLoop fuel b w s c
  -- out of fuel: `c` is still to go
  case case1 => exact ⟨_, h, nofun⟩
  -- nothing left to write
  case case2 => exact ⟨0, h, fun _ => rfl⟩
  -- a short count, or `Interrupted`: the loop goes on with what is then left to go
  case case4 _ _ _ hr ih | case5 _ hr ih => have hs := hstep _ _ _ _ h; rw [hr] at hs; exact ih hs
  -- nothing written, or any other error: the loop stops with `c` to go
  all_goals (have hs := hstep _ _ _ _ h; rename_i hr; rw [hr] at hs; exact ⟨_, hs, nofun⟩)

theorem read_advBy (b : IoBufs) (w : World) (n : Nat) (hov : b.consumed + total b.segs < USIZE) :
    AdvBy (moved (Reader.read b w n).res) false false b w (Reader.read b w n).b (Reader.read b w n).w :=
  (consume_adv b w false false n [] _ hov (fok_copyOut w _ n _)).2

theorem readExact_adv (fuel : Nat) (b : IoBufs) (w : World) (n : Nat) (acc : Bytes)
    (hov : b.consumed + total b.segs < USIZE) :
    Adv false false b w (Reader.readExact fuel b w n acc).b (Reader.readExact fuel b w n acc).w := by
  refine readExact_rule (fun b' w' _ => Adv false false b w b' w') ?_ fuel b w n acc Adv.refl
  intro b' w' n _ h
  have := h.trans (⟨_, read_advBy b' w' n (by rw [h.inv]; exact hov)⟩)
  exact ⟨this, fun _ => this⟩

theorem readObj_adv (b : IoBufs) (w : World) (n : Nat) (hov : b.consumed + total b.segs < USIZE) :
    Adv false false b w (Reader.readObj b w n).b (Reader.readObj b w n).w :=
  readExact_adv _ b w n [] hov

theorem readTo_advBy (b : IoBufs) (w : World) (dst : Script) (count : Nat) (at_ : Bool)
    (hov : b.consumed + total b.segs < USIZE) :
    AdvBy (moved (Reader.readTo b w dst count at_).res) false false b w (Reader.readTo b w dst count at_).b
      (Reader.readTo b w dst count at_).w :=
  (consume_adv b w false false count dst (fun w bufs => dst.writeVectored w bufs at_) hov
    (writeVectored_spec dst w _ at_).1).2

theorem readExactTo_adv (fuel : Nat) (b : IoBufs) (w : World) (dst : Script) (count : Nat)
    (hov : b.consumed + total b.segs < USIZE) :
    Adv false false b w (Reader.readExactTo fuel b w dst count).b (Reader.readExactTo fuel b w dst count).w :=
  readExactTo_rule (fun b' w' _ => Adv false false b w b' w')
    (fun b' w' s c h => h.trans (⟨_, readTo_advBy b' w' s c false (by rw [h.inv]; exact hov)⟩))
    fuel b w dst count Adv.refl

theorem allocate_isEmpty_total (segs : List Seg) (n : Nat) (h : (allocate segs n).isEmpty = true) :
    min n (total segs) = 0 := by
  rw [← total_allocate]
  cases hl : allocate segs n with
  | nil => rfl
  | cons x r => rw [hl] at h; cases h

theorem read_res (b : IoBufs) (w : World) (n : Nat) (hov : b.consumed + total b.segs < USIZE) :
    (Reader.read b w n).res = .ok (min n (total b.segs)) := by
  have ht : (copyOut w (allocate b.segs n) n).2.2 = min n (total b.segs) := by
    rw [(copyOut_spec w (allocate b.segs n) n).2.2.2.2, total_allocate]; omega
  obtain ⟨r, hr, _, e, _⟩ := consume_spec (fun r => r.1 = .ok (min n (total b.segs)))
    b w false false n [] _ hov (rfl : _ = Reader.read b w n) (fok_copyOut w _ n _)
    (fun he => by rw [allocate_isEmpty_total _ _ he]) (congrArg Except.ok ht)
  exact e.trans hr

theorem read_advBy_min (b : IoBufs) (w : World) (n : Nat) (hov : b.consumed + total b.segs < USIZE) :
    AdvBy (min n (total b.segs)) false false b w (Reader.read b w n).b (Reader.read b w n).w := by
  have h := read_advBy b w n hov
  rwa [read_res b w n hov] at h

/-- no hypothesis on the cursor: when its counter overflows the call fails, in the world the closure left -/
theorem consume_keep {β : Type} (b : IoBufs) (w : World) (count : Nat) (aux0 : β)
    (f : World → List Seg → Except IoErr Nat × World × β) (hf : KeepW w (f w (allocate b.segs count)).2.1) :
    KeepW w (consume b w false count aux0 f).w := by
  unfold consume
  by_cases he : (allocate b.segs count).isEmpty = true
  · simp only [he, if_true]; exact KeepW.refl w
  · simp only [he, Bool.false_eq_true, if_false]
    generalize f w (allocate b.segs count) = r at hf
    obtain ⟨res, w1, a⟩ := r
    cases res with
    | error e => exact hf
    | ok n => dsimp only; cases b.markUsed n <;> exact hf

theorem read_keep (b : IoBufs) (w : World) (n : Nat) : KeepW w (Reader.read b w n).w :=
  consume_keep b w n [] _ (copyOut_keep _ _ _)

theorem readObj_keep (b : IoBufs) (w : World) (n : Nat) : KeepW w (Reader.readObj b w n).w := by
  refine readExact_rule (fun _ w' _ => KeepW w w') ?_ _ b w n [] (KeepW.refl w)
  intro b' w' n _ h
  exact ⟨h.trans (read_keep b' w' n), fun _ => h.trans (read_keep b' w' n)⟩

theorem readTo_keep (b : IoBufs) (w : World) (dst : Script) (count : Nat) (at_ : Bool) :
    KeepW w (Reader.readTo b w dst count at_).w :=
  consume_keep b w count dst _ (writeVectored_spec dst w _ at_).2.1

theorem readExactTo_keep (fuel : Nat) (b : IoBufs) (w : World) (dst : Script) (count : Nat) :
    KeepW w (Reader.readExactTo fuel b w dst count).w :=
  readExactTo_rule (fun _ w' _ => KeepW w w') (fun b' w' s c h => h.trans (readTo_keep b' w' s c false))
    fuel b w dst count (KeepW.refl w)

theorem readerRun_adv (b : IoBufs) (w : World) (op : Op) (hov : b.consumed + total b.segs < USIZE) :
    Adv false false b w (readerRun b w op).1 (readerRun b w op).2 := by
  cases op with
  | rd _ n => exact ⟨_, read_advBy b w n hov⟩
  | ro _ n => exact readObj_adv b w n hov
  | rt _ count at_ sc => exact ⟨_, readTo_advBy b w sc count _ hov⟩
  | re _ count sc => exact readExactTo_adv _ b w sc count hov
  | _ => exact Adv.refl

theorem readerRun_keep (b : IoBufs) (w : World) (op : Op) : KeepW w (readerRun b w op).2 := by
  cases op with
  | rd _ n => exact read_keep b w n
  | ro _ n => exact readObj_keep b w n
  | rt _ count at_ sc => exact readTo_keep b w sc count _
  | re _ count sc => exact readExactTo_keep _ b w sc count
  | _ => exact KeepW.refl w

theorem checkAvail_ok_iff (b : IoBufs) (l : Nat) (hov : b.consumed + total b.segs < USIZE) :
    VirtioW.checkAvail b l 0 0 = .ok () ↔ l ≤ total b.segs := by
  unfold VirtioW.checkAvail
  rw [available_eq_total]
  simp only [Nat.add_zero]
  by_cases h1 : l ≥ USIZE
  · simp [h1]
    omega
  · by_cases h2 : l > total b.segs
    · simp [h1, h2]
    · simp [h1, h2]; omega

theorem checkAvail_cases (b : IoBufs) (l : Nat) :
    VirtioW.checkAvail b l 0 0 = .ok () ∨ VirtioW.checkAvail b l 0 0 = .error .invalidData := by
  unfold VirtioW.checkAvail
  simp only [Nat.add_zero]
  by_cases h1 : l ≥ USIZE
  · simp [h1]
  · by_cases h2 : l > b.available
    · simp [h1, h2]
    · simp [h1, h2]

theorem checkAvail_overflow (b : IoBufs) (l : Nat) (h : b.available < l) :
    VirtioW.checkAvail b l 0 0 = .error .invalidData := by
  unfold VirtioW.checkAvail
  simp only [Nat.add_zero]
  by_cases h1 : l ≥ USIZE
  · simp [h1]
  · simp [h1, h]

theorem vwrite_of_ok {b : IoBufs} (w : World) (data : Bytes) (h : VirtioW.checkAvail b data.length 0 0 = .ok ()) :
    VirtioW.write b w data = consume b w true data.length ()
      (fun w bufs => ((.ok (copyIn w bufs data).2 : Except IoErr Nat), (copyIn w bufs data).1, ())) := by
  unfold VirtioW.write; rw [h]

theorem vwrite_of_err {b : IoBufs} (w : World) (data : Bytes) {e : IoErr}
    (h : VirtioW.checkAvail b data.length 0 0 = .error e) : VirtioW.write b w data = ⟨.error e, (), b, w⟩ := by
  unfold VirtioW.write; rw [h]

theorem writeFrom_of_ok {b : IoBufs} (w : World) (src : Script) {count : Nat} (at_ : Option Nat)
    (h : VirtioW.checkAvail b count 0 0 = .ok ()) :
    VirtioW.writeFrom b w src count at_ = consume b w true count src (fun w bufs => src.readVectored w bufs at_) := by
  unfold VirtioW.writeFrom; rw [h]

theorem writeFrom_of_err {b : IoBufs} (w : World) (src : Script) {count : Nat} (at_ : Option Nat) {e : IoErr}
    (h : VirtioW.checkAvail b count 0 0 = .error e) : VirtioW.writeFrom b w src count at_ = ⟨.error e, src, b, w⟩ := by
  unfold VirtioW.writeFrom; rw [h]

theorem vwrite_advBy (b : IoBufs) (w : World) (data : Bytes)
    (hov : b.consumed + total b.segs < USIZE) :
    AdvBy (moved (VirtioW.write b w data).res) true true b w (VirtioW.write b w data).b (VirtioW.write b w data).w := by
  unfold VirtioW.write
  split
  · exact AdvBy.refl
  · exact (consume_adv b w true true data.length () _ hov (fok_copyIn w _ data _)).2

theorem vwrite_res_ok (b : IoBufs) (w : World) (data : Bytes) (hov : b.consumed + total b.segs < USIZE)
    (hfit : data.length ≤ total b.segs) : (VirtioW.write b w data).res = .ok data.length := by
  have ht : (copyIn w (allocate b.segs data.length) data).2 = data.length := by
    rw [(copyIn_spec w (allocate b.segs data.length) data).2.2.2, total_allocate]; omega
  obtain ⟨r, hr, _, e, _⟩ := consume_spec (fun r => r.1 = .ok data.length)
    b w true true data.length () _ hov (vwrite_of_ok w data ((checkAvail_ok_iff b data.length hov).mpr hfit)).symm
    (fok_copyIn w _ data _)
    (fun he => by have := allocate_isEmpty_total _ _ he; rw [show data.length = 0 by omega]) (congrArg Except.ok ht)
  exact e.trans hr

theorem writeEach_adv (b : IoBufs) (w : World) (bufs : List Bytes) (count : Nat)
    (hov : b.consumed + total b.segs < USIZE) :
    Adv true true b w (VirtioW.writeEach b w bufs count).b (VirtioW.writeEach b w bufs count).w := by
  fun_induction VirtioW.writeEach b w bufs count
  -- no buffer left
  case case1 => exact Adv.refl
  -- an empty buffer is skipped
  case case2 ih => exact ih hov
  -- `write` fails: the loop stops where the call left the cursor
  case case3 => exact ⟨_, vwrite_advBy _ _ _ hov⟩
  -- `write` succeeds: the loop goes on behind it
  case case4 b w d _ _ _ _ _ _ ih =>
    have h1 : Adv true true b w _ _ := ⟨_, vwrite_advBy b w d hov⟩
    exact h1.trans (ih (by rw [h1.inv]; exact hov))

theorem writeVectored_adv (b : IoBufs) (w : World) (bufs : List Bytes)
    (hov : b.consumed + total b.segs < USIZE) :
    Adv true true b w (VirtioW.writeVectored b w bufs).b (VirtioW.writeVectored b w bufs).w := by
  unfold VirtioW.writeVectored
  split
  · exact Adv.refl
  · exact writeEach_adv b w bufs 0 hov

theorem writeFrom_advBy (b : IoBufs) (w : World) (src : Script) (count : Nat) (at_ : Option Nat)
    (hov : b.consumed + total b.segs < USIZE) :
    moved (VirtioW.writeFrom b w src count at_).res ≤ count
      ∧ AdvBy (moved (VirtioW.writeFrom b w src count at_).res) true true b w (VirtioW.writeFrom b w src count at_).b
          (VirtioW.writeFrom b w src count at_).w := by
  unfold VirtioW.writeFrom
  split
  · exact ⟨Nat.zero_le _, AdvBy.refl⟩
  · exact consume_adv b w true true count src _ hov (readVectored_spec src w _ at_).1

theorem writeAllFrom_adv (b : IoBufs) (w : World) (src : Script) (count : Nat)
    (hov : b.consumed + total b.segs < USIZE) :
    Adv true true b w (VirtioW.writeAllFrom b w src count).b (VirtioW.writeAllFrom b w src count).w := by
  unfold VirtioW.writeAllFrom
  split
  · exact Adv.refl
  · refine (writeAllLoop_rule (fun b' w' _ _ => Adv true true b w b' w') ?_ _ b w src count Adv.refl).choose_spec.1
    exact fun b' w' s c h => h.trans (⟨_, (writeFrom_advBy b' w' s c none (by rw [h.inv]; exact hov)).2⟩)

theorem writerRun_adv (b : IoBufs) (w : World) (op : Op) (hov : b.consumed + total b.segs < USIZE) :
    Adv true true b w (writerRun b w op).1 (writerRun b w op).2 := by
  cases op with
  | wr _ data => exact ⟨_, vwrite_advBy b w data hov⟩
  | wv _ datas => exact writeVectored_adv b w datas hov
  | wf _ count at_ sc => exact ⟨_, (writeFrom_advBy b w sc count at_ hov).2⟩
  | wa _ count sc => exact writeAllFrom_adv b w sc count hov
  | _ => exact Adv.refl

end Fbr.Xport
