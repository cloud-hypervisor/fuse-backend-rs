/-
  Exact evaluation of the monadic primitives of Fbr.Ovl in known situations, for computing the
  state a composite function ends in; with names for the nodes and forests they leave
  (`addUpperNode`, `St.setNode`, `insertedMem`, `removedMem`, `loadedMem`), and the one form of the two equations
  of `create_upper_dir` (`createUpperDir_eq`).  Also what `lookup_child` and
  `takeDirs` read, and the order on paths: `q.isSuffixOf p` says that `p` is `q` or lies below it.
-/
import Fbr.Ovl

namespace Fbr.Ovl

theorem bind_ok {α β : Type} {f : M α} {g : α → M β} {s s1 : St} {a : α} (h : f s = .ok a s1) :
    (f >>= g) s = g a s1 := by
  show M.bind f g s = _
  unfold M.bind; rw [h]

theorem bind_err {α β : Type} {f : M α} {g : α → M β} {s s1 : St} {e : Nat} (h : f s = .err e s1) :
    (f >>= g) s = .err e s1 := by
  show M.bind f g s = _
  unfold M.bind; rw [h]

theorem pure_eval {α : Type} (a : α) (s : St) : (pure a : M α) s = .ok a s := rfl

theorem getNode_ok {s : St} {p : Path} {m : MNode} (h : s.mem p = some m) : getNode p s = .ok m s := by
  simp [getNode, h]

theorem getNode_err {s : St} {p : Path} (h : s.mem p = none) : getNode p s = .err ENOENT s := by
  simp [getNode, h]

theorem getSt_eval (s : St) : getSt s = .ok s s := rfl

theorem freshId_eval (s : St) : freshId s = .ok s.nextId { s with nextId := s.nextId + 1 } := rfl

theorem hasUpper_eval (s : St) : hasUpper s = .ok s.disk.upper.isSome s := rfl

theorem whenM_true {f : M Unit} : whenM true f = f := rfl
theorem whenM_false {f : M Unit} : whenM false f = pure () := rfl

theorem layerCall_ok {s : St} {i : Nat} {L L' : Layer} (m : Method) {f : Layer → Except Nat Layer}
    (hL : s.disk.layer i = some L) (hf : f L = .ok L') :
    layerCall i m f s = .ok () { s with disk := s.disk.setLayer i L', log := s.log ++ [⟨i, m⟩] } := by
  simp [layerCall, hL, hf]

theorem layerCall_err {s : St} {i : Nat} {L : Layer} (m : Method) {f : Layer → Except Nat Layer} {e : Nat}
    (hL : s.disk.layer i = some L) (hf : f L = .error e) :
    layerCall i m f s = .err e { s with log := s.log ++ [⟨i, m⟩] } := by
  simp [layerCall, hL, hf]

theorem layerCall_none {s : St} {i : Nat} (m : Method) (f : Layer → Except Nat Layer)
    (hL : s.disk.layer i = none) : layerCall i m f s = .err ENOENT { s with log := s.log ++ [⟨i, m⟩] } := by
  simp [layerCall, hL]

theorem mkNode_ok {s : St} {r : Real} {L L' : Layer} (meth : Method) (n : Name) (X : Node)
    (hu : r.inUpper = true) (hL : s.disk.layer r.layer = some L) (hf : hMk L r.path n X = .ok L') :
    r.mkNode meth n X s =
      .ok (childReal r n) { s with disk := s.disk.setLayer r.layer L', log := s.log ++ [⟨r.layer, meth⟩] } := by
  simp only [Real.mkNode, hu, Bool.not_true, Bool.false_eq_true, if_false]
  rw [bind_ok (layerCall_ok meth hL hf)]
  rfl

/-- the node after `add_upper_inode(ri, clear_lowers)` -/
def addUpperNode (m : MNode) (ri : Real) (b : Bool) : MNode :=
  { m with whiteout := ri.whiteout, reals := if b then [ri] else ri :: m.reals }

def St.setNode (s : St) (p : Path) (m : MNode) : St := { s with mem := s.mem.set p (some m) }

theorem addUpperInode_ok {s : St} {p : Path} {m : MNode} (ri : Real) (b : Bool) (h : s.mem p = some m) :
    addUpperInode p ri b s = .ok () (s.setNode p (addUpperNode m ri b)) := by
  unfold addUpperInode
  rw [bind_ok (getNode_ok h)]
  rfl

theorem getUpperReal_ok {s : St} {p : Path} {m : MNode} {r : Real} (h : s.mem p = some m)
    (hr : m.upperReal = some r) : getUpperReal p s = .ok r s := by
  unfold getUpperReal
  rw [bind_ok (getNode_ok h)]
  simp [hr, pure_eval]

theorem firstReal_ok {s : St} {p : Path} {m : MNode} {r : Real} {rest : List Real} (h : s.mem p = some m)
    (hr : m.reals = r :: rest) : firstReal p s = .ok r s := by
  unfold firstReal
  rw [bind_ok (getNode_ok h)]
  simp [hr, pure_eval]

/-- the guard `if !node.in_upper_layer()` in front of `copy_node_up` decides nothing: `copy_node_up` itself
    returns at once for a node in the upper layer -/
theorem ensureUp_eq {s : St} {p : Path} {m : MNode} (hm : s.mem p = some m) :
    whenM (!m.inUpper) (copyNodeUp p) s = copyNodeUp p s := by
  cases hu : m.inUpper with
  | false => rfl
  | true =>
    unfold copyNodeUp
    rw [bind_ok (getNode_ok hm), hu]
    rfl

theorem MNode.inUpper_nil {m : MNode} (h : m.reals = []) : m.inUpper = false := by
  simp [MNode.inUpper, h]

theorem MNode.inUpper_cons {m : MNode} {r : Real} {rest : List Real} (h : m.reals = r :: rest) :
    m.inUpper = r.inUpper := by
  simp [MNode.inUpper, h]

theorem MNode.inUpper_congr {m m' : MNode} (h : m.reals = m'.reals) : m.inUpper = m'.inUpper := by
  unfold MNode.inUpper; rw [h]

theorem upperReal_of_inUpper {m : MNode} (h : m.inUpper = true) :
    ∃ r rest, m.reals = r :: rest ∧ r.inUpper = true ∧ m.upperReal = some r := by
  cases hr : m.reals with
  | nil => rw [MNode.inUpper_nil hr] at h; cases h
  | cons r rest =>
    have : r.inUpper = true := MNode.inUpper_cons hr ▸ h
    exact ⟨r, rest, rfl, this, by simp [MNode.upperReal, hr, this]⟩

/-! ### the end state given by its disk and forest, the two parts the invariant reads -/

theorem layerCall_ok' {s : St} {i : Nat} {L L' : Layer} (m : Method) {f : Layer → Except Nat Layer}
    (hL : s.disk.layer i = some L) (hf : f L = .ok L') :
    ∃ s', layerCall i m f s = .ok () s' ∧ s'.disk = s.disk.setLayer i L' ∧ s'.mem = s.mem :=
  ⟨_, layerCall_ok m hL hf, rfl, rfl⟩

theorem mkNode_ok' {s : St} {r : Real} {L L' : Layer} (meth : Method) (n : Name) (X : Node)
    (hu : r.inUpper = true) (hL : s.disk.layer r.layer = some L) (hf : hMk L r.path n X = .ok L') :
    ∃ s', r.mkNode meth n X s = .ok (childReal r n) s' ∧ s'.disk = s.disk.setLayer r.layer L' ∧ s'.mem = s.mem :=
  ⟨_, mkNode_ok meth n X hu hL hf, rfl, rfl⟩

theorem addUpperInode_ok' {s : St} {p : Path} {m : MNode} (ri : Real) (b : Bool) (h : s.mem p = some m) :
    ∃ s', addUpperInode p ri b s = .ok () s' ∧ s'.disk = s.disk ∧
      s'.mem = s.mem.set p (some (addUpperNode m ri b)) :=
  ⟨_, addUpperInode_ok ri b h, rfl, rfl⟩

theorem freshId_ok' (s : St) : ∃ s', freshId s = .ok s.nextId s' ∧ s'.disk = s.disk ∧ s'.mem = s.mem :=
  ⟨_, rfl, rfl, rfl⟩

theorem mkNode_err' {s : St} {r : Real} {L : Layer} (meth : Method) (n : Name) (X : Node) {e : Nat}
    (hu : r.inUpper = true) (hL : s.disk.layer r.layer = some L) (hf : hMk L r.path n X = .error e) :
    ∃ s', r.mkNode meth n X s = .err e s' ∧ s'.disk = s.disk ∧ s'.mem = s.mem := by
  refine ⟨{ s with log := s.log ++ [⟨r.layer, meth⟩] }, ?_, rfl, rfl⟩
  simp only [Real.mkNode, hu, Bool.not_true, Bool.false_eq_true, if_false]
  rw [bind_err (layerCall_err meth hL hf)]

theorem tryDeleteWhiteout_ok' {s : St} {pr : Real} {L L' : Layer} (n : Name)
    (hL : s.disk.layer pr.layer = some L) (hf : hDeleteWhiteout L pr.path n = .ok L') :
    ∃ s', tryDeleteWhiteout pr n s = .ok () s' ∧ s'.disk = s.disk.setLayer pr.layer L' ∧ s'.mem = s.mem := by
  obtain ⟨s', h1, h2, h3⟩ := layerCall_ok' (f := fun L => hDeleteWhiteout L pr.path n) Method.deleteWhiteout hL hf
  refine ⟨s', ?_, h2, h3⟩
  unfold tryDeleteWhiteout ignoreErr
  rw [h1]

/-- the last three statements of `create_upper_dir` for `n :: pp`, once the parent is in the upper layer -/
def cudStep (n : Name) (pp : Path) (mode : Nat) : M Unit := do
  let pr ← getUpperReal pp
  let ri ← pr.mkNode .mkdir n (.dir mode 0 0)
  addUpperInode (n :: pp) ri false

/-- the two equations of `create_upper_dir` share their head -/
theorem createUpperDir_eq (p : Path) :
    createUpperDir p = (do
      let m ← getNode p
      let st ← nodeStat m
      if !st.isDir then fail ENOTDIR else
      if m.inUpper then pure () else
      match p with
      | [] => fail EOTHER
      | n :: pp => do
        let pm ← getNode pp
        whenM (!pm.inUpper) (createUpperDir pp)
        cudStep n pp st.mode) := by
  cases p <;> rw [createUpperDir] <;> rfl

/-- the forest after `insert_child(pp, n, m)` -/
def insertedMem (mem : Mem) (n : Name) (pp : Path) (pm m' : MNode) : Mem :=
  ((removeSubtree mem (n :: pp)).set (n :: pp) (some m')).set pp (some { pm with kids := addNames pm.kids [n] })

theorem insertChild_ok' {s : St} {pp : Path} {pm : MNode} (n : Name) (m : MNode) (h : s.mem pp = some pm) :
    ∃ s', insertChild pp n m s = .ok () s' ∧ s'.disk = s.disk ∧ s'.mem = insertedMem s.mem n pp pm m := by
  unfold insertChild
  rw [bind_ok (getNode_ok h)]
  exact ⟨_, rfl, rfl, rfl⟩

/-- the forest after `remove_child(pp, n)` -/
def removedMem (mem : Mem) (n : Name) (pp : Path) (pm : MNode) : Mem :=
  (removeSubtree mem (n :: pp)).set pp (some { pm with kids := pm.kids.filter (· != n) })

theorem removeChild_ok' {s : St} {pp : Path} {pm : MNode} (n : Name) (h : s.mem pp = some pm) :
    ∃ s', removeChild pp n s = .ok () s' ∧ s'.disk = s.disk ∧ s'.mem = removedMem s.mem n pp pm := by
  unfold removeChild
  rw [bind_ok (getNode_ok h)]
  exact ⟨_, rfl, rfl, rfl⟩

/-- the forest after loading the (unloaded, directory) node `m` at `p` -/
def loadedMem (d : Disk) (mem : Mem) (p : Path) (m : MNode) : Mem :=
  (insertKids mem p (scanKids d m)).set p
    (some { m with loaded := true, kids := addNames m.kids ((scanKids d m).map (·.1)) })

/-- `lookup_child` reads of the entry only whether it is there, a whiteout, an opaque directory -/
theorem lookupChild_eq (d : Disk) (r : Real) (n : Name) :
    lookupChild d r n =
      if r.whiteout then none else if (d.nodeAt r.layer (n :: r.path)).isAbsent then none else
        some { layer := r.layer, inUpper := r.inUpper, path := n :: r.path,
               whiteout := (d.nodeAt r.layer (n :: r.path)).isWhiteout,
               opq := (d.nodeAt r.layer (n :: r.path)).isOpaqueDir } := by
  unfold lookupChild
  split
  · rfl
  · cases d.nodeAt r.layer (n :: r.path) <;> rfl

theorem of_lookupChild_some {d : Disk} {r c : Real} {n : Name} (h : lookupChild d r n = some c) :
    c.layer = r.layer ∧ c.inUpper = r.inUpper ∧ c.path = n :: r.path := by
  rw [lookupChild_eq] at h
  split at h
  · cases h
  · split at h <;> cases h
    exact ⟨rfl, rfl, rfl⟩

theorem takeDirs_sub (d : Disk) : ∀ (l : List Real) (r : Real), r ∈ takeDirs d l → r ∈ l
  | [], r, h => by simp [takeDirs] at h
  | a :: rest, r, h => by
    unfold takeDirs at h
    split at h
    · simp at h
    · split at h
      · simp at h
      · split at h
        · simp at h; simp [h]
        · simp only [List.mem_cons] at h
          rcases h with h | h
          · simp [h]
          · exact List.mem_cons_of_mem _ (takeDirs_sub d rest r h)

theorem lookup_mem {α β : Type} [BEq α] [LawfulBEq α] {l : List (α × β)} {a : α} {b : β}
    (h : l.lookup a = some b) : (a, b) ∈ l := by
  obtain ⟨l₁, l₂, rfl, _⟩ := List.lookup_eq_some_iff.1 h
  simp

theorem below_self (q : Path) : q.isSuffixOf q = true := List.isSuffixOf_iff_suffix.2 (List.suffix_refl q)

theorem below_trans {a b c : Path} (h1 : a.isSuffixOf b = true) (h2 : b.isSuffixOf c = true) :
    a.isSuffixOf c = true :=
  List.isSuffixOf_iff_suffix.2 ((List.isSuffixOf_iff_suffix.1 h1).trans (List.isSuffixOf_iff_suffix.1 h2))

theorem below_of_below {q p' : Path} (n' : Name) (h : q.isSuffixOf p' = true) : q.isSuffixOf (n' :: p') = true :=
  List.isSuffixOf_iff_suffix.2 ((List.isSuffixOf_iff_suffix.1 h).trans (List.suffix_cons n' p'))

theorem below_child (c : Name) (p : Path) : p.isSuffixOf (c :: p) = true := below_of_below c (below_self p)

theorem below_cons {q p' : Path} {n' : Name} (h : q.isSuffixOf (n' :: p') = true) (hne : n' :: p' ≠ q) :
    q.isSuffixOf p' = true := by
  rcases List.suffix_cons_iff.1 (List.isSuffixOf_iff_suffix.1 h) with h1 | h1
  · exact absurd h1.symm hne
  · exact List.isSuffixOf_iff_suffix.2 h1

theorem not_below_parent (n : Name) (pp : Path) : (n :: pp).isSuffixOf pp = false := by
  cases h : (n :: pp).isSuffixOf pp with
  | false => rfl
  | true =>
    have hl := (List.isSuffixOf_iff_suffix.1 h).length_le
    simp at hl
    omega

theorem not_below_child {q p : Path} {n' : Name} (h : q.isSuffixOf p = false) (hne : n' :: p ≠ q) :
    q.isSuffixOf (n' :: p) = false := by
  cases hb : q.isSuffixOf (n' :: p) with
  | false => rfl
  | true => rw [below_cons hb hne] at h; cases h

theorem sibling_not_below {c c' : Name} (p : Path) (h : c' ≠ c) : (c :: p).isSuffixOf (c' :: p) = false :=
  not_below_child (not_below_parent c p) (by intro h'; injection h' with h'; exact h h')

end Fbr.Ovl
