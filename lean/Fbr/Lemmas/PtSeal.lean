/-
  C18: one request never changes the size of an existing file when sealed.
  `Keeps` is proved per host call (every branch of a call but the one that performs it returns
  the host as it was) and carried through each request handler.
-/
import Fbr.PtSealSpec

namespace Fbr.Lemmas.PtSeal
open Fbr.PtSeal Fbr.PtSealSpec

theorem upd_same {α : Type} (f : Nat → α) (i : Nat) (v : α) : upd f i v i = v := if_pos rfl

theorem upd_other {α : Type} (f : Nat → α) {i j : Nat} (v : α) (h : j ≠ i) : upd f i v j = f j := if_neg h

def Keeps (H H' : Host) : Prop := ∀ f n, H.size f = some n → H'.size f = some n

theorem Keeps.refl (H : Host) : Keeps H H := fun _ _ h => h
theorem Keeps.of_eq {H H' : Host} (h : H' = H) : Keeps H H' := h ▸ .refl H

/-- a host call answers from a chain of checks: it keeps sizes if every branch does -/
theorem Keeps.ite {ε : Type} {H : Host} (c : Prop) [Decidable c] {a b : Host × ε}
    (ha : Keeps H a.1) (hb : Keeps H b.1) : Keeps H (if c then a else b).1 := by
  split <;> assumption

/-- setting a file's size to what it is, or creating the file -/
theorem Keeps.upd (H : Host) (file v : Nat) (h : ∀ n, H.size file = some n → v = n) :
    Keeps H { H with size := upd H.size file (some v) } := by
  intro f n hf
  by_cases hff : f = file
  · subst hff; rw [h n hf]; exact upd_same ..
  · exact (upd_other _ _ hff).trans hf

theorem hostOpen_host (H : Host) (file : Nat) (fl : Flags) (ht : fl.trunc = false) :
    (hostOpen H file fl).1 = H := by
  unfold hostOpen
  split <;> simp [ht]

theorem pwrite_keeps (H : Host) (file : Nat) (fd : HFd) (len off sz : Nat)
    (hsz : H.size file = some sz) (hfit : (if fd.append then sz else off) + len ≤ sz) :
    Keeps H (hostPwrite H file fd len off).1 := by
  fun_cases hostPwrite H file fd len off
  -- the write is performed: it ends within the size
  case case8 sz' hsz' _ _ _ _ =>
    cases hsz.symm.trans hsz'
    exact .upd H file _ fun n hn => by rw [← Option.some.inj (hsz.symm.trans hn)]; exact Nat.max_eq_left hfit
  -- every other answer (an errno, or nothing to write) leaves the host as it was
  all_goals exact .refl H

theorem fallocate_keeps (H : Host) (file : Nat) (fd : HFd) (mode off len sz : Nat)
    (hsz : H.size file = some sz)
    (hop : fallocOp mode = 0 ∨ fallocOp mode = FL_PUNCH_HOLE ∨ fallocOp mode = FL_ZERO)
    (hfit : off + len ≤ sz) :
    Keeps H (hostFallocate H file fd mode off len).1 := by
  have hsame : Keeps H { H with size := upd H.size file (some (max sz (off + len))) } :=
    .upd H file _ fun n hn => by rw [← Option.some.inj (hsz.symm.trans hn)]; exact Nat.max_eq_left hfit
  -- collapse and insert, the two modes that move the end of the file, are excluded by `hop`
  have h8 : fallocOp mode ≠ FL_COLLAPSE := by rcases hop with h | h | h <;> rw [h] <;> decide
  have h32 : fallocOp mode ≠ FL_INSERT := by rcases hop with h | h | h <;> rw [h] <;> decide
  unfold hostFallocate
  refine .ite _ (.refl H) ?_
  cases H.falErr mode fd.canWrite with
  | some e => exact .refl H
  | none =>
    simp only [hsz, h8, h32, if_false]
    exact .ite _ (.refl H) <| .ite _ (.ite _ (.refl H) hsame) <| .ite _ (.refl H) (.refl H)

theorem sealCheckWrite_ok_iff (sz start len : Nat) :
    sealCheckWrite sz start len = .ok () ↔ start + len < U64 ∧ start + len ≤ sz := by
  fun_cases sealCheckWrite sz start len
  -- the end of the write overflows `u64`
  · simp only [reduceCtorEq, false_iff]; omega
  -- it lies beyond the size
  · simp only [reduceCtorEq, false_iff]; omega
  · simp only [true_iff]; omega

theorem sealCheckFallocate_ok_iff (sz off len mode : Nat) :
    sealCheckFallocate sz off len mode = .ok () ↔
      off + len < U64 ∧ (fallocOp mode = 0 ∨ fallocOp mode = FL_PUNCH_HOLE ∨ fallocOp mode = FL_ZERO) ∧
        off + len ≤ sz := by
  unfold sealCheckFallocate
  by_cases h1 : off + len ≥ U64
  · simp only [h1, if_true, reduceCtorEq, false_iff]; omega
  · simp only [h1, if_false, Bool.or_eq_true, decide_eq_true_eq, or_assoc]
    by_cases hop : fallocOp mode = 0 ∨ fallocOp mode = FL_PUNCH_HOLE ∨ fallocOp mode = FL_ZERO
    · by_cases h2 : len + off > sz
      · simp only [hop, h2, if_true, reduceCtorEq, false_iff]; omega
      · simp only [hop, h2, if_true, if_false, true_iff]; exact ⟨by omega, trivial, by omega⟩
    · simp only [hop, if_false, false_and, and_false, iff_false]
      split <;> exact fun h => by cases h

@[simp] theorem wbFlags_trunc (wb : Bool) (fl : Flags) : (wbFlags wb fl).trunc = fl.trunc := by
  unfold wbFlags; split <;> rfl

@[simp] theorem wbFlags_excl (wb : Bool) (fl : Flags) : (wbFlags wb fl).excl = fl.excl := by
  unfold wbFlags; split <;> rfl

@[simp] theorem wbFlags_direct (wb : Bool) (fl : Flags) : (wbFlags wb fl).direct = fl.direct := by
  unfold wbFlags; split <;> rfl

@[simp] theorem openFlags_trunc (cfg : Cfg) (fl : Flags) : (openFlags cfg fl).trunc = fl.trunc := by simp [openFlags]

theorem openInode_host {cfg : Cfg} {st : St} {file : Nat} {fl : Flags} (ht : fl.trunc = false)
    {o : St × Except Nat HFd × List HostCall} (ho : openInode cfg st file fl = o) : o.1.host = st.host := by
  subst ho
  unfold openInode
  simp [hostOpen_host _ _ _ ((openFlags_trunc cfg fl).trans ht)]

theorem openInode_existing (cfg : Cfg) (st : St) (file : Nat) (fl : Flags) (sz : Nat)
    (hsz : st.host.size file = some sz) (ht : fl.trunc = false) :
    openInode cfg st file fl = (st, .ok (fdOf (openFlags cfg fl)), [.reopen file (openFlags cfg fl)]) := by
  simp only [openInode, hostOpen, hsz, openFlags_trunc, ht, Bool.false_eq_true, if_false]

theorem openInode_handles (cfg : Cfg) (st : St) (file : Nat) (fl : Flags) :
    (openInode cfg st file fl).1.handles = st.handles ∧ (openInode cfg st file fl).1.next = st.next := by
  unfold openInode; simp

theorem getData_host {cfg : Cfg} {st : St} {file h : Nat} {g : St × Except Nat Hnd × List HostCall} :
    getData cfg st file h = g → g.1.host = st.host := by
  fun_cases getData cfg st file h <;> rintro rfl
  -- no_open mode: a fresh `O_RDWR` descriptor, opened without `O_TRUNC`
  case case4 ho | case5 ho => exact openInode_host rfl ho
  -- the handle's descriptor, or `EBADF`: no host call
  all_goals rfl

theorem putHnd_host (cfg : Cfg) (st : St) (h : Nat) (hd : Hnd) : (putHnd cfg st h hd).host = st.host := by
  unfold putHnd; split <;> rfl

theorem stepWrite_keeps (cfg : Cfg) (hs : cfg.sealed = true) (st : St) (file h : Nat) (fl : Flags) (len off : Nat) :
    Keeps st.host (stepWrite cfg st file h fl len off).st.host := by
  unfold stepWrite
  split
  next hg => exact .of_eq (getData_host hg)
  next st1 hd0 c0 hg =>
    have hg : st1.host = st.host := getData_host hg
    simp only [hs, if_true, putHnd_host, hg]
    cases hsz : st.host.size file with
    | none => exact .of_eq ((putHnd_host ..).trans hg)
    | some sz =>
      simp only
      cases hsc : sealCheckWrite sz (if (checkFdFlags hd0 fl).1.fd.append = true then sz else off) len with
      | error e => exact .of_eq ((putHnd_host ..).trans hg)
      | ok u => exact pwrite_keeps st.host file _ len off sz hsz ((sealCheckWrite_ok_iff ..).mp hsc).2

theorem stepFallocate_keeps (cfg : Cfg) (hs : cfg.sealed = true) (st : St) (file h mode off len : Nat) :
    Keeps st.host (stepFallocate cfg st file h mode off len).st.host := by
  unfold stepFallocate
  split
  next hg => exact .of_eq (getData_host hg)
  next st1 hd c0 hg =>
    have hg : st1.host = st.host := getData_host hg
    simp only [hs, if_true, hg]
    cases hsz : st.host.size file with
    | none => exact .of_eq hg
    | some sz =>
      simp only
      cases hsc : sealCheckFallocate sz off len mode with
      | error e => exact .of_eq hg
      | ok u =>
        obtain ⟨_, hop, hfit⟩ := (sealCheckFallocate_ok_iff ..).mp hsc
        simp only
        split <;> exact fallocate_keeps _ _ _ _ _ _ _ hsz hop hfit

/-- past the guard `cfg.sealed && fl.trunc` of OPEN and CREATE, sealed: the flag word has no `O_TRUNC` -/
theorem sealed_notrunc {cfg : Cfg} (hs : cfg.sealed = true) {fl : Flags} (hn : ¬ (cfg.sealed && fl.trunc) = true) :
    fl.trunc = false := by
  rw [hs] at hn; exact Bool.not_eq_true _ ▸ hn

-- The handlers that end without a seal check, path by path (`fun_cases`: one goal per path through the handler,
-- with the conditions and the `match` equations of the path as hypotheses).

theorem stepOpen_keeps (cfg : Cfg) (hs : cfg.sealed = true) (st : St) (file : Nat) (fl : Flags) :
    Keeps st.host (stepOpen cfg st file fl).st.host := by
  fun_cases stepOpen cfg st file fl
  -- no_open: `ENOSYS`
  · exact .refl _
  fun_cases doOpen cfg st file fl
  -- `O_TRUNC`: refused
  · exact .refl _
  -- reopened without `O_TRUNC`
  all_goals exact .of_eq (openInode_host (sealed_notrunc hs ‹_›) ‹_›)

theorem stepCreate_keeps (cfg : Cfg) (hs : cfg.sealed = true) (st : St) (file : Nat) (fl : Flags) :
    Keeps st.host (stepCreate cfg st file fl).st.host := by
  fun_cases stepCreate cfg st file fl
  -- the file did not exist (no_open mode, or a handle is made)
  case case1 hsz _ _ _ | case2 hsz _ _ _ _ => exact .upd st.host file 0 fun n hn => by rw [hsz] at hn; cases hn
  -- `O_EXCL` or `O_TRUNC` on an existing file: refused
  case case3 | case4 => exact .refl _
  -- reopened without `O_TRUNC`
  all_goals exact .of_eq (openInode_host (sealed_notrunc hs ‹_›) ‹_›)

theorem stepSetattr_keeps (cfg : Cfg) (hs : cfg.sealed = true) (st : St) (file : Nat) (h : Option Nat)
    (setSize : Bool) (size : Nat) (setMode : Bool) :
    Keeps st.host (stepSetattr cfg st file h setSize size setMode).st.host := by
  fun_cases stepSetattr cfg st file h setSize size setMode
  -- the path that truncates: `setSize` holds and `setSize && cfg.sealed` does not
  case case4 hn _ hss => rw [hss, hs] at hn; exact absurd rfl hn
  -- refused, or no host call but `fchmod`
  all_goals exact .refl _

theorem stepRelease_keeps (cfg : Cfg) (st : St) (file h : Nat) :
    Keeps st.host (stepRelease cfg st file h).st.host := by
  fun_cases stepRelease cfg st file h <;> exact .refl _

theorem step_keeps (cfg : Cfg) (hs : cfg.sealed = true) (st : St) (r : Req) :
    Keeps st.host (step cfg st r).st.host := by
  cases r with
  | opn file fl => exact stepOpen_keeps cfg hs st file fl
  | create file fl => exact stepCreate_keeps cfg hs st file fl
  | write file h fl len off => exact stepWrite_keeps cfg hs st file h fl len off
  | setattr file h ss size sm => exact stepSetattr_keeps cfg hs st file h ss size sm
  | fallocate file h mode off len => exact stepFallocate_keeps cfg hs st file h mode off len
  | release file h => exact stepRelease_keeps cfg st file h

end Fbr.Lemmas.PtSeal
