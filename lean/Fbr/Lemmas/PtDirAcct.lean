/-
  C16: what reaches the client.  The record loop offers every record that is not
  "." / ".." (`real`) as a `DirEntry` (`view`) to the callback; the server's `add_dirent`
  accounting as the callback accepts the longest prefix of the offers that fits the request's size
  (`fitting`); READDIRPLUS keeps one reference per accepted offer, whatever the callback.
-/
import Fbr.PtDir
import Fbr.Lemmas.SrvDir

namespace Fbr.Lemmas.PtDir
open Fbr.PtDir Fbr.Wire Fbr.Srv

/-- bytes `add_dirent` accounts for a record: the padded dirent plus, for READDIRPLUS, the entry.
    `24` is `DIRENT` and `128` is `ENTRY_OUT` of the server model (`direntTotal_eq`). -/
def fuseLen (plus : Bool) (n : Nat) : Nat := (24 + n + 7) / 8 * 8 + (if plus then 128 else 0)

/-- a record's FUSE dirent (24-byte header) is at least as long as its `getdents64` record (19-byte one) -/
theorem reclen_le_fuseLen (plus : Bool) (e : HEnt) : reclen e ≤ fuseLen plus e.name.length := by
  unfold reclen fuseLen HDR
  exact Nat.le_trans (Nat.mul_le_mul_right 8 (Nat.div_le_div_right (by omega))) (Nat.le_add_right _ _)

theorem direntTotal_eq (d : DirEnt) (plus : Bool) :
    direntTotal d (if plus then some default else none) = fuseLen plus d.name.length := by
  unfold direntTotal fuseLen DIRENT ENTRY_OUT
  cases plus <;> simp

theorem srvCb_step (size : Nat) (plus : Bool) (a : Acc) (o : Offer) :
    if size - a.written < fuseLen plus o.name.length then
      srvCb size plus none a o = ({ a with offered := a.offered + 1 }, .ok 0)
    else ∃ n, srvCb size plus none a o =
      ({ written := a.written + fuseLen plus o.name.length, out := a.out ++ [o], offered := a.offered + 1 },
        .ok (n + 1)) := by
  unfold srvCb
  simp only [reduceCtorEq, if_false]
  generalize hd : ({ ino := o.ino, off := o.off, type := o.type, name := o.name } : DirEnt) = d
  have hname : d.name = o.name := by rw [← hd]
  have hpos := direntTotal_pos d (if plus then some default else none)
  rcases addDirent_whole size size a.written d (if plus then some default else none) (Nat.le_refl _)
    with ⟨h, hlt⟩ | ⟨h, hfit⟩ <;> rw [direntTotal_eq, hname] at *
  · rw [if_pos hlt, h]
    rfl
  · rw [if_neg (by omega), h]
    obtain ⟨n, hn⟩ := Nat.exists_eq_succ_of_ne_zero (Nat.pos_iff_ne_zero.mp hpos)
    exact ⟨n, by rw [hn]; rfl⟩

def fitting {α : Type} (len : α → Nat) (size : Nat) : List α → Nat → List α
  | [], _ => []
  | x :: r, written =>
    if size - written < len x then [] else x :: fitting len size r (written + len x)

theorem fitting_prefix {α : Type} (len : α → Nat) (size : Nat) (l : List α) (w : Nat) :
    fitting len size l w <+: l := by
  fun_induction fitting len size l w
  · exact List.prefix_refl _
  -- the first element does not fit any more
  · exact List.nil_prefix
  next ih => exact List.cons_prefix_cons.mpr ⟨rfl, ih⟩

theorem fitting_ne_nil {α : Type} (len : α → Nat) (size : Nat) (x : α) (r : List α) (h : len x ≤ size) :
    fitting len size (x :: r) 0 ≠ [] := by
  simp only [fitting]
  rw [if_neg (by omega)]
  exact List.cons_ne_nil _ _

theorem fitting_within {α : Type} (len : α → Nat) (size : Nat) (l : List α) (w : Nat) (hw : w ≤ size) :
    w + ((fitting len size l w).map len).sum ≤ size := by
  fun_induction fitting len size l w
  · exact hw
  -- the first element does not fit any more
  · exact hw
  next ih =>
    have := ih (by omega)
    simp only [List.map_cons, List.sum_cons]
    omega

def real (b : Dir) : Dir := b.filter (fun e => !isDot e)

/-- the `DirEntry` the loop hands to the callback for a record -/
def view (e : HEnt) : Offer := { ino := e.ino, off := e.cookie, type := e.type, name := trimName (nameField e) }

theorem nameField_nul (e : HEnt) : ∃ k, nameField e = e.name ++ 0 :: zeros k := by
  obtain ⟨k, hk⟩ : ∃ k, reclen e - HDR - e.name.length = k + 1 :=
    ⟨reclen e - HDR - e.name.length - 1, by unfold reclen HDR; omega⟩
  exact ⟨k, by rw [nameField, hk]; rfl⟩

theorem isDot_iff (e : HEnt) (hn : ∀ b ∈ e.name, b ≠ 0) : isDot e = true ↔ e.name = [46] ∨ e.name = [46, 46] := by
  obtain ⟨k, hk⟩ := nameField_nul e
  unfold isDot isDotName
  rw [hk]
  rcases hname : e.name with _ | ⟨a, _ | ⟨b, _ | ⟨c, r⟩⟩⟩
  · simp [DOT, DOTDOT, List.isPrefixOf]
  · simp [DOT, DOTDOT, List.isPrefixOf, eq_comm (a := (46 : UInt8))]
  · have hb : ¬ 0 = b := fun h => hn b (by rw [hname]; simp) h.symm
    simp [DOT, DOTDOT, List.isPrefixOf, hb, eq_comm (a := (46 : UInt8))]
  · have hb : ¬ 0 = b := fun h => hn b (by rw [hname]; simp) h.symm
    have hc : ¬ 0 = c := fun h => hn c (by rw [hname]; simp) h.symm
    simp [DOT, DOTDOT, List.isPrefixOf, hb, hc]

theorem reclen_dot (e : HEnt) (hn : ∀ b ∈ e.name, b ≠ 0) (hd : isDot e = true) : reclen e = 24 := by
  rcases (isDot_iff e hn).mp hd with h | h <;> simp [reclen, HDR, h]

theorem view_name (e : HEnt) (hn : ∀ b ∈ e.name, b ≠ 0) : (view e).name = e.name := by
  obtain ⟨k, hk⟩ := nameField_nul e
  show (nameField e).takeWhile (· != 0) = e.name
  rw [hk, List.takeWhile_append_of_pos (by simpa using hn)]
  simp

theorem real_cons (e : HEnt) (r : Dir) : real (e :: r) = if isDot e then real r else e :: real r := by
  cases h : isDot e <;> simp [real, h]

theorem real_append (a b : Dir) : real (a ++ b) = real a ++ real b := by simp [real]

theorem real_dots (a : Dir) (h : a.all isDot = true) : real a = [] := by
  simp only [real, List.filter_eq_nil_iff]
  intro x hx
  simp [List.all_eq_true.mp h x hx]

theorem real_nil (b : Dir) (h : real b = []) : onlyDotsL b = true := by
  simp only [real, List.filter_eq_nil_iff] at h
  exact List.all_eq_true.mpr fun x hx => by simpa using h x hx

theorem split_at_real_prefix (l p : Dir) (hp : p <+: real l) (hne : p ≠ []) :
    ∃ A B e, l = A ++ e :: B ∧ p.getLast? = some e ∧ real B = (real l).drop p.length := by
  induction l generalizing p with
  | nil =>
    simp only [real, List.filter_nil, List.prefix_nil] at hp
    exact absurd hp hne
  | cons x xs ih =>
    rw [real_cons] at hp ⊢
    by_cases hd : isDot x = true
    · rw [if_pos hd] at hp ⊢
      obtain ⟨A, B, e, h1, h2, h3⟩ := ih p hp hne
      exact ⟨x :: A, B, e, by simp [h1], h2, h3⟩
    · rw [if_neg hd] at hp ⊢
      cases p with
      | nil => exact absurd rfl hne
      | cons y ys =>
        obtain ⟨hxy, hys⟩ := List.cons_prefix_cons.mp hp
        subst hxy
        cases ys with
        | nil => exact ⟨[], xs, y, rfl, rfl, by simp⟩
        | cons z zs =>
          obtain ⟨A, B, e, h1, h2, h3⟩ := ih (z :: zs) hys (by simp)
          exact ⟨y :: A, B, e, by simp [h1], by simpa [List.getLast?_cons_cons] using h2, by simpa using h3⟩

theorem entryLoop_cons {σ : Type} (plus : Bool) (cb : Cb σ) (e : HEnt) (rest : Dir) (first : Bool) (s : σ)
    (refs : List Nat) :
    entryLoop plus cb (e :: rest) first s refs =
      if isDot e then entryLoop plus cb rest false s refs
      else match cb s (view e) with
        | (s', .ok 0) => { cb := s', refs := refs, ret := .ok () }
        | (s', .ok _) => entryLoop plus cb rest false s' (if plus then e.ino :: refs else refs)
        | (s', .err errno) => { cb := s', refs := refs, ret := if first then .error errno else .ok () } := by
  rw [entryLoop]
  split
  · rfl
  · simp only [view]
    generalize cb s _ = x
    obtain ⟨s', r⟩ := x
    cases r with
    | ok n => cases n <;> rfl
    | err _ => rfl

theorem entryLoop_srvCb (size : Nat) (plus : Bool) (b : Dir) (first : Bool) (a : Acc) (refs : List Nat) :
    let acc := fitting (fun e => fuseLen plus (view e).name.length) size (real b) a.written
    (entryLoop plus (srvCb size plus none) b first a refs).cb.out = a.out ++ acc.map view ∧
    (entryLoop plus (srvCb size plus none) b first a refs).ret = .ok () ∧
    (entryLoop plus (srvCb size plus none) b first a refs).refs =
      (if plus then (acc.map (·.ino)).reverse ++ refs else refs) := by
  induction b generalizing first a refs with
  | nil => simp [entryLoop, real, fitting]
  | cons e r ih =>
    rw [entryLoop_cons, real_cons]
    by_cases hd : isDot e = true
    · rw [if_pos hd, if_pos hd]
      exact ih false a refs
    · rw [if_neg hd, if_neg hd]
      have hstep := srvCb_step size plus a (view e)
      simp only [fitting]
      by_cases hlt : size - a.written < fuseLen plus (view e).name.length
      · rw [if_pos hlt] at hstep ⊢
        rw [hstep]
        cases plus <;> simp
      · rw [if_neg hlt] at hstep ⊢
        obtain ⟨n, hn⟩ := hstep
        rw [hn]
        obtain ⟨h1, h2, h3⟩ := ih false _ (if plus then e.ino :: refs else refs)
        exact ⟨h1.trans (by simp), h2, h3.trans (by cases plus <;> simp)⟩

/-- wrap a callback so that it logs (newest first) the inode of every offer it accepted, i.e.
    answered with `Ok(n)`, `n > 0` — the entries that reach the client -/
def recordCb {σ : Type} (cb : Cb σ) : Cb (σ × List Nat) := fun s o =>
  match cb s.1 o with
  | (s', .ok 0) => ((s', s.2), .ok 0)
  | (s', .ok (n + 1)) => ((s', o.ino :: s.2), .ok (n + 1))
  | (s', .err e) => ((s', s.2), .err e)

theorem entryLoop_refs {σ : Type} (plus : Bool) (cb : Cb σ) (b : Dir) (first : Bool) (s : σ) (log refs : List Nat) :
    ∃ k, (entryLoop plus (recordCb cb) b first (s, log) refs).cb.2 = k ++ log ∧
         (entryLoop plus (recordCb cb) b first (s, log) refs).refs = (if plus then k ++ refs else refs) := by
  induction b generalizing first s log refs with
  | nil => exact ⟨[], rfl, by cases plus <;> rfl⟩
  | cons e r ih =>
    rw [entryLoop_cons]
    by_cases hd : isDot e = true
    · rw [if_pos hd]; exact ih false s log refs
    · rw [if_neg hd]
      have hstep : recordCb cb (s, log) (view e) = match cb s (view e) with
          | (s', .ok 0) => ((s', log), .ok 0)
          | (s', .ok (n + 1)) => ((s', e.ino :: log), .ok (n + 1))
          | (s', .err en) => ((s', log), .err en) := rfl
      rw [hstep]
      rcases cb s (view e) with ⟨s', (_ | n) | en⟩
      · exact ⟨[], rfl, by cases plus <;> rfl⟩
      · obtain ⟨k, h1, h2⟩ := ih false s' (e.ino :: log) (if plus then e.ino :: refs else refs)
        exact ⟨k ++ [e.ino], h1.trans (by simp), h2.trans (by cases plus <;> simp)⟩
      · exact ⟨[], rfl, by cases plus <;> rfl⟩

theorem walk_cons {α : Type} {p rem : List α} {W : List (List α)} (hp : p <+: rem)
    (h1 : W.flatten = rem.drop p.length) (h2 : W.getLast? = some []) :
    (p :: W).flatten = rem ∧ (p :: W).getLast? = some [] := by
  obtain ⟨t, rfl⟩ := hp
  refine ⟨by simp [h1], ?_⟩
  cases W with
  | nil => cases h2
  | cons y ys => simpa [List.getLast?_cons_cons] using h2

end Fbr.Lemmas.PtDir
