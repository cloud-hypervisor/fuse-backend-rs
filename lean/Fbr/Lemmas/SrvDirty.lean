/-
  Fbr.Lemmas.SrvDirty — the dirty-page prediction of the srv stage (`Fbr.SrvShow.dirtyPages`)
  is exactly "the pages holding the first `n` byte addresses of the writable descriptors".
  `dirtyPages` is the loop of the transport model's `mark_dirty` (`Fbr.Xport.markDirty`) written
  over `(address, length)` pairs: its fold collects the pages `markDirty` marks for the descriptors
  taken as buffers of one region with 4 KiB pages (`foldl_pages_eq_markDirty`), and the
  characterisation follows from `Xport.mem_markDirty`.
-/
import Fbr.SrvShow
import Fbr.Lemmas.XportLog

namespace Fbr.SrvShow

/-- byte addresses of one descriptor `(address, length)` -/
def descAddrs (d : Nat × Nat) : List Nat := (List.range d.2).map (d.1 + ·)

/-- byte addresses of the reply area, in the order the writer fills them -/
def areaAddrs (segs : List (Nat × Nat)) : List Nat := segs.flatMap descAddrs

theorem mem_dedupe (ps init : List Nat) (x : Nat) :
    x ∈ ps.foldl (fun acc p => if acc.contains p then acc else acc ++ [p]) init ↔ x ∈ init ∨ x ∈ ps := by
  induction ps generalizing init with
  | nil => simp
  | cons p rest ih =>
    simp only [List.foldl_cons]
    rw [ih]
    by_cases hc : init.contains p = true
    · have hp : p ∈ init := by simpa using hc
      rw [if_pos hc, List.mem_cons]
      constructor
      · rintro (h | h)
        · exact .inl h
        · exact .inr (.inr h)
      · rintro (h | rfl | h)
        · exact .inl h
        · exact .inl hp
        · exact .inr h
    · rw [if_neg hc, List.mem_append, List.mem_singleton, List.mem_cons, or_assoc]

open Fbr.Xport

/-- a descriptor `(address, length)` as a buffer of region 0 -/
def toSeg (d : Nat × Nat) : Seg := { region := 0, off := d.1, len := d.2 }

theorem addrs_toSeg (segs : List (Nat × Nat)) : addrs (segs.map toSeg) = (areaAddrs segs).map ((0, ·)) := by
  induction segs with
  | nil => rfl
  | cons d rest ih =>
    rw [List.map_cons, addrs, ih]
    simp [areaAddrs, segAddrs, descAddrs, toSeg]

theorem pagesOf_toSeg (a k : Nat) (hk : k ≠ 0) :
    (pagesOf 4096 { region := 0, off := a, len := k }).map (·.2) =
      (List.range ((a + k - 1) / 4096 - a / 4096 + 1)).map (· + a / 4096) := by
  unfold pagesOf
  rw [if_neg hk, List.map_map, List.range'_eq_map_range, List.map_map]
  exact List.map_congr_left fun i _ => Nat.add_comm _ _

/-- the pages `dirtyPages` collects are the pages `mark_dirty` marks -/
theorem foldl_pages_eq_markDirty (segs : List (Nat × Nat)) (rem : Nat) (ps : List Nat) :
    (segs.foldl (fun (acc : Nat × List Nat) (x : Nat × Nat) =>
      match x with
      | (a, l) =>
        match acc with
        | (rem, ps) =>
          let k := min rem l
          if k == 0 then (rem, ps)
          else (rem - k, ps ++ (List.range ((a + k - 1) / 4096 - a / 4096 + 1)).map (· + a / 4096))) (rem, ps)).2
      = ps ++ ((dirtyRanges (segs.map toSeg) rem).foldl (markRange 4096) []).map (·.2) := by
  induction segs generalizing rem ps with
  | nil => simp [dirtyRanges]
  | cons d rest ih =>
    obtain ⟨a, l⟩ := d
    simp only [List.foldl_cons, List.map_cons, foldl_markRange_dirtyRanges_cons, List.map_append]
    by_cases hk : (min rem l == 0) = true
    · have h0 : min rem l = 0 := by simpa using hk
      rw [if_pos hk, ih]
      show _ = ps ++ ((pagesOf 4096 { region := 0, off := a, len := min rem l }).map _ ++
        ((dirtyRanges _ (rem - min rem l)).foldl _ []).map _)
      rw [h0]; rfl
    · rw [if_neg hk, ih, List.append_assoc]
      exact congrArg _ (congrArg (· ++ _) (pagesOf_toSeg a _ (by simpa using hk)).symm)

theorem mem_dirtyPages (segs : List (Nat × Nat)) (n x : Nat) :
    x ∈ dirtyPages segs n ↔ ∃ a ∈ (areaAddrs segs).take n, a / 4096 = x := by
  unfold dirtyPages
  simp only [List.mem_mergeSort]
  rw [mem_dedupe]
  have := foldl_pages_eq_markDirty segs n []
  simp only [List.nil_append] at this
  simp only [List.not_mem_nil, false_or, this, List.mem_map]
  have hm := fun y => mem_markDirty (w := { p := 4096, mem := ⟨[]⟩, dirty := [], log := [], fd := [] })
    (segs.map toSeg) n y
  simp only [markDirty, List.not_mem_nil, false_or, addrs_toSeg, ← List.map_take, List.mem_map] at hm
  constructor
  · rintro ⟨y, hy, rfl⟩
    obtain ⟨_, ⟨a, ha, rfl⟩, rfl⟩ := (hm y).mp hy
    exact ⟨a, ha, rfl⟩
  · rintro ⟨a, ha, rfl⟩
    exact ⟨(0, a / 4096), (hm _).mpr ⟨_, ⟨a, ha, rfl⟩, rfl⟩, rfl⟩

end Fbr.SrvShow
