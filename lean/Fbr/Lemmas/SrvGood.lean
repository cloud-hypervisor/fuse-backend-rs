/-
  Fbr.Lemmas.SrvGood — the vocabulary of the reply-stream invariant `Good` of `Srv.handle` (a complete
  message, a reply area, a reply that reached the client) and what the two reply functions do when the
  reply fits the buffer and when it does not.
-/
import Fbr.Srv
import Fbr.Lemmas.Wire

namespace Fbr.Srv
open Fbr.Wire Fbr.Conv

/-- the `error` header field is zero or a negated errno in `[-4095, -1]` (as `i32` bits) -/
def ErrOk (v : Nat) : Prop := v = 0 ∨ (2 ^ 32 - 4095 ≤ v ∧ v < 2 ^ 32)

def msgLen (m : Bytes) : Nat := u32At m 0
def msgErr (m : Bytes) : Nat := u32At m 4
def msgUnique (m : Bytes) : Nat := u64At m 8

/-- one complete reply message -/
structure WfMsg (unique : Nat) (m : Bytes) : Prop where
  len16 : 16 ≤ m.length
  lenField : msgLen m = m.length
  uniq : msgUnique m = unique
  err : ErrOk (msgErr m)

/-- virtio-fs writable area: a complete message, possibly followed by bytes the client will not
    read because the header's length stops before them -/
structure WfArea (unique : Nat) (a : Bytes) : Prop where
  len16 : 16 ≤ msgLen a
  lenLe : msgLen a ≤ a.length
  uniq : msgUnique a = unique
  err : ErrOk (msgErr a)

theorem encodeKind_range (k : String) : 1 ≤ encodeKind k ∧ encodeKind k ≤ 4095 := by
  unfold encodeKind
  repeat' split
  all_goals omega

theorem outHeader_length (l e u : Nat) : (outHeader l e u).length = 16 := by
  simp [outHeader]

theorem msgLen_header (l e u : Nat) (rest : Bytes) :
    msgLen (outHeader l e u ++ rest) = l % 2 ^ 32 := by
  unfold msgLen outHeader
  wire_norm

theorem msgErr_header (l e u : Nat) (rest : Bytes) :
    msgErr (outHeader l e u ++ rest) = e % 2 ^ 32 := by
  unfold msgErr outHeader
  wire_norm

theorem msgUnique_header (l e u : Nat) (rest : Bytes) :
    msgUnique (outHeader l e u ++ rest) = u % 2 ^ 64 := by
  unfold msgUnique outHeader
  wire_norm

theorem errOk_lt (v : Nat) (h : ErrOk v) : v < 2 ^ 32 := by
  rcases h with h | h <;> omega

theorem wfMsg_header (e u : Nat) (rest : Bytes) (hlt : 16 + rest.length < 2 ^ 32)
    (hu : u < 2 ^ 64) (he : ErrOk e) : WfMsg u (outHeader (16 + rest.length) e u ++ rest) where
  len16 := by simp [outHeader_length]
  lenField := by
    rw [msgLen_header, Nat.mod_eq_of_lt hlt]; simp [outHeader_length]
  uniq := by rw [msgUnique_header, Nat.mod_eq_of_lt hu]
  err := by rw [msgErr_header, Nat.mod_eq_of_lt (errOk_lt e he)]; exact he

theorem wfArea_of_wfMsg {u : Nat} {m : Bytes} (h : WfMsg u m) : WfArea u m where
  len16 := by rw [h.lenField]; exact h.len16
  lenLe := by rw [h.lenField]; exact Nat.le_refl _
  uniq := h.uniq
  err := h.err

/-- a reply reached the client: one fd write on /dev/fuse, a non-empty area on virtio-fs -/
def Replied (cfg : Cfg) (r : Res) : Prop :=
  if cfg.fusedev then r.out.sys.length = 1 else r.out.area ≠ []

/-- what holds of the outcome of every request: no panic, at most one message and only on the
    transport in use, every message well-formed for `unique` and within the reply buffer -/
structure Good (cfg : Cfg) (unique : Nat) (r : Res) : Prop where
  noPanic : ∀ s, r.ret ≠ .panic s
  oneWrite : r.out.sys.length ≤ 1
  sepF : cfg.fusedev = true → r.out.area = []
  sepV : cfg.fusedev = false → r.out.sys = []
  sysWf : ∀ m ∈ r.out.sys, WfMsg unique m
  areaWf : r.out.area = [] ∨ WfArea unique r.out.area
  okReplied : ∀ n, r.ret = .ok n → 0 < n → Replied cfg r
  fitsSys : ∀ m ∈ r.out.sys, m.length ≤ cfg.cap
  fitsArea : r.out.area.length ≤ cfg.cap

theorem replyErr_small {cfg : Cfg} (h : cfg.cap < 16) (u : Nat) (e : IoErr) :
    replyErr cfg u e = ({}, .err .encodeMessage) := if_pos h

theorem replyErr_fits {cfg : Cfg} (h : 16 ≤ cfg.cap) (u : Nat) (e : IoErr) :
    replyErr cfg u e = (emit cfg (outHeader 16 (errField e) u), .ok 16) := if_neg (Nat.not_lt.mpr h)

theorem replyOk_small {cfg : Cfg} {body data : Bytes} (h : cfg.cap < 16 + body.length + data.length) (u : Nat) :
    replyOk cfg u body data = ({}, .err .encodeMessage) := if_pos h

theorem replyOk_fits {cfg : Cfg} {body data : Bytes} (h : 16 + body.length + data.length ≤ cfg.cap) (u : Nat) :
    replyOk cfg u body data =
      (emit cfg (outHeader (16 + body.length + data.length) 0 u ++ body ++ data),
       .ok (16 + body.length + data.length)) := if_neg (Nat.not_lt.mpr h)

end Fbr.Srv
