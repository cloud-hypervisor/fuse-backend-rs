/-
  Fbr.Lemmas.PtHostSafe — running the passthrough model on the reference host FS:

  * `Safe Q p h`: run from host state `h`, every call of `p` is confined in the state it is issued
    in (`ConfinedOpen`, no truncating plain `openat`) and the result satisfies `Q`;
  * `J pt h`: the joint invariant of the inode table `pt` and the host state `h` — the host is
    `Good` and well-formed, every table entry's descriptor / file handle denotes the entry's `id`,
    and **exactly the entries numbered 1 denote the export root** (C06 needs this to know that ".."
    is never sent on a descriptor of the export root);
  * `JSafe m`: the request-monad action `m` keeps `J` and all its calls are confined.  Two ways to it:
    call by call with `J.call` (a confined call from a `J` state leads to a `J` state that extends it, in
    which its answer says what it names, `Ref.Says`), or at once for a block whose calls are confined in
    every state (`Free`) and that keeps the inode tables (`JSafe.of_acts`).
-/
import Fbr.Lemmas.HostRefWf
import Fbr.Lemmas.PtHostCalls

namespace Fbr.PtHost
open Fbr.Host

variable {α β : Type}

/-- all calls confined, result in `Q` (a weakest precondition over the reference FS);
    `Ref.AllConfined`, which `Ref.run_good` asks for, is the same without the result (`safe_run`) -/
def Safe (Q : α → Ref.State → Prop) : Prog α → Ref.State → Prop
  | .pure a, h => Q a h
  | .call c k, h => Ref.ConfinedOpen h c ∧ TruncOk c ∧ Safe Q (k (Ref.step h c).1) (Ref.step h c).2

theorem safe_pure (Q : α → Ref.State → Prop) (a : α) (h : Ref.State) : Safe Q (.pure a) h = Q a h := rfl

theorem safe_call (Q : α → Ref.State → Prop) (c : HCall) (k : HAns → Prog α) (h : Ref.State) :
    Safe Q (.call c k) h = (Ref.ConfinedOpen h c ∧ TruncOk c ∧ Safe Q (k (Ref.step h c).1) (Ref.step h c).2) := rfl

theorem safe_mono {Q Q' : α → Ref.State → Prop} {p : Prog α} {h : Ref.State} (hq : ∀ a h', Q a h' → Q' a h')
    (hs : Safe Q p h) : Safe Q' p h := by
  induction p generalizing h with
  | pure a => exact hq a h hs
  | call c k ih => exact ⟨hs.1, hs.2.1, ih _ hs.2.2⟩

theorem safe_bind {Q : β → Ref.State → Prop} {p : Prog α} {f : α → Prog β} {h : Ref.State}
    (hs : Safe (fun a h' => Safe Q (f a) h') p h) : Safe Q (p.bind f) h := by
  induction p generalizing h with
  | pure a => exact hs
  | call c k ih => exact ⟨hs.1, hs.2.1, ih _ hs.2.2⟩

theorem safe_run (sent : Obj → Bool) (root : Obj) {Q : α → Ref.State → Prop} (p : Prog α) (h : Ref.State)
    (hs : Safe Q p h) :
    Ref.AllConfined sent root p h ∧ Q (val (Ref.ops sent root) p h) (fin (Ref.ops sent root) p h) := by
  induction p generalizing h with
  | pure a => exact ⟨trivial, hs⟩
  | call c k ih =>
    have := ih _ _ hs.2.2
    exact ⟨⟨hs.1, hs.2.1, this.1⟩, this.2⟩

theorem safe_bindM {Q : Except Nat β × PtState → Ref.State → Prop} {m : M α} {f : α → M β} {pt : PtState} {h : Ref.State}
    (hs : Safe (fun r h' => match r.1 with
                  | .ok a => Safe Q (f a r.2) h'
                  | .error e => Q (.error e, r.2) h') (m pt) h) : Safe Q ((m >>= f) pt) h := by
  show Safe Q (M.bind' m f pt) h
  unfold M.bind'
  refine safe_bind (safe_mono (fun r h' => ?_) hs)
  cases r.1 <;> exact id

/-- what an inode table entry's `InodeHandle` denotes in the host -/
def Denotes (h : Ref.State) : IHandle → Obj → Prop
  | .file f, o => Ref.fdObj h f = some o
  | .handle k, o => h.handles k = some o

theorem Denotes.ext {h h' : Ref.State} (e : Ref.Ext h h') {x : IHandle} {o : Obj} (d : Denotes h x o) : Denotes h' x o := by
  cases x with
  | file f => exact e.fds f o d
  | handle k => exact e.handles k o d

structure J (pt : PtState) (h : Ref.State) : Prop where
  good : Ref.Good h
  wf : Ref.Wf h
  /-- the root entry exists (it is never forgotten) -/
  rootEx : ∃ d ∈ pt.inodes, d.inode = ROOT_ID
  rootId : ∀ d ∈ pt.inodes, d.inode = ROOT_ID → d.id = h.exportRoot
  /-- **only inode 1 denotes the export root** -/
  uniq : ∀ d ∈ pt.inodes, d.id = h.exportRoot → d.inode = ROOT_ID
  den : ∀ d ∈ pt.inodes, Denotes h d.handle d.id
  byId : pt.byId.lookup h.exportRoot = some ROOT_ID
  byH : ∀ d ∈ pt.inodes, ∀ k, d.inode = ROOT_ID → d.handle = .handle k → pt.byHandle.lookup k = some ROOT_ID
  next : ROOT_ID < pt.nextInode

/-- `J` reads only the inode tables -/
theorem J.tables {pt pt' : PtState} {h : Ref.State} (j : J pt h) (h1 : pt'.inodes = pt.inodes) (h2 : pt'.byId = pt.byId)
    (h3 : pt'.byHandle = pt.byHandle) (h4 : pt'.nextInode = pt.nextInode) : J pt' h := by
  obtain ⟨a, b, c, d, e, f, g, i, k⟩ := j
  constructor <;> (try rw [h1]) <;> (try rw [h2]) <;> (try rw [h3]) <;> (try rw [h4]) <;> assumption

theorem J.host {pt : PtState} {h h' : Ref.State} (j : J pt h) (g : Ref.Good h') (w : Ref.Wf h') (e : Ref.Ext h h') : J pt h' := by
  refine ⟨g, w, j.rootEx, ?_, ?_, ?_, ?_, j.byH, j.next⟩
  · intro d hd h1; rw [e.root]; exact j.rootId d hd h1
  · intro d hd h1; rw [e.root] at h1; exact j.uniq d hd h1
  · intro d hd; exact (j.den d hd).ext e
  · rw [e.root]; exact j.byId

theorem J.step {pt : PtState} {h : Ref.State} (j : J pt h) (c : HCall) (hc : Ref.ConfinedOpen h c) :
    J pt (Ref.step h c).2 ∧ Ref.Ext h (Ref.step h c).2 := by
  have hw := Ref.wf_step h c j.wf
  exact ⟨j.host (Ref.stays_step h j.good c hc).1 hw.1 hw.2, hw.2⟩

theorem J.inside {pt : PtState} {h : Ref.State} (j : J pt h) (d : InodeData) (hd : d ∈ pt.inodes) : h.sent d.id = false := by
  have := j.den d hd
  cases hh : d.handle with
  | file f => rw [hh] at this; exact Ref.fdObj_inside j.good this
  | handle k => rw [hh] at this; exact j.good.handles k d.id this

structure JSafe (m : M α) : Prop where
  h : ∀ pt h, J pt h → Safe (fun r h' => J r.2 h') (m pt) h

theorem jsafe_pure (a : α) : JSafe (pure a : M α) := ⟨fun _ _ j => j⟩
theorem jsafe_pure' (a : α) : JSafe (M.pure' a : M α) := ⟨fun _ _ j => j⟩

theorem jsafe_modify (f : PtState → PtState) (hf : ∀ pt h, J pt h → J (f pt) h) : JSafe (M.modify f) :=
  ⟨fun pt h j => hf pt h j⟩

def Plain : HCall → Prop
  | .openat .. => False
  | _ => True

theorem Plain.confined {c : HCall} (hc : Plain c) (h : Ref.State) : Ref.ConfinedOpen h c := by
  cases c <;> first | trivial | exact hc.elim

theorem Plain.truncOk {c : HCall} (hc : Plain c) : TruncOk c := fun _ _ _ _ e => by subst e; exact hc.elim

/-- **one call under `J`**: confined and not truncating, it leads to a `J`-state that extends `h`, in which its
    answer says what it names (`Ref.Says`) -/
theorem J.call {Q : Except Nat β × PtState → Ref.State → Prop} {pt : PtState} {h : Ref.State} (j : J pt h) {c : HCall}
    {k : HAns → M β} (hc : Ref.ConfinedOpen h c) (ht : TruncOk c)
    (hk : ∀ a h', J pt h' → Ref.Ext h h' → Ref.Says h c h' a → Safe Q (k a pt) h') : Safe Q ((M.sys c >>= k) pt) h :=
  ⟨hc, ht, hk _ _ (j.step c hc).1 (j.step c hc).2 (Ref.step_says h c)⟩

/-- the same for any call but a plain `openat` -/
theorem J.plainCall {Q : Except Nat β × PtState → Ref.State → Prop} {pt : PtState} {h : Ref.State} (j : J pt h) {c : HCall}
    {k : HAns → M β} (hk : ∀ a h', J pt h' → Ref.Ext h h' → Ref.Says h c h' a → Safe Q (k a pt) h')
    (hp : Plain c := by trivial) : Safe Q ((M.sys c >>= k) pt) h :=
  j.call (hp.confined h) hp.truncOk hk

theorem JSafe.bind {m : M α} {f : α → M β} (hm : JSafe m) (hf : ∀ a, JSafe (f a)) : JSafe (m >>= f) := by
  refine ⟨fun pt h j => ?_⟩
  refine safe_bindM (safe_mono ?_ (hm.h pt h j))
  intro r h' jr
  split
  · exact (hf _).h r.2 h' jr
  · exact jr

theorem JSafe.try' {m : M α} (hm : JSafe m) : JSafe (M.try' m) := by
  refine ⟨fun pt h j => ?_⟩
  unfold M.try'
  exact safe_bind (safe_mono (fun r h' jr => jr) (hm.h pt h j))

def Free (c : HCall) : Prop := (∀ h, Ref.ConfinedOpen h c) ∧ TruncOk c

theorem Plain.free {c : HCall} (hc : Plain c) : Free c := ⟨hc.confined, hc.truncOk⟩

theorem JSafe.of_acts {m : M α} (hm : Acts Free true m) : JSafe m := by
  refine ⟨fun pt h j => ?_⟩
  have h1 := hm.h pt
  generalize m pt = p at h1
  induction p generalizing h with
  | pure r =>
    obtain ⟨a, b, c, d⟩ := h1 rfl
    exact j.tables a b c d
  | call c k ih => exact ⟨h1.1.1 h, h1.1.2, ih _ _ (j.step c (h1.1.1 h)).1 (h1.2 _)⟩

end Fbr.PtHost
