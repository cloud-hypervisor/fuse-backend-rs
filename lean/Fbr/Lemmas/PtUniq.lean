/-
  C08, `use_host_ino = true` without file handles (`inode_file_handles` off): an insert never
  replaces a live entry — for every history.

  Inode numbers are `(uid << 47) | st_ino` (uid = the small id of the (dev, mnt) pair) or, for host
  inode numbers above `MAX_HOST_INO`, a virtual number remembered in the id → number map.  With
  descriptors only, a live entry is always found by its `InodeId` (`HU.idmap`), so the insert path is
  taken only for files whose number is not in use; the packing is injective (`pack_inj` …), hence a
  number that is in use belongs to the same `InodeId`.
-/
import Fbr.Lemmas.Pack
import Fbr.Lemmas.PtPrim
import Fbr.Lemmas.PtFresh

namespace Fbr.PtRefs

def VirtForm (s : St) (i : Ino) : Prop :=
  ∃ u v, 1 ≤ u ∧ u < 255 ∧ v < s.nextVirt ∧ i = packIno u (v ||| VIRTUAL_INODE_FLAG)

/-- `HU` for "host inode numbers, unique": the invariant of the configuration `use_host_ino = true`
    without file handles under which the number `do_lookup` forms for a file that `get_alt` did not
    find is never in use (`HU.insert`), so `clobbered` stays `false`. -/
structure HU (s : St) : Prop where
  d : DInv s
  clob : s.clobbered = false
  nofh : ∀ i x, mget s.data i = some x → x.fh = none
  /-- how the number of a live entry is formed -/
  form : ∀ i x, mget s.data i = some x → i ≠ ROOT_ID →
    (x.id.ino ≤ MAX_HOST_INO ∧ ∃ u, mget s.devMap (x.id.dev, x.id.mnt) = some u ∧ i = packIno u x.id.ino)
    ∨ (x.id.ino > MAX_HOST_INO ∧ VirtForm s i)
  /-- remembered numbers of virtual ids are virtual numbers -/
  vmap : ∀ id i, mget s.byId id = some i → i ≠ ROOT_ID → id.ino > MAX_HOST_INO → VirtForm s i
  /-- **a live entry is found by its id** (directly, or the id maps to the live root) -/
  idmap : ∀ i x, mget s.data i = some x → i ≠ ROOT_ID →
    mget s.byId x.id = some i ∨ (mget s.byId x.id = some ROOT_ID ∧ (mget s.data ROOT_ID).isSome = true)
  uniq : ∀ i j x y, mget s.data i = some x → mget s.data j = some y → i ≠ ROOT_ID → j ≠ ROOT_ID → x.id = y.id → i = j
  rootmap : ∀ id, mget s.byId id = some ROOT_ID → (mget s.data ROOT_ID).isSome = true

theorem VirtForm.mono {s s' : St} (h : s.nextVirt ≤ s'.nextVirt) {i : Ino} (v : VirtForm s i) : VirtForm s' i := by
  obtain ⟨u, w, h1, h2, h3, h4⟩ := v
  exact ⟨u, w, h1, h2, Nat.lt_of_lt_of_le h3 h, h4⟩

theorem hu_fresh : HU St.fresh := by
  refine ⟨⟨by decide, by decide, ?_, ?_, by decide⟩, rfl, ?_, ?_, ?_, ?_, ?_, ?_⟩
  all_goals (intros; simp [St.fresh] at *)

theorem HU.sub {s s' : St} (h : HU s) (hx : AllocExt s s') (hc : s'.clobbered = s.clobbered)
    (hent : ∀ i y, mget s'.data i = some y → i ≠ ROOT_ID →
      ∃ x, mget s.data i = some x ∧ x.id = y.id ∧ x.fh = y.fh)
    (hrfh : ∀ y, mget s'.data ROOT_ID = some y → y.fh = none)
    (hby : ∀ id j, mget s'.byId id = some j → j ≠ ROOT_ID → mget s.byId id = some j)
    (hkeep : ∀ i y, mget s'.data i = some y → i ≠ ROOT_ID →
      mget s'.byId y.id = mget s.byId y.id ∨ mget s'.byId y.id = some ROOT_ID)
    (hrl : (mget s.data ROOT_ID).isSome = true → (mget s'.data ROOT_ID).isSome = true)
    (hrm : ∀ id, mget s'.byId id = some ROOT_ID → (mget s'.data ROOT_ID).isSome = true) : HU s' := by
  refine ⟨hx.inv h.d, by rw [hc]; exact h.clob, ?_, ?_, ?_, ?_, ?_, hrm⟩
  · intro i y hi
    by_cases hr : i = ROOT_ID
    · subst hr; exact hrfh y hi
    · obtain ⟨x, a, _, c⟩ := hent i y hi hr; rw [← c]; exact h.nofh i x a
  · intro i y hi hr
    obtain ⟨x, a, b, _⟩ := hent i y hi hr
    rw [← b]
    rcases h.form i x a hr with ⟨p, u, q, r⟩ | ⟨p, q⟩
    · exact Or.inl ⟨p, u, hx.ext _ _ q, r⟩
    · exact Or.inr ⟨p, q.mono hx.virt⟩
  · intro id i hi hr hg; exact (h.vmap id i (hby id i hi hr) hr hg).mono hx.virt
  · intro i y hi hr
    obtain ⟨x, a, b, _⟩ := hent i y hi hr
    rcases hkeep i y hi hr with e | e
    · rw [e, ← b]
      rcases h.idmap i x a hr with p | ⟨p, q⟩
      · exact Or.inl p
      · exact Or.inr ⟨p, hrl q⟩
    · exact Or.inr ⟨e, hrm _ e⟩
  · intro i j y z hi hj hri hrj hyz
    obtain ⟨x, a, b, _⟩ := hent i y hi hri
    obtain ⟨w, a', b', _⟩ := hent j z hj hrj
    exact h.uniq i j x w a a' hri hrj (by rw [b, b', hyz])

theorem HU.frame {s s' : St} (h : HU s) (u : Unchanged s s') : HU s' :=
  h.sub u.alloc u.clobbered (fun i y hi _ => ⟨y, by rw [← u.data]; exact hi, rfl, rfl⟩)
    (fun y hi => h.nofh _ y (by rw [← u.data]; exact hi)) (fun id j hj _ => by rw [← u.byId]; exact hj)
    (fun _ _ _ _ => .inl (by rw [u.byId])) (by rw [u.data]; exact id)
    (fun id hj => by rw [u.data]; exact h.rootmap id (by rw [← u.byId]; exact hj))

theorem HU.refs {s s' : St} (h : HU s) (hx : AllocExt s s') (hc : s'.clobbered = s.clobbered)
    (hb : s'.byId = s.byId) {ino : Ino} {x : IData} (r : Nat) (hm : mget s.data ino = some x)
    (hd : s'.data = mput s.data ino { x with refs := r }) : HU s' := by
  have hent : ∀ i y, mget s'.data i = some y → ∃ x0, mget s.data i = some x0 ∧ x0.id = y.id ∧ x0.fh = y.fh := by
    rw [hd]; exact forall_mget_mput ⟨x, hm, rfl, rfl⟩ fun i y hi => ⟨y, hi, rfl, rfl⟩
  have hrl : (mget s.data ROOT_ID).isSome = true → (mget s'.data ROOT_ID).isSome = true := by
    intro hr; rw [hd, mget_mput]; split
    · rfl
    · exact hr
  refine h.sub hx hc (fun i y hi _ => hent i y hi) ?_ (fun id j hj _ => by rw [← hb]; exact hj)
    (fun _ _ _ _ => .inl (by rw [hb])) hrl (fun id hj => hrl (h.rootmap id (by rw [← hb]; exact hj)))
  intro y hi
  obtain ⟨x0, a, _, c⟩ := hent _ y hi
  rw [← c]; exact h.nofh _ x0 a

theorem HU.no_live_id {s : St} (h : HU s) {id : InodeId} (hg : getAlt s id none = none) :
    ∀ i x, mget s.data i = some x → i ≠ ROOT_ID → x.id ≠ id := by
  intro i x hi hr e
  rcases h.idmap i x hi hr with p | ⟨p, q⟩
  · rw [e] at p
    have := not_live_of_mapping hg p
    rw [hi] at this; cases this
  · rw [e] at p
    rw [not_live_of_mapping hg p] at q; cases q

/-- the number `allocate_inode` forms for a file the probe did not find is not the root's and
    **not in use**: the packing is injective and a live entry is found by its id -/
theorem HU.number_free {s s' : St} (h : HU s) {id : InodeId} {ino : Ino} (hg : getAlt s id none = none)
    (hx : AllocExt s s') (hform : UForm s s' id none ino) :
    ino ≠ ROOT_ID ∧ mget s.data ino = none ∧
      ((id.ino ≤ MAX_HOST_INO ∧ ∃ u, mget s'.devMap (id.dev, id.mnt) = some u ∧ ino = packIno u id.ino)
       ∨ (id.ino > MAX_HOST_INO ∧ VirtForm s' ino)) := by
  have d' := hx.inv h.d
  have hnoid := h.no_live_id hg
  have hvle : ∀ v, v < s.nextVirt → v ≤ MAX_HOST_INO := fun v hv => by have := h.d.virt; omega
  rcases hform with ⟨hgt, hl⟩ | ⟨hle, u, hu, hi⟩ | ⟨hgt, u, hu, hi, hv, hn⟩
  · -- the remembered number of a virtual id
    have hl' : mget s.byId id = some ino := hl
    have hdead : mget s.data ino = none := not_live_of_mapping hg hl
    have hnr : ino ≠ ROOT_ID := by
      intro e1
      rw [e1] at hl' hdead
      have := h.rootmap id hl'
      rw [hdead] at this; cases this
    exact ⟨hnr, hdead, Or.inr ⟨hgt, (h.vmap id ino hl' hnr hgt).mono hx.virt⟩⟩
  · -- `(uid << 47) | st_ino`
    obtain ⟨hu1, hu255⟩ := d'.uid_range hu
    have hnr : ino ≠ ROOT_ID := by rw [hi]; exact pack_ne_root hu1 hle
    refine ⟨hnr, Option.eq_none_iff_forall_ne_some.mpr fun y hdd => ?_, Or.inl ⟨hle, u, hu, hi⟩⟩
    rcases h.form ino y hdd hnr with ⟨p, u', q, r⟩ | ⟨p, u', v, q1, q2, q3, r⟩
    · have q' := hx.ext _ _ q
      rw [hi] at r
      obtain ⟨e1, e2⟩ := pack_inj hle p r
      subst e1
      have e3 := d'.inj _ _ u hu q'
      have : y.id = id := by
        cases hy : y.id; cases hfid : id
        rw [hy, hfid] at e2 e3
        cases e3; cases e2; rfl
      exact hnoid ino y hdd hnr this
    · rw [hi] at r
      exact pack_ne_virt hu255 q2 hle (hvle v q3) r
  · -- a new virtual number
    obtain ⟨hu1, hu255⟩ := d'.uid_range hu
    have hnr : ino ≠ ROOT_ID := by rw [hi]; exact pack_virt_ne_root hu255 hv
    refine ⟨hnr, Option.eq_none_iff_forall_ne_some.mpr fun y hdd => ?_,
      Or.inr ⟨hgt, u, s.nextVirt, hu1, hu255, by rw [hn]; exact Nat.lt_succ_self _, hi⟩⟩
    rcases h.form ino y hdd hnr with ⟨p, u', q, r⟩ | ⟨p, u', v, q1, q2, q3, r⟩
    · rw [hi] at r
      exact pack_ne_virt (h.d.uid_range q).2 hu255 p hv r.symm
    · rw [hi] at r
      obtain ⟨_, e2⟩ := pack_virt_inj hu255 q2 hv (hvle v q3) r
      rw [← e2] at q3
      exact absurd q3 (Nat.lt_irrefl _)

theorem HU.insert {e : Env} (hk : e.useHostIno = true) {s s' : St} (h : HU s) (f : HFile) (ino : Ino) (hf : f.fh = none)
    (hg : getAlt s f.id f.fh = none)
    (hd : s'.data = mput s.data ino { id := f.id, fh := f.fh, refs := 1, safe := f.safe })
    (hc : s'.clobbered = (s.clobbered || (decide (ino ≠ ROOT_ID) && (mget s.data ino).isSome)))
    (hb : s'.byId = mput s.byId f.id ino) (hx : AllocExt s s') (hform : UForm s s' f.id f.fh ino) : HU s' := by
  rw [hf] at hg hform
  have d' := hx.inv h.d
  have hnoid := h.no_live_id hg
  obtain ⟨hnr, hdead, hnewform⟩ := h.number_free hg hx hform
  have hrootd : mget s'.data ROOT_ID = mget s.data ROOT_ID := by
    rw [hd, mget_mput_ne _ _ hnr]
  refine ⟨d', by rw [hc, h.clob, hdead]; simp, ?_, ?_, ?_, ?_, ?_, ?_⟩
  · rw [hd]; exact forall_mget_mput hf h.nofh
  · rw [hd]
    refine forall_mget_mput (fun _ => hnewform) fun i x hi hr => ?_
    rcases h.form i x hi hr with ⟨a, u, b, c⟩ | ⟨a, b⟩
    · exact Or.inl ⟨a, u, hx.ext _ _ b, c⟩
    · exact Or.inr ⟨a, b.mono hx.virt⟩
  · rw [hb]
    refine forall_mget_mput (fun _ hgt => ?_) fun id i hi hr hgt => (h.vmap id i hi hr hgt).mono hx.virt
    rcases hnewform with ⟨hle, _⟩ | ⟨_, hv⟩
    · exact absurd hgt (Nat.not_lt.mpr hle)
    · exact hv
  · rw [hrootd, hd, hb]
    refine forall_mget_mput (fun _ => .inl (mget_mput_self _ _ _)) fun i x hi hr => ?_
    rw [mget_mput_ne _ _ fun e3 : f.id = x.id => hnoid i x hi hr e3.symm]
    exact h.idmap i x hi hr
  · intro i j x y hi hj hri hrj hxy
    rw [hd] at hi hj
    rcases mget_mput_some hi with ⟨rfl, rfl⟩ | ⟨_, hi⟩ <;> rcases mget_mput_some hj with ⟨rfl, rfl⟩ | ⟨_, hj⟩
    · rfl
    · exact absurd hxy.symm (hnoid j y hj hrj)
    · exact absurd hxy (hnoid i x hi hri)
    · exact h.uniq i j x y hi hj hri hrj hxy
  · rw [hrootd, hb]
    exact fun id hi => (mget_mput_some hi).elim (fun e => absurd e.2 hnr) fun e => h.rootmap id e.2

theorem HU.forget {e : Env} (hk : e.useHostIno = true) {s : St} (h : HU s) (i : Ino) (n : Nat) : HU (forgetOne e s i n) := by
  by_cases hir : i = ROOT_ID
  · rw [hir, forgetOne_root]; exact h
  rcases forgetOne_cases e s i n with e1 | ⟨x, hdi, e1 | e1⟩ <;> rw [e1]
  · exact h
  · exact h.refs (AllocSame.ext ⟨rfl, rfl, rfl⟩) rfl rfl _ hdi rfl
  · have ht := tables_removeInode s i x (!e.useHostIno || decide (x.id.ino > MAX_HOST_INO))
    generalize removeInode s i x (!e.useHostIno || decide (x.id.ino > MAX_HOST_INO)) = s' at ht ⊢
    have hd : s'.data = mdel s.data i := congrArg Tables.data ht
    have hb : s'.byId = (if (!e.useHostIno || decide (x.id.ino > MAX_HOST_INO)) then s.byId else mdel s.byId x.id) :=
      congrArg Tables.byId ht
    have hc : s'.clobbered = s.clobbered := congrArg Tables.clobbered ht
    have ha : AllocSame s s' := ⟨congrArg Tables.devMap ht, congrArg Tables.nextUid ht, congrArg Tables.nextVirt ht⟩
    have hsub : ∀ j y, mget s'.data j = some y → i ≠ j ∧ mget s.data j = some y := by
      rw [hd]; exact fun j y => mget_mdel_some
    have hroot : mget s'.data ROOT_ID = mget s.data ROOT_ID := by
      rw [hd, mget_mdel_ne _ hir]
    have hbyid : ∀ id j, mget s'.byId id = some j → mget s.byId id = some j := by
      intro id j hj
      rw [hb] at hj
      split at hj
      · exact hj
      · exact (mget_mdel_some hj).2
    refine h.sub ha.ext hc (fun j y hj _ => ⟨y, (hsub j y hj).2, rfl, rfl⟩)
      (fun y hj => h.nofh _ y (hsub _ y hj).2) (fun id j hj _ => hbyid id j hj) ?_ (by rw [hroot]; exact id)
      (fun id hj => by rw [hroot]; exact h.rootmap id (hbyid id _ hj))
    -- the id of a remaining entry is not the one that was unmapped: ids are unique
    intro j y hj hr
    obtain ⟨hji, hjs⟩ := hsub j y hj
    have hne : x.id ≠ y.id := fun e1 => hji (h.uniq i j x y hdi hjs hir hr e1)
    rw [hb]
    split
    · exact .inl rfl
    · exact .inl (mget_mdel_ne _ hne)

theorem Tr.uniq {e : Env} (hk : e.useHostIno = true) {b : Bool} {s s' : St} {sp sp' : Spec}
    (t : Tr e true b s sp s' sp') (h : HU s) : HU s' := by
  induction t with
  | frame _ u => exact h.frame u
  | @lookup _ _ _ _ f ino u hf =>
    cases u with
    | hit hg x => exact h.refs x.alloc.ext x.clobbered x.byId _ (getAlt_data hg) x.data
    | ins hg x _ hx _ hform => exact h.insert hk f ino (hf rfl) hg x.data x.clobbered x.byId hx (hform hk)
  | forget i n => exact h.forget hk i n
  | @setRoot s0 s1 _ d x _ _ _ ha hf =>
    have hroot : (mget s1.data ROOT_ID).isSome = true := by rw [x.data]; simp
    have hold : ∀ i y, mget s1.data i = some y → i ≠ ROOT_ID → mget s0.data i = some y := by
      intro i y hi hr
      rw [x.data, mget_mput_ne _ _ (fun e => hr e.symm)] at hi
      exact hi
    refine h.sub ha.ext x.clobbered_root (fun i y hi hr => ⟨y, hold i y hi hr, rfl, rfl⟩) ?_ ?_ ?_ (fun _ => hroot)
      (fun _ _ => hroot)
    · intro y hi
      rw [x.data, mget_mput_self] at hi
      cases hi; exact hf rfl
    · rw [x.byId]; exact forall_mget_mput (fun hr => absurd rfl hr) fun id j hj _ => hj
    · intro i y _ _
      rw [x.byId, mget_mput]
      split
      · exact .inr rfl
      · exact .inl rfl
  | clear x =>
    refine ⟨x.alloc.ext.inv h.d, by rw [x.clobbered]; exact h.clob, ?_, ?_, ?_, ?_, ?_, ?_⟩
    all_goals (intros; simp [x.data, x.byId] at *)
  | trans _ _ ih1 ih2 => exact ih2 (ih1 h)

/-- with `use_host_ino` and without file handles, no history ever makes `InodeStore::insert`
    replace a live entry -/
theorem never_clobbers_hostino (e : Env) (hk : e.useHostIno = true) (h : List (Option Nat × Op)) (hnh : NoHandles h) :
    (run e St.fresh h).1.clobbered = false :=
  ((run_trN (nf := true) e h (fun _ => hnh) St.fresh Spec.init).uniq hk hu_fresh).clob

theorem never_clobbers (e : Env) (h : List (Option Nat × Op)) (hcfg : e.useHostIno = false ∨ NoHandles h) :
    (run e St.fresh h).1.clobbered = false := by
  cases hk : e.useHostIno with
  | false => exact never_clobbers_keep e hk h
  | true =>
    rcases hcfg with h1 | h1
    · rw [hk] at h1; cases h1
    · exact never_clobbers_hostino e hk h h1

end Fbr.PtRefs
