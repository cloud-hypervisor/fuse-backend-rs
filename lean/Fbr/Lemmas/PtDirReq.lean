/-
  C16: one READDIR / READDIRPLUS request served from a valid position, and the
  reply the client sees.
-/
import Fbr.Lemmas.PtDirAcct
import Fbr.Lemmas.PtDirInv

namespace Fbr.Lemmas.PtDir
open Fbr.PtDir Fbr.Wire

def hitOf (st : St) (h c : Nat) : Bool := !st.noOpendir && st.cache h == some c

/-- `get_dirdata`: in `no_opendir` mode every request opens the directory anew -/
def fdFor (st : St) (h : Nat) : Option Fd := if st.noOpendir then some {} else st.fds h

theorem fdFor_some {st : St} {h : Nat} (hh : st.noOpendir = true ∨ ∃ fd, st.fds h = some fd) :
    ∃ fd0, fdFor st h = some fd0 := by
  unfold fdFor
  cases hno : st.noOpendir with
  | true => exact ⟨{}, rfl⟩
  | false => exact hh.resolve_left (by simp [hno])

theorem hit_pos {st : St} (inv : Inv st) {h c : Nat} {fd0 : Fd} (hfd : fdFor st h = some fd0)
    (hit : hitOf st h c = true) : fd0.pos = c := by
  unfold fdFor at hfd
  unfold hitOf at hit
  cases hno : st.noOpendir with
  | true => simp [hno] at hit
  | false => exact inv.sound h fd0 c (by simpa [hno] using hfd) (by simpa [hno] using hit)

theorem readReq_fetch_err (H : Host) (st : St) (plus : Bool) (h size offset : Nat) (errAt : Option Nat)
    (hsz : size ≠ 0) {fd0 fde : Fd} {e : Nat} (hfd : fdFor st h = some fd0)
    (hf : fetch H (hitOf st h offset) fd0 size offset = (.error e, fde)) :
    (readReq H st plus h size offset errAt).2 = .error e := by
  unfold readReq doReaddir
  unfold fdFor at hfd
  unfold hitOf at hf
  simp only [hsz, if_false, hfd, hf]

theorem readReq_loop (H : Host) (st : St) (plus : Bool) (h size offset : Nat)
    (hsz : size ≠ 0) {fd0 fd1 fd2 : Fd} {b0 b : Dir} (hfd : fdFor st h = some fd0)
    (hf : fetch H (hitOf st h offset) fd0 size offset = (.ok b0, fd1))
    (hr : refetch H size (H.dir.length + 1) b0 fd1 = (.ok b, fd2)) :
    let acc := fitting (fun e => fuseLen plus (view e).name.length) size (real b) 0
    ∃ st', readReq H st plus h size offset none = (st', .ok (acc.map view)) ∧
      st'.refs = (if plus then (acc.map (·.ino)).reverse ++ st.refs else st.refs) := by
  obtain ⟨k1, k2, k3⟩ := entryLoop_srvCb size plus b true ({} : Acc) st.refs
  unfold readReq doReaddir setFd
  unfold fdFor at hfd
  unfold hitOf at hf
  simp only [hsz, if_false, hfd, hf, hr]
  -- storing the descriptor and caching the cookie leave `refs` alone
  cases hno : st.noOpendir <;> cases lastCookieL b <;> simp [hno, k1, k2, k3]

/-- the outcome of one request served from a valid position -/
structure Served (H : Host) (st st' : St) (plus : Bool) (h size : Nat) (rest0 : Dir) (out : List Offer) : Prop where
  /-- the reply is what fits of `rb`, the entries of the batch: the first ones still to deliver -/
  batch : ∃ rb rt, real rest0 = rb ++ rt ∧ (rb = [] → rt = []) ∧
            out = (fitting (fun e => fuseLen plus (view e).name.length) size rb 0).map view ∧
            st'.refs = (if plus then
              ((fitting (fun e => fuseLen plus (view e).name.length) size rb 0).map (·.ino)).reverse ++ st.refs else st.refs)
  inv : Inv st'
  mode : st'.noOpendir = st.noOpendir
  next : st'.next = st.next
  open_ : ∀ h', (st'.fds h').isSome = (st.fds h').isSome

theorem Served.kept {H : Host} {st st' : St} {plus : Bool} {h size : Nat} {rest0 : Dir} {out : List Offer}
    (s : Served H st st' plus h size rest0 out) : Kept st st' :=
  ⟨s.inv, s.mode, s.next, s.open_⟩

theorem readReq_served {H : Host} (wf : WF H.dir) (hq : H.eofQuirk = false) (st : St) (inv : Inv st)
    (plus : Bool) (h size c : Nat) (rest0 : Dir) (hp : Pos H.dir c rest0) (hsz : size ≠ 0)
    (hh : st.noOpendir = true ∨ ∃ fd, st.fds h = some fd) (hfits : Fits size rest0)
    (hs : Serveable H size c (hitOf st h c)) :
    ∃ st' out, readReq H st plus h size c none = (st', .ok out) ∧ Served H st st' plus h size rest0 out := by
  obtain ⟨fd0, hfd⟩ := fdFor_some hh
  obtain ⟨b0, fd1, hf, dots, t, hsplit, hdots, hpos1, hbt⟩ := fetch_post wf hq hp hfits _ hs fd0 (hit_pos inv hfd)
  obtain ⟨b, fd2, hr, ⟨dots2, t2, hsplit2, hdots2, _, hbt2⟩, hnd⟩ :=
    refetch_post wf hq size rest0 hfits (H.dir.length + 1) b0 fd1 dots t hsplit hdots hpos1 hbt
      (Nat.lt_succ_of_le (pos_length hpos1))
  obtain ⟨st', hreq, hrefs⟩ := readReq_loop H st plus h size c hsz hfd hf hr
  obtain ⟨kinv, kmode, knext, kopen⟩ : Kept st st' := by
    have := readReq_kept H st inv plus h size c none
    rwa [hreq] at this
  refine ⟨_, _, hreq, ⟨real b, real t2, ?_, fun hrb => ?_, rfl, hrefs⟩, kinv, kmode, knext, kopen⟩
  · rw [hsplit2, real_append, real_append, real_dots dots2 hdots2]; rfl
  · -- a batch without entries is the empty one, at the end of the directory
    rw [hbt2 (hnd (real_nil b hrb))]; rfl

theorem fits_of_next {d : Dir} (wf : WF d) {c : Nat} {rest : Dir} (hp : Pos d c rest) (size : Nat) (plus : Bool)
    (h24 : 24 ≤ size) (hnext : ∀ e r, real rest = e :: r → fuseLen plus e.name.length ≤ size) :
    Fits size rest := by
  intro pre e r hsplit hpre
  have hn := wf.nonul e (pos_sub hp e (by rw [hsplit]; simp))
  by_cases hd : isDot e = true
  · rw [reclen_dot e hn hd]; exact h24
  · have hreal : real rest = e :: real r := by
      rw [hsplit, real_append, real_dots pre hpre, real_cons, if_neg hd]; rfl
    exact Nat.le_trans (reclen_le_fuseLen plus e) (hnext e (real r) hreal)

/-- the reply to a request that resumes where `rest0` follows and delivers the records `p` -/
structure Reply (H : Host) (st st' : St) (plus : Bool) (size : Nat) (rest0 : Dir) (p : Dir) : Prop where
  isPrefix : p <+: real rest0
  progress : real rest0 ≠ [] → p ≠ []
  within : (p.map (fun e => fuseLen plus (view e).name.length)).sum ≤ size
  refs : st'.refs = (if plus then (p.map (·.ino)).reverse ++ st.refs else st.refs)
  kept : Kept st st'

theorem resume_step {H : Host} (wf : WF H.dir) (hq : H.eofQuirk = false) (st : St) (inv : Inv st)
    (plus : Bool) (h size c : Nat) (rest0 : Dir) (hp : Pos H.dir c rest0) (h24 : 24 ≤ size)
    (hnext : ∀ e r, real rest0 = e :: r → fuseLen plus e.name.length ≤ size)
    (hh : st.noOpendir = true ∨ ∃ fd, st.fds h = some fd)
    (hserve : Serveable H size c (hitOf st h c)) :
    ∃ st' p, readReq H st plus h size c none = (st', .ok (p.map view)) ∧ Reply H st st' plus size rest0 p := by
  have hfits := fits_of_next wf hp size plus h24 hnext
  obtain ⟨st', out, hreq, hserved⟩ :=
    readReq_served wf hq st inv plus h size c rest0 hp (by omega) hh hfits hserve
  obtain ⟨rb, rt, hreal, hrt, hout, hrefs⟩ := hserved.batch
  refine ⟨st', _, by rw [hreq, hout], ⟨?_, ?_, ?_, hrefs, hserved.kept⟩⟩
  · rw [hreal]
    exact (fitting_prefix _ _ _ _).trans (List.prefix_append _ _)
  · intro hne
    cases rb with
    | nil => rw [hreal, hrt rfl] at hne; exact absurd rfl hne
    | cons e r =>
      have hin : e ∈ real rest0 := by rw [hreal]; simp
      apply fitting_ne_nil
      rw [view_name e (wf.nonul e (pos_sub hp e (List.mem_filter.mp hin).1))]
      exact hnext e (r ++ rt) hreal
  · have := fitting_within (fun e => fuseLen plus (view e).name.length) size rb 0 (Nat.zero_le _)
    omega

theorem readReq_scan_fails {H : Host} (wf : WF H.dir) (hq : H.eofQuirk = false) (st : St)
    (plus : Bool) (h size c : Nat)
    {pre rest0 : Dir} {tgt : HEnt} (hd : H.dir = pre ++ tgt :: rest0) (hc : tgt.cookie = c)
    (hsz : size ≠ 0) (hh : st.noOpendir = true ∨ ∃ fd, st.fds h = some fd) (hmiss : hitOf st h c = false)
    (hbad : c > I64_MAX ∨ H.seekErr c = some EINVAL) (hun : ∃ x ∈ pre ++ [tgt], reclen x > size) :
    (readReq H st plus h size c none).2 = .error EINVAL := by
  obtain ⟨fd0, hfd⟩ := fdFor_some hh
  obtain ⟨fd', hf⟩ := (fetch_scan wf hq hd hc hbad fd0).1 hun
  exact readReq_fetch_err H st plus h size c none hsz hfd (hmiss ▸ hf)

end Fbr.Lemmas.PtDir
