/-
  Hoare-style reasoning for the state-and-error monad of Fbr.Ovl, and the walks over the client
  operations that every invariant shares: loading a directory is one update of the forest
  (`loadDirectory_keeps`), and a predicate that loading a directory keeps is kept by
  every non-modifying operation (`runOp_ro`).  The walk over the six that change an existing entry
  (`runOp_attr_walk`) has pre- and postcondition indexed by the resolved path and its node, so that
  what such an operation leaves at its target (Fbr.Lemmas.OvlAttr) is an instance of it as well.
-/
import Fbr.Lemmas.OvlHost
import Fbr.Lemmas.OvlEval

namespace Fbr.Ovl

/-- from `P`, `f` ends in `Q a s'` (success) or in `E s'` (error) -/
def Triple {α : Type} (P : St → Prop) (f : M α) (Q : α → St → Prop) (E : St → Prop) : Prop :=
  ∀ s, P s → (∀ a s', f s = .ok a s' → Q a s') ∧ (∀ e s', f s = .err e s' → E s')

namespace Triple
variable {α β : Type} {P P' : St → Prop} {Q Q' : α → St → Prop} {R : β → St → Prop} {E E' : St → Prop}

theorem ok_at {f : M α} {s s' : St} {a : α} (h : f s = .ok a s') (hq : Q a s') :
    (∀ a s', f s = .ok a s' → Q a s') ∧ (∀ e s', f s = .err e s' → E s') := by
  rw [h]
  exact ⟨fun _ _ h' => by cases h'; exact hq, fun _ _ h' => nomatch h'⟩

theorem err_at {f : M α} {s s' : St} {e : Nat} (h : f s = .err e s') (he : E s') :
    (∀ a s', f s = .ok a s' → Q a s') ∧ (∀ e s', f s = .err e s' → E s') := by
  rw [h]
  exact ⟨fun _ _ h' => (nomatch h'), fun _ _ h' => by cases h'; exact he⟩

theorem pure' {a : α} (h : ∀ s, P s → Q a s) : Triple P (pure a : M α) Q E :=
  fun s hs => ok_at rfl (h s hs)

theorem fail' {e : Nat} (h : ∀ s, P s → E s) : Triple P (fail e : M α) Q E :=
  fun s hs => err_at rfl (h s hs)

theorem getSt' {Q : St → St → Prop} (h : ∀ s, P s → Q s s) : Triple P getSt Q E :=
  fun s hs => ok_at rfl (h s hs)

theorem modifySt' {g : St → St} {Q : Unit → St → Prop} (h : ∀ s, P s → Q () (g s)) :
    Triple P (modifySt g) Q E :=
  fun s hs => ok_at rfl (h s hs)

theorem bind {f : M α} {g : α → M β} (hf : Triple P f Q E) (hg : ∀ a, Triple (Q a) (g a) R E) :
    Triple P (f >>= g) R E := by
  intro s hs
  show (∀ b s', M.bind f g s = .ok b s' → R b s') ∧ (∀ e s', M.bind f g s = .err e s' → E s')
  unfold M.bind
  cases hfs : f s with
  | ok a s1 => exact hg a s1 ((hf s hs).1 a s1 hfs)
  | err e s1 => exact err_at rfl ((hf s hs).2 _ _ hfs)

theorem conseq {f : M α} (h : Triple P f Q E) (hP : ∀ s, P' s → P s) (hQ : ∀ a s, Q a s → Q' a s)
    (hE : ∀ s, E s → E' s) : Triple P' f Q' E' := by
  intro s hs
  have h1 := h s (hP s hs)
  exact ⟨fun a s' h' => hQ a s' (h1.1 a s' h'), fun e s' h' => hE s' (h1.2 e s' h')⟩

theorem of_eq {f g : M α} (hg : Triple P g Q E) (h : ∀ s, P s → f s = g s) : Triple P f Q E :=
  fun s hs => by rw [h s hs]; exact hg s hs

theorem pre {f : M α} (h : Triple P f Q E) (hP : ∀ s, P' s → P s) : Triple P' f Q E :=
  h.conseq hP (fun _ _ h => h) (fun _ h => h)

theorem post {f : M α} (h : Triple P f Q E) (hQ : ∀ a s, Q a s → Q' a s) : Triple P f Q' E :=
  h.conseq (fun _ h => h) hQ (fun _ h => h)

theorem onErr {f : M α} (h : Triple P f Q E) (hE : ∀ s, E s → E' s) : Triple P f Q E' :=
  h.conseq (fun _ h => h) (fun _ _ h => h) hE

theorem pure_pre {F : Prop} {f : M α} (h : F → Triple P f Q E) : Triple (fun s => F ∧ P s) f Q E :=
  fun s hs => h hs.1 s hs.2

theorem ignoreErr' {f : M Unit} {Q : Unit → St → Prop} (h : Triple P f Q (Q ())) :
    Triple P (ignoreErr f) Q E := by
  intro s hs
  unfold ignoreErr
  cases hfs : f s with
  | ok a s1 => exact ok_at rfl ((h s hs).1 _ _ hfs)
  | err e s1 => exact ok_at rfl ((h s hs).2 _ _ hfs)

theorem catchEnoent' {f : M α} {Q : Option α → St → Prop}
    (h : Triple P f (fun a s => Q (some a) s) (fun s => Q none s ∧ E s)) :
    Triple P (catchEnoent f) Q E := by
  intro s hs
  unfold catchEnoent
  cases hfs : f s with
  | ok a s1 => exact ok_at rfl ((h s hs).1 _ _ hfs)
  | err e s1 =>
    have h2 := (h s hs).2 _ _ hfs
    by_cases he : e = ENOENT
    · simp only [he, if_true]
      exact ok_at rfl h2.1
    · simp only [he, if_false]
      exact err_at rfl h2.2

theorem whenM' {c : Bool} {f : M Unit} {Q : Unit → St → Prop} (hf : c = true → Triple P f Q E)
    (hn : c = false → ∀ s, P s → Q () s) : Triple P (whenM c f) Q E := by
  unfold whenM
  cases c with
  | true => exact hf rfl
  | false => exact Triple.pure' (hn rfl)

theorem ite' {c : Prop} [Decidable c] {f g : M α} (ht : c → Triple P f Q E) (he : ¬c → Triple P g Q E) :
    Triple P (if c then f else g) Q E := by
  split
  · exact ht ‹_›
  · exact he ‹_›

theorem skip {a : α} : Triple P (pure a : M α) (fun _ => P) E := pure' fun _ h => h

theorem get : Triple P getSt (fun _ => P) E := getSt' fun _ h => h

theorem when {c : Bool} {f : M Unit} (hf : Triple P f (fun _ => P) E) :
    Triple P (whenM c f) (fun _ => P) E := whenM' (fun _ => hf) fun _ _ h => h

theorem guard' {c : Prop} [Decidable c] {e : Nat} {g : M α} (hPE : ∀ s, P s → E s) (hg : Triple P g Q E) :
    Triple P (if c then fail e else g) Q E := ite' (fun _ => fail' hPE) fun _ => hg

theorem guard {c : Prop} [Decidable c] {e : Nat} {g : M α} (hg : Triple P g Q P) :
    Triple P (if c then fail e else g) Q P := guard' (fun _ h => h) hg

theorem forNames' {f : Name → M Unit} {I : St → Prop} (h : ∀ n, Triple I (f n) (fun _ => I) I) :
    ∀ l, Triple I (forNames f l) (fun _ => I) I
  | [] => Triple.skip
  | n :: rest => by
    unfold forNames
    exact Triple.bind (h n) fun _ => forNames' h rest

theorem mapNames' {f : Name → M α} {I : St → Prop} (h : ∀ n, Triple I (f n) (fun _ => I) I) :
    ∀ l, Triple I (mapNames f l) (fun _ => I) I
  | [] => Triple.skip
  | n :: rest => by
    unfold mapNames
    refine Triple.bind (h n) fun _ => ?_
    refine Triple.bind (mapNames' h rest) fun _ => ?_
    exact Triple.skip

theorem hasUpper' {P : St → Prop} : Triple P hasUpper (fun b s => b = s.disk.upper.isSome ∧ P s) E :=
  fun _ hs => ok_at rfl ⟨rfl, hs⟩

/-- `Triple` unfolded, for a function that is not written with `>>=` -/
theorem of_cases {f : M α} (h : ∀ s, P s → (∀ a s', f s = .ok a s' → Q a s') ∧ (∀ e s', f s = .err e s' → E s')) :
    Triple P f Q E := h

theorem st {R : St → Prop} {f : M α} (h : Triple P f (fun _ => R) R) {s : St} (hs : P s) : R (f s).st := by
  have h1 := h s hs
  cases hfs : f s with
  | ok a s' => exact h1.1 a s' hfs
  | err e s' => exact h1.2 e s' hfs

theorem kindGuard {k : Kind} {e1 e2 e3 : Nat} {body : M α} (hb : Triple P body Q E) (hPE : ∀ s, P s → E s) :
    Triple P (match k with | .d => fail e1 | .l => fail e2 | .o => fail e3 | .f => body) Q E := by
  cases k
  · exact Triple.fail' hPE
  · exact hb
  · exact Triple.fail' hPE
  · exact Triple.fail' hPE

theorem then_pure {S : St → Prop} {f : M α} {b : α → β} (h : Triple P f (fun _ => S) E) :
    Triple P (do let a ← f; pure (b a)) (fun _ => S) E :=
  Triple.bind h fun _ => Triple.skip

end Triple

/-- A triple quantifies over the start state; `Outcome` is its body at one state whose result is
    known, which is the convenient form once the run of a function has been computed
    (Fbr.Lemmas.OvlEval) rather than walked. -/
def Outcome {α : Type} (r : Res α) (Q : α → St → Prop) (E : St → Prop) : Prop :=
  match r with
  | .ok a s' => Q a s'
  | .err _ s' => E s'

theorem Outcome.imp {α : Type} {r : Res α} {Q Q' : α → St → Prop} {E E' : St → Prop} (h : Outcome r Q E)
    (hQ : ∀ a s, Q a s → Q' a s) (hE : ∀ s, E s → E' s) : Outcome r Q' E' := by
  cases r with
  | ok a s => exact hQ a s h
  | err e s => exact hE s h

theorem Triple.ofOutcome {α : Type} {P : St → Prop} {f : M α} {Q : α → St → Prop} {E : St → Prop}
    (h : ∀ s, P s → Outcome (f s) Q E) : Triple P f Q E := by
  intro s hs
  have := h s hs
  refine ⟨fun a s' hf => ?_, fun e s' hf => ?_⟩ <;> rw [hf] at this <;> exact this

theorem Outcome.bind {α β : Type} {f : M α} {g : α → M β} {s : St} {Q : α → St → Prop} {R : β → St → Prop}
    {E : St → Prop} (hf : Outcome (f s) Q E) (hg : ∀ a s1, Q a s1 → Outcome (g a s1) R E) :
    Outcome ((f >>= g) s) R E := by
  show Outcome (M.bind f g s) R E
  unfold M.bind
  cases h : f s with
  | ok a s1 => rw [h] at hf; exact hg a s1 hf
  | err e s1 => rw [h] at hf; exact hf

theorem Outcome.guard {β : Type} {c : Prop} [Decidable c] {e : Nat} {k : M β} {s : St} {Q : β → St → Prop} {E : St → Prop}
    (hE : E s) (hk : ¬c → Outcome (k s) Q E) : Outcome ((if c then fail e else k) s) Q E := by
  split
  · exact hE
  · exact hk ‹_›

/-- the node at `p` exists and its first real inode is in the upper layer -/
def UpAt (p : Path) (s : St) : Prop := ∃ m, s.mem p = some m ∧ m.inUpper = true

/-- the six attribute-changing operations: the target path and what the operation does to the node
    there (OPEN only with a writing flag: O_WRONLY, O_RDWR, O_APPEND, O_TRUNC, also combined with
    O_RDONLY; WRITE is OPEN, then the write) -/
def Op.attrChange : Op → Option (List Name × (Node → Node))
  | .chmod p mode => some (p, chmodN mode)
  | .truncate p k => some (p, truncN k)
  | .write p fl off data => some (p, fun N => writeAtN (fl == .wa) off data (openN fl.isTrunc N))
  | .open p fl => if fl.isWrite then some (p, openN fl.isTrunc) else none
  | .setx p v => some (p, setxN v)
  | .rmx p => some (p, setxN 0)
  | _ => none

/-- the offset `do_write` computes from the state is the one the layer's own entry gives, so that the write is one
    host call like the others, with an argument that does not depend on the state (`attrCall_hWriteAt`) -/
theorem doWrite_eq (p : Path) (trunc append : Bool) (off : Nat) (data : List Nat) :
    doWrite p trunc append off data = (do
      let r ← doOpen p true trunc
      layerCall r.layer .write (fun L => hWrite L r.path (writeOff append off (L r.path)) data)) := by
  funext s
  show M.bind _ _ s = M.bind _ _ s
  unfold M.bind
  cases doOpen p true trunc s with
  | err e s1 => rfl
  | ok r s1 =>
    show layerCall r.layer .write (fun L => hWrite L r.path (appendOff s1.disk r append off) data) s1 = _
    simp only [layerCall, appendOff, Disk.statReal, Disk.nodeAt]
    cases s1.disk.layer r.layer <;> rfl

/-- what a walk over those six needs of the four steps they are made of, at the resolved path `p` with visible node `st`:
    `lookup_node` finds the node (`B p st m`), `copy_node_up` brings it into the upper layer (`C p st`), its first real
    inode `r` is then the upper entry, which shows `h` of what was copied (`U p st h r`, at first with `h = id`), and an
    attribute-changing host call through `r` composes its change with `h` -/
structure AttrKeeps (R : Path → Node → St → Prop) (B : Path → Node → MNode → St → Prop) (C : Path → Node → St → Prop)
    (U : Path → Node → (Node → Node) → Real → St → Prop) (E : St → Prop) : Prop where
  look : ∀ p st, Triple (R p st) (lookupSelf p) (B p st) E
  copy : ∀ p st m, Triple (B p st m) (copyNodeUp p) (fun _ => C p st) E
  first : ∀ p st, Triple (C p st) (firstReal p) (U p st id) E
  call : ∀ p st h r meth (f : Path → Layer → Except Nat Layer) g, AttrCall (f p) p g →
    Triple (U p st h r) (layerCall r.layer meth (f r.path)) (fun _ => U p st (fun N => g (h N)) r) E

/-- each of the six resolves its path, refuses some kinds of node and calls one `do_*` function; the four `do_*` functions
    are walked here, from the four steps -/
theorem runOp_attr_walk {R : Path → Node → St → Prop} {B : Path → Node → MNode → St → Prop} {C : Path → Node → St → Prop}
    {U : Path → Node → (Node → Node) → Real → St → Prop} {E : St → Prop} (hdo : AttrKeeps R B C U E)
    (hE : ∀ p st s, R p st s → E s) (hB : ∀ p st m s, B p st m s → s.mem p = some m ∧ E s) {op : Op} {p : List Name}
    {g : Node → Node} (hop : op.attrChange = some (p, g)) :
    ∃ k, runOp op = resolve p >>= k ∧ ∀ path st, Triple (R path st) (k (path, st)) (fun _ s => ∃ r, U path st g r s) E := by
  have htail : ∀ p st m meth (f : Path → Layer → Except Nat Layer) g, (∀ rp, AttrCall (f rp) rp g) →
      Triple (B p st m) (do whenM (!m.inUpper) (copyNodeUp p); let r ← firstReal p; layerCall r.layer meth (f r.path))
        (fun _ s => ∃ r, U p st g r s) E := fun p st m meth f g hf =>
    Triple.bind ((hdo.copy p st m).of_eq fun s h => ensureUp_eq (hB p st m s h).1) fun _ =>
      Triple.bind (hdo.first p st) fun r => (hdo.call p st id r meth f g (hf p)).post fun _ _ h => ⟨r, h⟩
  have hsetattr : ∀ p st f g, (∀ rp, AttrCall (f rp) rp g) →
      Triple (R p st) (doSetattr p f) (fun _ s => ∃ r, U p st g r s) E := fun p st f g hf => by
    unfold doSetattr
    refine Triple.bind Triple.hasUpper' fun up => Triple.guard' (fun s h => hE p st s h.2) ?_
    exact Triple.bind ((hdo.look p st).pre fun _ h => h.2) fun m => htail p st m _ f g hf
  have hxattr : ∀ p st meth f g, (∀ rp, AttrCall (f rp) rp g) →
      Triple (R p st) (doXattr p meth f) (fun _ s => ∃ r, U p st g r s) E := fun p st meth f g hf => by
    unfold doXattr
    refine Triple.bind (hdo.look p st) fun m => ?_
    exact Triple.guard' (fun s h => (hB p st m s h).2) (htail p st m meth f g hf)
  have hopen : ∀ p st t, Triple (R p st) (doOpen p true t) (U p st (openN t)) E := fun p st t => by
    unfold doOpen
    refine Triple.bind (hdo.look p st) fun m => Triple.guard' (fun s h => (hB p st m s h).2) ?_
    simp only [whenM_true]
    refine Triple.bind (hdo.copy p st m) fun _ => Triple.bind (hdo.first p st) fun r => ?_
    exact Triple.bind (hdo.call p st id r .openW (fun rp L => hOpen L rp t) _ (attrCall_hOpen p t)) fun _ =>
      Triple.pure' fun _ h => h
  cases op with
  | «open» p fl =>
    cases hfl : fl.isWrite with
    | false => simp [Op.attrChange, hfl] at hop
    | true =>
      cases (if_pos hfl).symm.trans hop
      refine ⟨_, rfl, fun path st => Triple.kindGuard ?_ (hE path st)⟩
      rw [hfl]
      exact ((hopen path st _).post fun r _ h => ⟨r, h⟩).then_pure
  | write p fl off data =>
    cases hop
    refine ⟨_, rfl, fun path st => Triple.kindGuard (Triple.then_pure ?_) (hE path st)⟩
    rw [doWrite_eq]
    exact Triple.bind (hopen path st _) fun r =>
      (hdo.call path st _ r .write (fun rp L => hWrite L rp (writeOff _ off (L rp)) data) _
        (attrCall_hWriteAt path _ off data)).post fun _ _ h => ⟨r, h⟩
  | chmod p mode =>
    cases hop
    exact ⟨_, rfl, fun path st => Triple.guard' (hE path st)
      (hsetattr path st _ _ fun rp => attrCall_hChmod rp mode).then_pure⟩
  | truncate p n =>
    cases hop
    exact ⟨_, rfl, fun path st => Triple.kindGuard
      (hsetattr path st _ _ fun rp => attrCall_hTruncate rp n).then_pure (hE path st)⟩
  | setx p v =>
    cases hop
    exact ⟨_, rfl, fun path st => Triple.guard' (hE path st)
      (hxattr path st _ _ _ fun rp => attrCall_hSetX rp v).then_pure⟩
  | rmx p =>
    cases hop
    exact ⟨_, rfl, fun path st => Triple.guard' (hE path st)
      (hxattr path st _ _ _ attrCall_hRmX).then_pure⟩
  | _ => cases hop

/-- CREATE, MKDIR, MKNOD, SYMLINK as one program: they differ in the entry `X id` made (`withId`: with a
    fresh inode id drawn first); `runOp` of each unfolds to it -/
def createOp (p : List Name) (isMkdir : Bool) (meth : Method) (X : Nat → Node) (withId : Bool) : M Reply := do
  let (pp, n) ← resolveParent p
  let _ ← lookupSelf pp
  let id ← (if withId then freshId else pure 0)
  doCreateLike pp n isMkdir (mkChildOf meth n (X id))
  let _ ← doLookup pp n
  pure Reply.done

/-- UNLINK and RMDIR as one program: they differ in the guard on the entry's kind -/
def rmOp (p : List Name) (dir : Bool) (guard : Node → Bool) (e : Nat) : M Reply := do
  let (pp, n) ← resolveParent p
  let st ← doLookup pp n
  if guard st then fail e else do
  doRm pp n dir
  pure Reply.done

theorem runOp_create (p : List Name) (mode : Nat) :
    runOp (.create p mode) = createOp p false .create (fun id => .file id mode [] 0) true := rfl

theorem runOp_mkdir (p : List Name) (mode : Nat) :
    runOp (.mkdir p mode) = createOp p true .mkdir (fun _ => .dir mode 0 0) false := rfl

theorem runOp_mknod (p : List Name) (mode : Nat) :
    runOp (.mknod p mode) = createOp p false .mknod (fun id => .other id mode) true := rfl

theorem runOp_symlink (p : List Name) (t : Nat) :
    runOp (.symlink p t) = createOp p false .symlink (fun _ => .symlink t) false := rfl

theorem runOp_unlink (p : List Name) : runOp (.unlink p) = rmOp p false (·.isDir) EISDIR := rfl

theorem runOp_rmdir (p : List Name) : runOp (.rmdir p) = rmOp p true (fun st => !st.isDir) ENOTDIR := rfl

section KeptByLoading
variable {P : St → Prop} (hload : ∀ p, Triple P (loadDirectory p) (fun _ => P) P)
include hload

omit hload in
theorem getNode_mem (p : Path) : Triple P (getNode p) (fun m s => s.mem p = some m ∧ P s) P := by
  intro s hs
  refine ⟨fun a s' h => ?_, fun e s' h => ?_⟩ <;> unfold getNode at h <;> split at h <;> cases h
  · exact ⟨‹_›, hs⟩
  · exact hs

omit hload in
theorem getNode_ro (p : Path) : Triple P (getNode p) (fun _ => P) P :=
  (getNode_mem p).post fun _ _ h => h.2

omit hload in
theorem nodeStat_ro (m : MNode) : Triple P (nodeStat m) (fun _ => P) P := by
  intro s hs
  refine ⟨fun a s' h => ?_, fun e s' h => ?_⟩ <;> unfold nodeStat at h <;> split at h <;> cases h <;> exact hs

omit hload in
/-- `load_directory` changes the state by one update of the forest (`loadedMem`), and only when the node is a
    directory not loaded yet; it leaves the node loaded -/
theorem loadDirectory_keeps (p : Path)
    (h : ∀ s m, P s → s.mem p = some m → m.loaded = false → P { s with mem := loadedMem s.disk s.mem p m }) :
    Triple P (loadDirectory p) (fun _ s => P s ∧ ∃ m, s.mem p = some m ∧ m.loaded = true) P := by
  unfold loadDirectory
  refine Triple.bind (getNode_mem p) fun m => ?_
  refine Triple.ite' (fun hl => Triple.pure' fun _ h => ⟨h.2, m, h.1, hl⟩) fun hl => ?_
  refine Triple.bind ((nodeStat_ro m).onErr (fun _ h => h.2)) fun st => ?_
  refine Triple.guard' (fun _ h => h.2) ?_
  intro s ⟨hm, hs⟩
  exact Triple.ok_at rfl ⟨h s m hs hm (by simpa using hl), _, if_pos rfl, rfl⟩

theorem lookupSelf_mem (p : Path) : Triple P (lookupSelf p) (fun m s => s.mem p = some m ∧ P s) P := by
  unfold lookupSelf
  refine Triple.bind (getNode_ro p) fun m => ?_
  refine Triple.guard ?_
  refine Triple.bind (nodeStat_ro m) fun st => ?_
  refine Triple.bind (Triple.when (hload p)) fun _ => ?_
  exact getNode_mem p

theorem lookupSelf_ro (p : Path) : Triple P (lookupSelf p) (fun _ => P) P :=
  (lookupSelf_mem hload p).post fun _ _ h => h.2

theorem lookupNode_ro (pp : Path) (n : Name) :
    Triple P (lookupNode pp n) (fun m s => s.mem (n :: pp) = some m ∧ P s) P := by
  unfold lookupNode
  refine Triple.bind (lookupSelf_ro hload pp) fun pm => ?_
  exact Triple.ite' (fun _ => getNode_mem _) (fun _ => Triple.fail' fun _ h => h)

theorem doLookup_ro (pp : Path) (n : Name) : Triple P (doLookup pp n) (fun _ => P) P := by
  unfold doLookup
  refine Triple.bind ((lookupNode_ro hload pp n).post fun _ _ h => h.2) fun m => ?_
  refine Triple.guard ?_
  refine Triple.bind (nodeStat_ro m) fun st => ?_
  refine Triple.bind (Triple.when (hload _)) fun _ => ?_
  exact Triple.skip

theorem rootStat_ro : Triple P rootStat (fun _ => P) P := by
  unfold rootStat
  refine Triple.bind (lookupSelf_ro hload []) fun m => ?_
  exact nodeStat_ro m

theorem resolveFrom_ro : ∀ (l : List Name) (cur : Path) (st : Node),
    Triple P (resolveFrom cur st l) (fun _ => P) P
  | [], cur, st => by
    unfold resolveFrom
    exact Triple.skip
  | n :: rest, cur, st => by
    unfold resolveFrom
    refine Triple.guard ?_
    refine Triple.bind (doLookup_ro hload cur n) fun st' => ?_
    exact resolveFrom_ro rest (n :: cur) st'

theorem resolve_ro (p : List Name) : Triple P (resolve p) (fun _ => P) P := by
  unfold resolve
  refine Triple.bind (rootStat_ro hload) fun st => ?_
  exact resolveFrom_ro hload p [] st

theorem resolveParent_ro (p : List Name) : Triple P (resolveParent p) (fun _ => P) P := by
  unfold resolveParent
  split
  · exact Triple.fail' fun _ h => h
  · refine Triple.bind (resolve_ro hload _) fun r => ?_
    exact Triple.guard Triple.skip

omit hload in
theorem firstReal_ro (p : Path) : Triple P (firstReal p) (fun _ => P) P := by
  unfold firstReal
  refine Triple.bind (getNode_ro p) fun m => ?_
  split
  · exact Triple.skip
  · exact Triple.fail' fun _ h => h

theorem listDir_ro (p : Path) : Triple P (listDir p) (fun _ => P) P := by
  unfold listDir
  refine Triple.bind (lookupSelf_ro hload p) fun m => ?_
  refine Triple.guard ?_
  refine Triple.bind (nodeStat_ro m) fun st => ?_
  refine Triple.guard ?_
  refine Triple.bind Triple.get fun s0 => ?_
  exact Triple.skip

omit hload in
theorem viewOf_ro (p : Path) : Triple P (viewOf p) (fun _ => P) P := by
  unfold viewOf
  refine Triple.bind (firstReal_ro p) fun r => ?_
  refine Triple.bind Triple.get fun s0 => ?_
  exact Triple.skip

theorem walkFrom_ro : ∀ (fuel : Nat) (p : Path), Triple P (walkFrom fuel p) (fun _ => P) P
  | 0, p => by
    unfold walkFrom
    refine Triple.bind (viewOf_ro p) fun v => ?_
    exact Triple.skip
  | fuel + 1, p => by
    unfold walkFrom
    refine Triple.bind (viewOf_ro p) fun v => ?_
    split
    · refine Triple.bind (listDir_ro hload p) fun ns => ?_
      refine Triple.bind (Triple.mapNames' (fun n => ?_) ns) fun subs => ?_
      · refine Triple.bind (doLookup_ro hload p n) fun _ => ?_
        exact walkFrom_ro fuel (n :: p)
      · exact Triple.skip
    · exact Triple.skip

theorem doOpen_ro (p : Path) : Triple P (doOpen p false false) (fun _ => P) P := by
  unfold doOpen
  refine Triple.bind (lookupSelf_ro hload p) fun m => ?_
  refine Triple.guard ?_
  simp only [whenM, Bool.false_eq_true, if_false]
  refine Triple.bind Triple.skip fun _ => ?_
  refine Triple.bind (firstReal_ro p) fun r => ?_
  refine Triple.bind Triple.skip fun _ => ?_
  exact Triple.skip

theorem resolveThen {α : Type} {Q : α → St → Prop} (p : List Name) {k : Path × Node → M α}
    (hk : ∀ path st, Triple P (k (path, st)) Q P) : Triple P (resolve p >>= k) Q P :=
  Triple.bind (resolve_ro hload p) fun r => hk r.1 r.2

theorem runOp_ro (op : Op) (hm : op.isModifying = false) : Triple P (runOp op) (fun _ => P) P := by
  cases op with
  | lookup p =>
    unfold runOp
    exact resolveThen hload p fun path st => Triple.skip
  | readdir p =>
    unfold runOp
    refine resolveThen hload p fun path st => ?_
    exact Triple.guard (listDir_ro hload path).then_pure
  | read p =>
    unfold runOp
    refine resolveThen hload p fun path st => ?_
    refine Triple.kindGuard ?_ fun _ h => h
    refine Triple.bind (doOpen_ro hload path) fun r => ?_
    refine Triple.bind Triple.get fun s0 => ?_
    split
    · exact Triple.skip
    · exact Triple.fail' fun _ h => h
  | readlink p =>
    unfold runOp
    refine resolveThen hload p fun path st => ?_
    refine Triple.guard ?_
    refine Triple.bind (lookupSelf_ro hload path) fun m => ?_
    refine Triple.guard ?_
    refine Triple.bind (firstReal_ro path) fun r => ?_
    refine Triple.bind Triple.get fun s0 => ?_
    split
    · exact Triple.skip
    · exact Triple.fail' fun _ h => h
  | getx p =>
    unfold runOp
    refine resolveThen hload p fun path st => ?_
    refine Triple.guard ?_
    refine Triple.bind (lookupSelf_ro hload path) fun m => ?_
    refine Triple.guard ?_
    refine Triple.bind (firstReal_ro path) fun r => ?_
    refine Triple.bind Triple.get fun s0 => ?_
    exact Triple.skip
  | walk =>
    unfold runOp
    refine Triple.bind (rootStat_ro hload) fun _ => ?_
    exact (walkFrom_ro hload _ _).then_pure
  | «open» p fl =>
    have hfl : fl = .r := by cases fl <;> simp_all [Op.isModifying, OFlag.isWrite]
    subst hfl
    unfold runOp
    refine resolveThen hload p fun path st => ?_
    exact Triple.kindGuard (doOpen_ro hload path).then_pure fun _ h => h
  | _ => cases hm

theorem runOp_attr {S : St → Prop} {C : Path → Node → St → Prop} {U : Path → Node → (Node → Node) → Real → St → Prop}
    (hdo : AttrKeeps (fun _ _ => P) (fun p _ m s => s.mem p = some m ∧ P s) C U P)
    (hU : ∀ p st g r s, U p st g r s → S s) {op : Op}
    {p : List Name} {g : Node → Node} (hop : op.attrChange = some (p, g)) : Triple P (runOp op) (fun _ => S) P := by
  obtain ⟨k, hk, hdo⟩ := runOp_attr_walk hdo (fun _ _ _ h => h) (fun _ _ _ _ h => h) hop
  rw [hk]
  exact resolveThen hload p fun path st => (hdo path st).post fun _ _ ⟨r, h⟩ => hU _ _ _ r _ h

end KeptByLoading

/-- what every operation keeps, a history keeps -/
theorem run_keeps {P : St → Prop} : ∀ (ops : List Op), (∀ op ∈ ops, Triple P (runOp op) (fun _ => P) P) →
    ∀ s, P s → P (run s ops)
  | [], _, _, h => h
  | op :: rest, hops, _, hs =>
    run_keeps rest (fun o ho => hops o (List.mem_cons_of_mem _ ho)) _ ((hops op List.mem_cons_self).st hs)

end Fbr.Ovl
