/-
  Under `Consistent`, lookups answer what the disk dictates (`specStat`),
  loading keeps the cache valid, and the live view is the SPEC `merge` of the disk.
-/
import Fbr.Lemmas.OvlSim

namespace Fbr.Ovl

/-- `Consistent` with the disk named: what a function that writes nothing to the layers keeps, and
    what lets the specification of one that does speak of the disk it started from.  The
    adapter below turns a statement for every `d` into one about `Consistent` alone. -/
def CD (d : Disk) (s : St) : Prop := Consistent s ∧ s.disk = d

theorem Triple.of_cd {α : Type} {f : M α} {Q : α → St → Prop} {E : St → Prop}
    (h : ∀ d, Triple (CD d) f Q E) : Triple Consistent f Q E :=
  fun s hs => h s.disk s ⟨hs, rfl⟩

/-- over the disk `d`, LOOKUP of `p` answers `st` and the node at `p` is in the (consistent) forest: what
    `resolve` leaves at its result, what `do_lookup` needs at the parent and leaves at the child -/
def At (d : Disk) (p : Path) (st : Node) (s : St) : Prop :=
  specStat d p = some st ∧ (CD d s ∧ ∃ m, s.mem p = some m)

/-- the first real inode of the node at `p`, if there is one, is a directory -/
def DirNode (p : Path) (s : St) : Prop :=
  ∀ m0 r0 rest0, s.mem p = some m0 → m0.reals = r0 :: rest0 → (s.disk.statReal r0).isDir = true

theorem realsOK_head {d : Disk} {p : Path} {rs : List Real} (h : RealsOK d p rs) :
    headStat d rs = specStat d p := by
  rw [specStat_eq]
  rcases h with h | ⟨e, he, _, h⟩
  · rw [h]
  · rw [h, he]; rfl

theorem realsOK_nonempty {d : Disk} {p : Path} {rs : List Real} (h : RealsOK d p rs) :
    rs = [] ↔ expReals d p = [] := by
  rcases h with h | ⟨e, he, _, h⟩
  · rw [h]
  · rw [h, he]; simp

theorem expReals_head {d : Disk} (hr : d.RootsOK) {p : Path} {e : Real} {erest : List Real}
    (he : expReals d p = e :: erest) :
    (d.statReal e).isAbsent = false ∧ e.whiteout = (d.statReal e).isWhiteout := by
  rw [expReals_eq d hr] at he
  obtain ⟨i, irest, hi, rfl, _⟩ := List.map_eq_cons_iff.1 he
  rw [statReal_realOf]
  refine ⟨?_, rfl⟩
  cases p with
  | nil =>
    have : i ∈ d.indices := by rw [← expIdx_nil, hi]; simp
    exact Node.not_absent_of_dir (hr i this)
  | cons n pp => exact expIdx_present d n pp i (by rw [hi]; simp)

theorem specStat_visible {d : Disk} (hr : d.RootsOK) {p : Path} {X : Node} (h : specStat d p = some X) :
    X.isWhiteout = false ∧ X.isAbsent = false := by
  rw [specStat_eq] at h
  cases he : expReals d p with
  | nil => rw [he] at h; cases h
  | cons e erest =>
    rw [he] at h
    by_cases hw : e.whiteout = true
    · rw [headStat_whiteout hw] at h; cases h
    · simp only [Bool.not_eq_true] at hw
      rw [headStat_visible hw] at h
      cases h
      obtain ⟨ha, hwe⟩ := expReals_head hr he
      exact ⟨by rw [← hwe]; exact hw, ha⟩

theorem head_present {s : St} (hc : Consistent s) {p : Path} {m : MNode} (hm : s.mem p = some m)
    {r : Real} {rest : List Real} (hr : m.reals = r :: rest) : (s.disk.statReal r).isAbsent = false := by
  rcases hc.reals p m hm with h | ⟨e, he, _, h⟩
  · rw [hr] at h
    exact (expReals_head hc.roots h.symm).1
  · rw [hr] at h
    simp only [List.cons.injEq] at h
    rw [h.1]
    exact (expReals_head hc.roots he).1

theorem nodeStat_eq {s : St} (hc : Consistent s) {p : Path} {m : MNode} (hm : s.mem p = some m) :
    nodeStat m s = match m.reals with
      | [] => .err ENOENT s
      | r :: _ => .ok (s.disk.statReal r) s := by
  unfold nodeStat
  cases hr : m.reals with
  | nil => simp [statReals]
  | cons r rest =>
    have := head_present hc hm hr
    simp [statReals, this]

theorem specStat_of_mem {s : St} (hc : Consistent s) {p : Path} {m : MNode} (hm : s.mem p = some m) :
    specStat s.disk p = headStat s.disk m.reals := (realsOK_head (hc.reals p m hm)).symm

/-- a loaded directory lists every name that answers LOOKUP -/
theorem specStat_unlisted {s : St} (hc : Consistent s) {pp : Path} {pm : MNode} (hpm : s.mem pp = some pm)
    (hlo : pm.loaded = true) {n : Name} (hn : n ∉ pm.kids) : specStat s.disk (n :: pp) = none := by
  rw [specStat_eq]
  cases he : expReals s.disk (n :: pp) with
  | nil => rfl
  | cons r rest =>
    by_cases hw : r.whiteout = true
    · exact headStat_whiteout hw
    · simp only [Bool.not_eq_true] at hw
      exact absurd ((hc.kidsLoaded pp pm hpm hlo n).2 (by rw [he]; simp [needsNode, hw])) hn

/-- what LOOKUP answers at the path of a node, read off the node: nothing for a whiteout node, else the entry of its
    first real inode -/
theorem specStat_node {s : St} (hc : Consistent s) {p : Path} {m : MNode} (hm : s.mem p = some m) :
    specStat s.disk p = if m.whiteout then none else
      match m.reals with
      | [] => none
      | r :: _ => some (s.disk.statReal r) := by
  rw [specStat_of_mem hc hm, hc.wh p m hm]
  cases m.reals <;> rfl

theorem not_whiteout_of_spec {s : St} (hc : Consistent s) {p : Path} {m : MNode} (hm : s.mem p = some m)
    {st : Node} (h : specStat s.disk p = some st) :
    m.whiteout = false ∧ ∃ r rest, m.reals = r :: rest ∧ s.disk.statReal r = st := by
  rw [specStat_node hc hm] at h
  split at h
  · cases h
  · rename_i hw
    cases hr : m.reals with
    | nil => rw [hr] at h; cases h
    | cons r rest => rw [hr] at h; exact ⟨by simpa using hw, r, rest, rfl, Option.some.inj h⟩

theorem specStat_of_whiteout {s : St} (hc : Consistent s) {p : Path} {m : MNode} (hm : s.mem p = some m)
    (hw : m.whiteout = true) : specStat s.disk p = none := by
  rw [specStat_node hc hm, if_pos hw]

theorem nodeStat_spec (d : Disk) (p : Path) {m : MNode} (hw : m.whiteout = false) :
    Triple (fun s => CD d s ∧ s.mem p = some m) (nodeStat m)
      (fun st s => specStat d p = some st ∧ (CD d s ∧ s.mem p = some m))
      (fun s => CD d s ∧ specStat d p = none) := by
  intro s ⟨⟨hc, rfl⟩, hm⟩
  have hst := nodeStat_eq hc hm
  have hsp := specStat_node hc hm
  rw [if_neg (by simp [hw])] at hsp
  cases hr : m.reals with
  | nil => rw [hr] at hst hsp; exact Triple.err_at hst ⟨⟨hc, rfl⟩, hsp⟩
  | cons r rest => rw [hr] at hst hsp; exact Triple.ok_at hst ⟨hsp, ⟨hc, rfl⟩, hm⟩

/-- `if st.isDir && !loaded { load_directory }` on a node that answers `st`: it cannot fail, and is one update of the forest -/
theorem loadIfDir_spec {d : Disk} {p : Path} {m : MNode} {st : Node} {E : St → Prop} (hsp : specStat d p = some st) :
    Triple (fun s => CD d s ∧ s.mem p = some m) (whenM (st.isDir && !m.loaded) (loadDirectory p))
      (fun _ s => CD d s ∧ ∃ m', s.mem p = some m' ∧ m'.whiteout = m.whiteout ∧
        (st.isDir = true → m'.loaded = true)) E := by
  refine Triple.whenM' (fun hdl => ?_) fun hdl s ⟨hcd, hm⟩ => ⟨hcd, m, hm, rfl, fun hd => by simpa [hd] using hdl⟩
  intro s ⟨⟨hc, hd⟩, hm⟩
  subst hd
  simp only [Bool.and_eq_true, Bool.not_eq_eq_eq_not, Bool.not_true] at hdl
  obtain ⟨_, r, rest, hr, hst⟩ := not_whiteout_of_spec hc hm hsp
  have hns := nodeStat_eq hc hm
  rw [hr] at hns
  refine Triple.ok_at (a := ()) (s' := { s with mem := loadedMem s.disk s.mem p m }) ?_
    ⟨⟨loaded_consistent hc hm hdl.2 rfl rfl, rfl⟩,
      { m with loaded := true, kids := addNames m.kids ((scanKids s.disk m).map (·.1)) }, by simp [loadedMem, Mem.set], rfl, fun _ => rfl⟩
  unfold loadDirectory
  rw [bind_ok (getNode_ok hm), if_neg (by rw [hdl.2]; exact Bool.false_ne_true), bind_ok hns,
    if_neg (by rw [hst, hdl.1]; exact Bool.false_ne_true)]
  rfl

theorem whiteoutGuard {α : Type} (d : Disk) (p : Path) (m : MNode) {f : M α} {Q : α → St → Prop}
    (h : m.whiteout = false → Triple (fun s => CD d s ∧ s.mem p = some m) f Q (fun s => CD d s ∧ specStat d p = none)) :
    Triple (fun s => CD d s ∧ s.mem p = some m) (if m.whiteout then fail ENOENT else f) Q
      (fun s => CD d s ∧ specStat d p = none) :=
  Triple.ite' (fun hw => Triple.fail' fun s ⟨hcd, hm⟩ => ⟨hcd, hcd.2 ▸ specStat_of_whiteout hcd.1 hm hw⟩)
    fun hw => h (by simpa using hw)

theorem lookupSelf_spec (d : Disk) (p : Path) :
    Triple (fun s => CD d s ∧ ∃ m, s.mem p = some m) (lookupSelf p)
      (fun m s => CD d s ∧ s.mem p = some m ∧ m.whiteout = false ∧
        (∀ st, specStat d p = some st → st.isDir = true → m.loaded = true))
      (fun s => CD d s ∧ specStat d p = none) := by
  unfold lookupSelf
  refine Triple.bind (Q := fun m s => CD d s ∧ s.mem p = some m)
    (fun s ⟨hcd, m, hm⟩ => Triple.ok_at (getNode_ok hm) ⟨hcd, hm⟩) fun m => ?_
  refine whiteoutGuard d p m fun hw => ?_
  refine Triple.bind (nodeStat_spec d p hw) fun st => Triple.pure_pre fun hsp => ?_
  refine Triple.bind (loadIfDir_spec hsp) fun _ => ?_
  intro s ⟨hcd, m', hm', hw', hl⟩
  exact Triple.ok_at (getNode_ok hm') ⟨hcd, hm', hw'.trans hw, fun st' hst' hd => hl (by cases hsp.symm.trans hst'; exact hd)⟩

/-- the node `m` that `lookup_node(p, "")` returns where LOOKUP of `p` answers `st`: not a whiteout, its first
    real inode shows `st`, loaded when `st` is a directory -/
def Shows (p : Path) (st : Node) (m : MNode) (s : St) : Prop :=
  s.mem p = some m ∧ m.whiteout = false ∧ (st.isDir = true → m.loaded = true) ∧
    ∃ r rest, m.reals = r :: rest ∧ s.disk.statReal r = st

/-- `lookup_node(p, "")` where LOOKUP of `p` answers `st`; it fails only when the node is not in the forest -/
theorem lookupSelf_shows_of_spec (d : Disk) {p : Path} {st : Node} (hsp : specStat d p = some st) :
    Triple (CD d) (lookupSelf p) (fun m s => CD d s ∧ Shows p st m s) (CD d) := by
  intro s hcd
  cases hm : s.mem p with
  | none => exact Triple.err_at (by unfold lookupSelf; exact bind_err (getNode_err hm)) hcd
  | some m0 =>
    have h := lookupSelf_spec d p s ⟨hcd, m0, hm⟩
    refine ⟨fun m s' hf => ?_, fun e s' hf => (h.2 e s' hf).1⟩
    obtain ⟨hcd', hm', hw, hload⟩ := h.1 m s' hf
    obtain ⟨_, r, rest, hr, hst⟩ := not_whiteout_of_spec hcd'.1 hm' (by rw [hcd'.2]; exact hsp)
    exact ⟨hcd', hm', hw, hload st hsp, r, rest, hr, hst⟩

theorem lookupNode_spec (d : Disk) (pp : Path) (n : Name) {st : Node} (hd : st.isDir = true) :
    Triple (At d pp st) (lookupNode pp n)
      (fun c s => CD d s ∧ s.mem (n :: pp) = some c)
      (fun s => CD d s ∧ specStat d (n :: pp) = none) := by
  unfold lookupNode
  refine Triple.pure_pre fun hst => ?_
  refine Triple.bind ((lookupSelf_spec d pp).onErr (fun s h => ?_)) fun pm => ?_
  · rw [hst] at h; exact absurd h.2 (by simp)
  · intro s ⟨⟨hc, hd'⟩, hpm, _, hload⟩
    subst hd'
    by_cases hn : n ∈ pm.kids
    · obtain ⟨c, hcm⟩ := hc.kidsMem pp pm n hpm hn
      simp only [hn, List.contains_eq_mem, decide_true, if_true]
      exact Triple.ok_at (getNode_ok hcm) ⟨⟨hc, rfl⟩, hcm⟩
    · simp only [hn, List.contains_eq_mem, decide_false, Bool.false_eq_true, if_false]
      refine Triple.err_at rfl ⟨⟨hc, rfl⟩, ?_⟩
      exact specStat_unlisted hc hpm (hload st hst hd) hn

theorem doLookup_spec (d : Disk) (pp : Path) (n : Name) {st : Node} (hd : st.isDir = true) :
    Triple (At d pp st) (doLookup pp n) (fun st' s => At d (n :: pp) st' s)
      (fun s => CD d s ∧ specStat d (n :: pp) = none) := by
  unfold doLookup
  refine Triple.bind (lookupNode_spec d pp n hd) fun c => ?_
  refine whiteoutGuard d (n :: pp) c fun hw => ?_
  refine Triple.bind (nodeStat_spec d (n :: pp) hw) fun st' => Triple.pure_pre fun hsp => ?_
  refine Triple.bind (loadIfDir_spec hsp) fun _ => ?_
  exact Triple.pure' fun s ⟨hcd, m', hm', _⟩ => ⟨hsp, hcd, m', hm'⟩

theorem specStat_none_below (d : Disk) (p : Path) (h : specStat d p = none) :
    ∀ l : List Name, specStat d (l ++ p) = none
  | [] => h
  | n :: rest => by
    have ih := specStat_none_below d p h rest
    exact specStat_below d n (rest ++ p) (fun st hst => by rw [ih] at hst; cases hst)

theorem resolveFrom_spec (d : Disk) : ∀ (l : List Name) (cur : Path) (st : Node),
    Triple (At d cur st) (resolveFrom cur st l)
      (fun r s => r.1 = l.reverse ++ cur ∧ At d r.1 r.2 s)
      (fun s => CD d s ∧ specStat d (l.reverse ++ cur) = none)
  | [], cur, st => by
    unfold resolveFrom
    exact Triple.pure' fun s h => ⟨rfl, h⟩
  | n :: rest, cur, st => by
    unfold resolveFrom
    have hlist : (n :: rest).reverse ++ cur = rest.reverse ++ (n :: cur) := by simp
    rw [hlist]
    by_cases hd : st.isDir = true
    · simp only [hd, Bool.not_true, Bool.false_eq_true, if_false]
      refine Triple.bind ((doLookup_spec d cur n hd).onErr (fun s h => ?_)) fun st' => ?_
      · exact ⟨h.1, specStat_none_below d (n :: cur) h.2 rest.reverse⟩
      · exact resolveFrom_spec d rest (n :: cur) st'
    · simp only [Bool.not_eq_true] at hd
      simp only [hd, Bool.not_false, if_true]
      refine Triple.fail' fun s h => ⟨h.2.1, specStat_none_below d (n :: cur) ?_ rest.reverse⟩
      exact specStat_below d n cur (fun st' hst' => by rw [h.1] at hst'; cases hst'; exact hd)

theorem rootStat_spec (d : Disk) :
    Triple (CD d) rootStat (fun st s => At d [] st s) (fun s => CD d s ∧ specStat d [] = none) := by
  unfold rootStat
  refine Triple.bind ((lookupSelf_spec d []).pre fun s h => ⟨h, h.1.root⟩) fun m s h => ?_
  exact ((nodeStat_spec d [] h.2.2.1).post fun st s h => ⟨h.1, h.2.1, m, h.2.2⟩) s ⟨h.1, h.2.1⟩

theorem resolve_spec (d : Disk) (p : List Name) :
    Triple (CD d) (resolve p) (fun r s => r.1 = p.reverse ∧ At d r.1 r.2 s)
      (fun s => CD d s ∧ specStat d p.reverse = none) := by
  unfold resolve
  refine Triple.bind ((rootStat_spec d).onErr (fun s h => ?_)) fun st => ?_
  · refine ⟨h.1, ?_⟩
    have := specStat_none_below d [] h.2 p.reverse
    simpa using this
  · exact (resolveFrom_spec d p [] st).conseq (fun _ h => h) (fun r s h => ⟨by simpa using h.1, h.2⟩)
      (fun s h => ⟨h.1, by simpa using h.2⟩)

theorem viewOf_spec (d : Disk) (p : Path) (st : Node) {E : St → Prop} :
    Triple (At d p st) (viewOf p) (fun v _ => v = st.view) E := by
  intro s ⟨hsp, ⟨hc, rfl⟩, m, hm⟩
  obtain ⟨_, r, rest, hr, hst⟩ := not_whiteout_of_spec hc hm hsp
  refine Triple.ok_at (a := (s.disk.statReal r).view) (s' := s) ?_ (by rw [hst])
  unfold viewOf
  rw [bind_ok (firstReal_ok hm hr)]; rfl

/-- With a consistent forest the live view at every path is the SPEC `merge` of the disk. -/
theorem consistent_view_is_merge (s : St) (hc : Consistent s) (p : List Name) :
    liveView s p = merge s.disk p.reverse := by
  have h : Triple (CD s.disk) (do let (path, _) ← resolve p; viewOf path)
      (fun v _ => v = viewOfStat (specStat s.disk p.reverse)) (fun _ => specStat s.disk p.reverse = none) :=
    Triple.bind ((resolve_spec s.disk p).onErr (fun _ h => h.2))
      fun ⟨path, st⟩ s' ⟨hpath, hat⟩ =>
        (viewOf_spec s.disk path st).post (fun v _ hv => by rw [hv, ← hpath, hat.1]; rfl) s' hat
  rw [merge_eq_specStat s.disk hc.roots]
  unfold liveView
  cases hr : (do let (path, _) ← resolve p; viewOf path : M VNode) s with
  | ok v s' => exact (h s ⟨hc, rfl⟩).1 v s' hr
  | err e s' => rw [(h s ⟨hc, rfl⟩).2 e s' hr]; rfl

end Fbr.Ovl
