/-
  `import` gives a consistent forest, and every non-modifying operation (lookup, readdir,
  read, readlink, getxattr, walk) keeps it consistent; it leaves the disk alone whatever the state
  (`runOp_ro_disk`).  How an operation on a name finds its parent directory (`DirAt`, `resolveParent_cd`).
-/
import Fbr.Lemmas.OvlInv
import Fbr.Lemmas.OvlSimLookup

namespace Fbr.Ovl

theorem importSt0_consistent (d : Disk) (hr : d.RootsOK) (ht : d.TreesOK) : Consistent (importSt0 d) := by
  refine ⟨hr, ht, ⟨_, rfl⟩, ?_, ?_, ?_, ?_, ?_, ?_⟩
  · intro p m hm
    obtain ⟨rfl, rfl⟩ := importSt0_mem hm
    exact Or.inl rfl
  · intro p m hm
    obtain ⟨_, rfl⟩ := importSt0_mem hm
    cases h : d.indices <;> simp [headWhiteout, rootReal]
  · intro p m hm hl
    obtain ⟨_, rfl⟩ := importSt0_mem hm
    cases hl
  · intro p m n hm hn
    obtain ⟨_, rfl⟩ := importSt0_mem hm
    cases hn
  · intro p m hm _
    obtain ⟨_, rfl⟩ := importSt0_mem hm
    rfl
  · intro n p c hm
    cases (importSt0_mem hm).1

theorem loadDirectory_loaded (d : Disk) (p : Path) :
    Triple (CD d) (loadDirectory p) (fun _ s => CD d s ∧ ∃ m, s.mem p = some m ∧ m.loaded = true) (CD d) :=
  loadDirectory_keeps p fun s m hs hm hl => ⟨loaded_consistent hs.1 hm hl rfl rfl, hs.2⟩

theorem loadDirectory_cd (d : Disk) (p : Path) : Triple (CD d) (loadDirectory p) (fun _ => CD d) (CD d) :=
  (loadDirectory_loaded d p).post fun _ _ h => h.1

/-- the LOOKUP that ends a creating operation leaves the disk as it is and the cache valid, success or failure -/
theorem thenLookup (F : Disk → Prop) (pp : Path) (n : Name) {E : St → Prop} (hE : ∀ s, Consistent s ∧ F s.disk → E s) :
    Triple (fun s => Consistent s ∧ F s.disk) (do let _ ← doLookup pp n; pure Reply.done)
      (fun _ s => Consistent s ∧ F s.disk) E := by
  refine Triple.bind (fun s ⟨hc, hF⟩ => ?_) fun _ => Triple.pure' fun _ h => h
  have := doLookup_ro (loadDirectory_cd s.disk) pp n s ⟨hc, rfl⟩
  exact ⟨fun a s' hf => ⟨(this.1 a s' hf).1, (this.1 a s' hf).2 ▸ hF⟩,
    fun e s' hf => hE s' ⟨(this.2 e s' hf).1, (this.2 e s' hf).2 ▸ hF⟩⟩

theorem loadDirectory_cons (p : Path) : Triple Consistent (loadDirectory p) (fun _ => Consistent) Consistent :=
  Triple.of_cd fun d => (loadDirectory_cd d p).conseq (fun _ h => h) (fun _ _ h => h.1) fun _ h => h.1

theorem loadDirectory_disk (d : Disk) (p : Path) :
    Triple (fun s => s.disk = d) (loadDirectory p) (fun _ s => s.disk = d) (fun s => s.disk = d) :=
  (loadDirectory_keeps p fun _ _ h _ _ => h).post fun _ _ h => h.1

/-- a non-modifying operation leaves the disk as it is, whatever the state -/
theorem runOp_ro_disk (op : Op) (hm : op.isModifying = false) (s : St) : (runOp op s).st.disk = s.disk :=
  (runOp_ro (loadDirectory_disk s.disk) op hm).st rfl

theorem run_ro_disk (ops : List Op) (hops : ∀ op ∈ ops, op.isModifying = false) (s : St) : (run s ops).disk = s.disk :=
  run_keeps (P := fun s' => s'.disk = s.disk) ops (fun op ho => runOp_ro (loadDirectory_disk _) op (hops op ho)) s rfl

theorem importFs_disk (d : Disk) : (importFs d).disk = d :=
  (loadDirectory_disk d []).st (s := importSt0 d) rfl

theorem import_consistent (d : Disk) (hr : d.RootsOK) (ht : d.TreesOK) : Consistent (importFs d) := by
  rw [importFs_eq]
  exact (loadDirectory_cons []).st (importSt0_consistent d hr ht)

theorem views_of_consistent {s : St} (hc : Consistent s) (p : List Name) :
    liveView s p = merge s.disk p.reverse ∧ liveView (importFs s.disk) p = merge s.disk p.reverse :=
  ⟨consistent_view_is_merge s hc p,
    by rw [consistent_view_is_merge _ (import_consistent s.disk hc.roots hc.trees), importFs_disk]⟩

/-- LOOKUP of `pp` answers a directory -/
def DirAt (d : Disk) (pp : Path) : Prop := ∃ st, specStat d pp = some st ∧ st.isDir = true

theorem Shows.dirNode {pp : Path} {st : Node} {pm : MNode} {s : St} (h : Shows pp st pm s) (hd : st.isDir = true) :
    DirNode pp s := by
  obtain ⟨hm, _, _, r, rest, hr, hst⟩ := h
  intro m0 r0 rest0 hm0 hr0
  rw [hm] at hm0; cases hm0
  rw [hr] at hr0; cases hr0
  rw [hst]; exact hd

theorem splitLast_reverse : ∀ (p pp' : List Name) (n : Name), splitLast p = some (pp', n) →
    p.reverse = n :: pp'.reverse
  | [], _, _, h => nomatch h
  | [a], pp', n, h => by cases h; rfl
  | a :: b :: rest, pp', n, h => by
    obtain ⟨⟨q', n'⟩, hs, h⟩ := Option.map_eq_some_iff.1 h
    cases h
    rw [List.reverse_cons, splitLast_reverse (b :: rest) q' n hs]; simp

theorem resolveParent_cd (d : Disk) (p : List Name) :
    Triple (CD d) (resolveParent p) (fun r s => (r.2 :: r.1 = p.reverse ∧ DirAt d r.1) ∧ CD d s) (CD d) := by
  unfold resolveParent
  split
  · exact Triple.fail' fun _ h => h
  · rename_i pp' n hsl
    refine Triple.bind ((resolve_spec d pp').onErr (fun _ h => h.1)) fun r => ?_
    obtain ⟨ppath, pst⟩ := r
    refine Triple.ite' (fun _ => Triple.fail' fun _ h => h.2.2.1) fun hd => Triple.pure' fun s h => ?_
    obtain ⟨hpath, hsp, hcd, _⟩ := h
    simp only at hpath hsp ⊢
    exact ⟨⟨by rw [hpath, splitLast_reverse p pp' n hsl], pst, hsp, by simpa using hd⟩, hcd⟩

end Fbr.Ovl
