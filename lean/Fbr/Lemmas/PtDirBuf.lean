/-
  C16, byte level: the loops of the three walkers over a raw `getdents64` buffer against their
  record-level readings — one encoded record (`*_cons`), then any encoded buffer with enough fuel
  (`*_encoded`).  What this says of `skip_to_cookie`, `last_cookie_in_buf` and `only_dot_entries`
  themselves, and how the first two stop on a malformed record, is stated in `Thm/C16`.
-/
import Fbr.Lemmas.PtDir
import Fbr.Lemmas.Wire

namespace Fbr.Lemmas.PtDir
open Fbr.PtDir Fbr.Wire

/-- the fields of a record fit their wire widths (`d_off : u64`, `d_reclen : u16`) -/
def Enc (e : HEnt) : Prop := e.cookie < 2 ^ 64 ∧ reclen e < 2 ^ 16

theorem reclen_ge (e : HEnt) : HDR + e.name.length + 1 ≤ reclen e := by unfold reclen HDR; omega

theorem nameField_length (e : HEnt) : (nameField e).length = reclen e - HDR := by
  have := reclen_ge e
  simp [nameField, zeros]; omega

theorem encode_length (e : HEnt) : (encode e).length = reclen e := by
  have := reclen_ge e
  simp [encode, nameField_length, le64, le16, HDR] at *
  omega

theorem u64At_encode_cookie (e : HEnt) (he : Enc e) (rest : Bytes) : u64At (encode e ++ rest) 8 = e.cookie := by
  unfold encode; wire_norm; exact Nat.mod_eq_of_lt he.1

theorem u16At_encode_reclen (e : HEnt) (he : Enc e) (rest : Bytes) : u16At (encode e ++ rest) 16 = reclen e := by
  unfold encode; wire_norm; exact Nat.mod_eq_of_lt he.2

theorem drop_encode (e : HEnt) (rest : Bytes) : (encode e ++ rest).drop (reclen e) = rest := by
  rw [← encode_length e]; exact List.drop_left

theorem nameArea_encode (e : HEnt) (rest : Bytes) :
    ((encode e ++ rest).drop HDR).take (reclen e - HDR) = nameField e := by
  have h : encode e ++ rest = (le64 e.ino ++ le64 e.cookie ++ le16 (reclen e) ++ [UInt8.ofNat e.type]) ++ (nameField e ++ rest) := by
    simp [encode]
  rw [h, List.drop_left' (by simp [le64, le16, HDR]), ← nameField_length e, List.take_left]

theorem encodeAll_length_ge (b : Dir) : b.length ≤ (encodeAll b).length := by
  induction b with
  | nil => simp [encodeAll]
  | cons e r ih =>
    simp only [encodeAll, List.length_append, List.length_cons, encode_length]
    have := reclen_ge e
    omega

theorem hdr_le_encode (e : HEnt) (rest : Bytes) : HDR ≤ (encode e ++ rest).length := by
  have := reclen_ge e
  simp only [List.length_append, encode_length]; omega

theorem reclen_guard (e : HEnt) (rest : Bytes) :
    (decide (reclen e < HDR) || decide (reclen e > (encode e ++ rest).length)) = false := by
  have := reclen_ge e
  simp only [List.length_append, encode_length, Bool.or_eq_false_iff, decide_eq_false_iff_not]
  omega

theorem skipScan_cons (offset f cur : Nat) (e : HEnt) (he : Enc e) (rest : Bytes) :
    skipScan offset (f + 1) (encode e ++ rest) cur =
      if e.cookie = offset then some (cur + reclen e) else skipScan offset f rest (cur + reclen e) := by
  have hge : ¬ (reclen e < HDR) := by have := reclen_ge e; omega
  simp only [skipScan, hdr_le_encode, if_true, u16At_encode_reclen e he, u64At_encode_cookie e he,
    drop_encode, hge, if_false]

theorem lastCookie_cons (f : Nat) (e : HEnt) (he : Enc e) (rest : Bytes) (acc : Option Nat) :
    lastCookie (f + 1) (encode e ++ rest) acc = lastCookie f rest (some e.cookie) := by
  simp only [lastCookie, hdr_le_encode, if_true, u16At_encode_reclen e he, u64At_encode_cookie e he,
    drop_encode, reclen_guard, Bool.false_eq_true, if_false]

theorem onlyDots_cons (f : Nat) (e : HEnt) (he : Enc e) (rest : Bytes) :
    onlyDots (f + 1) (encode e ++ rest) = (isDot e && onlyDots f rest) := by
  simp only [onlyDots, hdr_le_encode, if_true, u16At_encode_reclen e he, drop_encode, nameArea_encode,
    reclen_guard, Bool.false_eq_true, if_false, isDot]
  cases isDotName (nameField e) <;> simp

theorem skipScan_encoded (offset : Nat) (b : Dir) (henc : ∀ e ∈ b, Enc e) :
    ∀ (fuel cur : Nat), b.length < fuel →
      match skipToCookieL b offset with
      | some r => ∃ pre, encodeAll b = pre ++ encodeAll r ∧ skipScan offset fuel (encodeAll b) cur = some (cur + pre.length)
      | none => skipScan offset fuel (encodeAll b) cur = none := by
  induction b with
  | nil =>
    intro fuel cur hf
    cases fuel with
    | zero => omega
    | succ f => simp [skipScan, encodeAll, skipToCookieL, HDR]
  | cons e r ih =>
    intro fuel cur hf
    cases fuel with
    | zero => omega
    | succ f =>
      rw [encodeAll, skipScan_cons offset f cur e (henc e (by simp)), skipToCookieL]
      by_cases heq : e.cookie = offset
      · simp only [heq, if_true]
        exact ⟨encode e, rfl, by rw [encode_length]⟩
      · simp only [heq, if_false]
        have := ih (fun x hx => henc x (by simp [hx])) f (cur + reclen e) (by simp at hf; omega)
        cases hs : skipToCookieL r offset <;> rw [hs] at this
        · exact this
        · obtain ⟨pre, hp1, hp2⟩ := this
          exact ⟨encode e ++ pre, by simp [hp1], by rw [hp2]; simp [encode_length]; omega⟩

theorem lastCookie_encoded (b : Dir) (henc : ∀ e ∈ b, Enc e) :
    ∀ (fuel : Nat) (acc : Option Nat), b.length < fuel →
      lastCookie fuel (encodeAll b) acc = (match lastCookieL b with | some c => some c | none => acc) := by
  induction b with
  | nil =>
    intro fuel acc hf
    cases fuel with
    | zero => omega
    | succ f => simp [lastCookie, encodeAll, lastCookieL, HDR]
  | cons e r ih =>
    intro fuel acc hf
    cases fuel with
    | zero => omega
    | succ f =>
      rw [encodeAll, lastCookie_cons f e (henc e (by simp)),
        ih (fun x hx => henc x (by simp [hx])) f (some e.cookie) (by simp at hf; omega)]
      cases r with
      | nil => simp [lastCookieL]
      | cons x xs =>
        have h2 : lastCookieL (e :: x :: xs) = lastCookieL (x :: xs) := lastCookieL_append [e] (x :: xs) (by simp)
        rw [h2, lastCookieL_eq (x :: xs) (by simp)]

theorem onlyDots_encoded (b : Dir) (henc : ∀ e ∈ b, Enc e) :
    ∀ (fuel : Nat), b.length < fuel → onlyDots fuel (encodeAll b) = onlyDotsL b := by
  induction b with
  | nil =>
    intro fuel hf
    cases fuel with
    | zero => omega
    | succ f => simp [onlyDots, encodeAll, onlyDotsL, HDR]
  | cons e r ih =>
    intro fuel hf
    cases fuel with
    | zero => omega
    | succ f =>
      rw [encodeAll, onlyDots_cons f e (henc e (by simp)), ih (fun x hx => henc x (by simp [hx])) f (by simp at hf; omega)]
      rfl

end Fbr.Lemmas.PtDir
