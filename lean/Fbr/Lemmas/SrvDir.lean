/-
  Fbr.Lemmas.SrvDir — directory payloads, shared by the server and the passthrough readdir.  With a
  cursor at least as large as the size the client asked for, the READDIR loop writes the whole
  records of a prefix of the entries, within that size, and never fails (`dirLoop_prefix`).  The
  server only runs the loop with such a cursor (it answers ENOMEM otherwise), so the bound on what
  reaches the reply buffer (`Built.dirReply`) and C03's `dirents_whole_aligned` both read it off.
  The file closes with what holds for a cursor of any size (`dirLoop_fits`).
-/
import Fbr.Srv
import Fbr.Lemmas.Wire

namespace Fbr.Srv
open Fbr.Wire Fbr.Conv

@[simp] theorem attrBytes_length (a : Attr) : (attrBytes a).length = 88 := by simp [attrBytes]

@[simp] theorem entryOutBytes_length (o : EntryOut) : (entryOutBytes o).length = 128 := by
  simp [entryOutBytes]

/-- the complete record `add_dirent` writes for one entry -/
def recordBytes (plus : Bool) (de : DirEnt × Entry) : Bytes :=
  (direntChunks de.1 (if plus then some de.2 else none)).foldl (· ++ ·) []

theorem direntChunks_total (d : DirEnt) (e : Option Entry) :
    ((direntChunks d e).foldl (· ++ ·) []).length = direntTotal d e := by
  unfold direntChunks direntTotal DIRENT ENTRY_OUT
  cases e <;>
    simp only [List.foldl, List.nil_append, List.length_append, le64_length, le32_length, zeros_length,
      entryOutBytes_length, Option.isSome, Bool.false_eq_true, if_false, if_true] <;>
    omega

theorem direntTotal_pos (d : DirEnt) (e : Option Entry) : 0 < direntTotal d e := by
  unfold direntTotal DIRENT ENTRY_OUT
  dsimp only
  split <;> omega

theorem direntTotal_aligned (d : DirEnt) (e : Option Entry) : direntTotal d e % 8 = 0 := by
  unfold direntTotal ENTRY_OUT
  dsimp only
  split <;> omega

theorem pushChunk_ok (cc written : Nat) (acc c : Bytes) (h : written + acc.length + c.length ≤ cc) :
    pushChunk cc written (acc, false) c = (acc ++ c, false) := by
  unfold pushChunk
  simp only [Bool.false_eq_true, if_false]
  by_cases hc : c.isEmpty
  · have : c = [] := List.isEmpty_iff.mp hc
    subst this; simp
  · have : ¬ written + acc.length + c.length > cc := by omega
    simp [hc, this]

theorem foldl_append_nil (l : List Bytes) (x : Bytes) : l.foldl (· ++ ·) x = x ++ l.foldl (· ++ ·) [] := by
  have := List.foldl_assoc (op := (· ++ · : Bytes → Bytes → Bytes)) (l := l) (a₁ := x) (a₂ := [])
  rwa [List.append_nil] at this

theorem foldl_pushChunk_ok (cc written : Nat) (chunks : List Bytes) (acc : Bytes)
    (h : written + acc.length + (chunks.foldl (· ++ ·) []).length ≤ cc) :
    chunks.foldl (pushChunk cc written) (acc, false) = (acc ++ chunks.foldl (· ++ ·) [], false) := by
  induction chunks generalizing acc with
  | nil => simp
  | cons c cs ih =>
    simp only [List.foldl_cons, List.nil_append] at h ⊢
    rw [foldl_append_nil cs c] at h ⊢
    simp only [List.length_append] at h
    rw [pushChunk_ok cc written acc c (by omega)]
    rw [ih (acc ++ c) (by simp only [List.length_append]; omega)]
    simp

theorem writeChunks_ok (cc written : Nat) (chunks : List Bytes)
    (h : written + (chunks.foldl (· ++ ·) []).length ≤ cc) :
    writeChunks cc written chunks = (chunks.foldl (· ++ ·) [], false) := by
  unfold writeChunks
  have := foldl_pushChunk_ok cc written chunks [] (by simpa using h)
  simpa using this

theorem addDirent_whole (size cc written : Nat) (d : DirEnt) (e : Option Entry) (hcc : size ≤ cc) :
    addDirent size cc written d e = ([], .ok 0) ∧ size - written < direntTotal d e ∨
    addDirent size cc written d e = ((direntChunks d e).foldl (· ++ ·) [], .ok (direntTotal d e)) ∧
      written + direntTotal d e ≤ size := by
  unfold addDirent
  have hpos : 0 < direntTotal d e := direntTotal_pos d e
  by_cases h : size - written < direntTotal d e
  · left; simp [h]
  · right
    have hfit : written + direntTotal d e ≤ size := by omega
    simp only [h, if_false]
    rw [writeChunks_ok cc written _ (by rw [direntChunks_total]; omega)]
    exact ⟨rfl, hfit⟩

theorem dirLoop_prefix (size cc : Nat) (plus prop : Bool) (ds : List (DirEnt × Entry)) (acc : Bytes)
    (hcc : size ≤ cc) (hacc : acc.length ≤ size) :
    ∃ k, k ≤ ds.length ∧
      dirLoop size cc plus prop ds acc = (acc ++ (ds.take k).flatMap (recordBytes plus), none) ∧
      (acc ++ (ds.take k).flatMap (recordBytes plus)).length ≤ size := by
  induction ds generalizing acc with
  | nil => exact ⟨0, by simp, by simp [dirLoop], by simpa using hacc⟩
  | cons de rest ih =>
    obtain ⟨d, e⟩ := de
    rcases addDirent_whole size cc acc.length d (if plus then some e else none) hcc with ⟨h, _⟩ | ⟨h, hfit⟩
    · refine ⟨0, by simp, ?_, by simpa using hacc⟩
      unfold dirLoop
      rw [h]
      simp
    · have htot := direntChunks_total d (if plus then some e else none)
      have hrec : recordBytes plus (d, e) = (direntChunks d (if plus then some e else none)).foldl (· ++ ·) [] := rfl
      have hpos : 0 < direntTotal d (if plus then some e else none) := direntTotal_pos _ _
      obtain ⟨k, hk, heq, hlen⟩ := ih (acc ++ recordBytes plus (d, e))
        (by rw [List.length_append, hrec, htot]; exact hfit)
      refine ⟨k + 1, by simp; omega, ?_, ?_⟩
      · unfold dirLoop
        rw [h]
        obtain ⟨n, hn⟩ : ∃ n, direntTotal d (if plus then some e else none) = n + 1 := ⟨_, (Nat.succ_pred_eq_of_pos hpos).symm⟩
        rw [hn]
        simp only
        rw [← hrec, heq]
        simp [List.take_succ_cons, List.flatMap_cons, List.append_assoc]
      · simpa [List.take_succ_cons, List.flatMap_cons, List.append_assoc] using hlen

theorem recordBytes_aligned (plus : Bool) (de : DirEnt × Entry) : (recordBytes plus de).length % 8 = 0 := by
  unfold recordBytes
  rw [direntChunks_total]
  exact direntTotal_aligned _ _

/-! Whatever the size of the cursor, nothing is written beyond it, and the only error the loop itself can
produce is the `InvalidData` of a chunk that did not fit. -/

theorem pushChunk_fits (cc written : Nat) (acc : Bytes × Bool) (c : Bytes)
    (h : written + acc.1.length ≤ cc) : written + (pushChunk cc written acc c).1.length ≤ cc := by
  unfold pushChunk
  split
  · exact h
  · split
    · exact h
    · split
      · exact h
      · simp only [List.length_append]; omega

theorem writeChunks_fits (cc written : Nat) (chunks : List Bytes) (hw : written ≤ cc) :
    written + (writeChunks cc written chunks).1.length ≤ cc := by
  unfold writeChunks
  have h : written + (([], false) : Bytes × Bool).1.length ≤ cc := by simpa using hw
  generalize (([], false) : Bytes × Bool) = acc at h ⊢
  induction chunks generalizing acc with
  | nil => exact h
  | cons c cs ih => exact ih _ (pushChunk_fits cc written acc c h)

theorem addDirent_fits {size cc written : Nat} {d : DirEnt} {e : Option Entry} {bs : Bytes} {r : Except IoErr Nat}
    (hw : written ≤ cc) (h : addDirent size cc written d e = (bs, r)) :
    written + bs.length ≤ cc ∧ ∀ er, r = .error er → er = .kind "InvalidData" := by
  unfold addDirent at h
  split at h
  · cases h; exact ⟨hw, nofun⟩
  · have hf := writeChunks_fits cc written (direntChunks d e) hw
    split at h <;> next heq => rw [heq] at hf; cases h; exact ⟨hf, by simp⟩

theorem dirLoop_fits (size cc : Nat) (plus prop : Bool) (ds : List (DirEnt × Entry)) (acc : Bytes)
    (h : acc.length ≤ cc) :
    (dirLoop size cc plus prop ds acc).1.length ≤ cc ∧
    (∀ er, (dirLoop size cc plus prop ds acc).2 = some er → er = .kind "InvalidData") := by
  induction ds generalizing acc with
  | nil => simp [dirLoop, h]
  | cons de rest ih =>
    obtain ⟨d, e⟩ := de
    unfold dirLoop
    split
    next bs r hq =>
    have hf := addDirent_fits h hq
    rw [← List.length_append] at hf
    split
    · exact ⟨hf.1, nofun⟩
    · exact ih _ hf.1
    · next er =>
      refine ⟨hf.1, fun er' h' => ?_⟩
      split at h'
      · cases h'; exact hf.2 er rfl
      · cases h'

end Fbr.Srv
