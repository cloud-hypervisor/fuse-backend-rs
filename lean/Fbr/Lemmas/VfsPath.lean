/-
  The two walks of the pseudo tree, `PseudoFs::path_walk` and `PseudoFs::mount`, on a well-formed tree:
  there the `unwrap()`s of a step succeed, so each walk has one step equation over `move` (where a
  component leads from a node); and `Ext`, the way the tree grows, under which a resolved path keeps resolving.
-/
import Fbr.Vfs
import Fbr.Lemmas.VfsPseudo

namespace Fbr.Lemmas.VfsPath
open Fbr.Vfs Fbr.Lemmas.VfsPseudo

/-- where a component leads from node `n` -/
def move (n : PNode) : Comp → Option Nat
  | none => some n.parent
  | some name => n.child name

theorem move_node {p : Pseudo} (h : WF p) {n : PNode} (hn : n ∈ p.nodes) {c : Comp} {k : Nat} (hm : move n c = some k) :
    ∃ x ∈ p.nodes, x.ino = k := by
  cases c with
  | none => exact Option.some.inj hm ▸ h.parent n hn
  | some name => exact child_is_node h hn hm

theorem pathWalk_move {p : Pseudo} (h : WF p) {n : PNode} (hn : n ∈ p.nodes) {c : Comp} {k : Nat} (hm : move n c = some k)
    (rest : List Comp) : p.pathWalk n.ino (c :: rest) = p.pathWalk k rest := by
  obtain ⟨x, hx, rfl⟩ := move_node h hn hm
  cases c <;> simp only [move, Option.some.injEq] at hm <;>
    simp only [Pseudo.pathWalk, find_of_mem h.sorted hn, hm, find_of_mem h.sorted hx]

theorem mountWalk_move {p : Pseudo} (h : WF p) {n : PNode} (hn : n ∈ p.nodes) {c : Comp} {k : Nat} (hm : move n c = some k)
    (rest : List Comp) : p.mountWalk n.ino (c :: rest) = p.mountWalk k rest := by
  obtain ⟨x, hx, rfl⟩ := move_node h hn hm
  cases c <;> simp only [move, Option.some.injEq] at hm <;>
    simp only [Pseudo.mountWalk, find_of_mem h.sorted hn, hm, find_of_mem h.sorted hx]

theorem pathWalk_missing {p : Pseudo} (h : WF p) {n : PNode} (hn : n ∈ p.nodes) {c : Comp}
    (hm : move n c = none) (rest : List Comp) : p.pathWalk n.ino (c :: rest) = some none := by
  cases c with
  | none => cases hm
  | some name => simp only [Pseudo.pathWalk, find_of_mem h.sorted hn, show n.child name = none from hm]

theorem mountWalk_create {p : Pseudo} (h : WF p) {n : PNode} (hn : n ∈ p.nodes) {name : Name}
    (hc : n.child name = none) (rest : List Comp) :
    p.mountWalk n.ino (some name :: rest) = (p.createInode n.ino name).1.mountWalk p.nextInode rest := by
  simp only [Pseudo.mountWalk, find_of_mem h.sorted hn, hc]
  rfl

/-- `PseudoFs::path_walk` never hits an `unwrap()` on a well-formed tree -/
theorem pathWalk_total : ∀ (comps : List Comp) (p : Pseudo) (cur : Nat), WF p → (∃ n ∈ p.nodes, n.ino = cur) →
    ∃ r, p.pathWalk cur comps = some r := by
  intro comps
  induction comps with
  | nil => intro p cur _ _; exact ⟨some cur, rfl⟩
  | cons c rest ih =>
    intro p cur h ⟨n, hn, hni⟩
    subst hni
    cases hm : move n c with
    | some k => rw [pathWalk_move h hn hm]; exact ih p k h (move_node h hn hm)
    | none => exact ⟨none, pathWalk_missing h hn hm rest⟩

theorem mountWalk_of_pathWalk : ∀ (comps : List Comp) (p : Pseudo) (cur ino : Nat), WF p → (∃ n ∈ p.nodes, n.ino = cur) →
    p.pathWalk cur comps = some (some ino) → p.mountWalk cur comps = some (p, ino) := by
  intro comps
  induction comps with
  | nil => intro p cur ino _ _ h; cases h; rfl
  | cons c rest ih =>
    intro p cur ino h ⟨n, hn, hni⟩ hw
    subst hni
    cases hm : move n c with
    | none => rw [pathWalk_missing h hn hm] at hw; cases hw
    | some k =>
      rw [pathWalk_move h hn hm] at hw
      rw [mountWalk_move h hn hm]
      exact ih p k ino h (move_node h hn hm) hw

def Ext (p p' : Pseudo) : Prop :=
  ∀ n ∈ p.nodes, ∃ n' ∈ p'.nodes, n'.ino = n.ino ∧ ∀ c k, move n c = some k → move n' c = some k

theorem ext_refl (p : Pseudo) : Ext p p := fun n hn => ⟨n, hn, rfl, fun _ _ h => h⟩

theorem ext_trans {p q r : Pseudo} (h1 : Ext p q) (h2 : Ext q r) : Ext p r := by
  intro n hn
  obtain ⟨n1, hn1, a1, m1⟩ := h1 n hn
  obtain ⟨n2, hn2, a2, m2⟩ := h2 n1 hn1
  exact ⟨n2, hn2, a2.trans a1, fun c k hm => m2 c k (m1 c k hm)⟩

/-- `insert_child` appends, so what a name resolved to before it still resolves to -/
theorem move_addChild (par ino : Nat) (name : Name) (n : PNode) {c : Comp} {k : Nat} (hm : move n c = some k) :
    move (addChild par ino name n) c = some k := by
  cases c with
  | none => exact (congrArg some (addChild_keeps par ino name n).2.1).trans hm
  | some nm =>
    show (addChild par ino name n).child nm = some k
    rw [child_append (addChild_children par ino name n), show n.child nm = some k from hm]
    rfl

theorem createInode_ext {p : Pseudo} (h : WF p) (par : PNode) (hpar : par ∈ p.nodes) (name : Name) :
    Ext p (p.createInode par.ino name).1 := fun n hnm =>
  ⟨addChild par.ino p.nextInode name n, (mem_createInode h.bound (h.bound par hpar)).mpr (.inl ⟨n, hnm, rfl⟩),
    (addChild_keeps _ _ _ n).1, fun _ _ => move_addChild _ _ _ n⟩

theorem pathWalk_ext : ∀ (comps : List Comp) (p p' : Pseudo) (cur ino : Nat), WF p → WF p' → Ext p p' →
    (∃ n ∈ p.nodes, n.ino = cur) → p.pathWalk cur comps = some (some ino) → p'.pathWalk cur comps = some (some ino) := by
  intro comps
  induction comps with
  | nil => intro p p' cur ino _ _ _ _ h; exact h
  | cons c rest ih =>
    intro p p' cur ino h h' he ⟨n, hn, hni⟩ hw
    subst hni
    obtain ⟨n', hn', a, hmv⟩ := he n hn
    cases hm : move n c with
    | none => rw [pathWalk_missing h hn hm] at hw; cases hw
    | some k =>
      rw [pathWalk_move h hn hm] at hw
      rw [← a, pathWalk_move h' hn' (hmv c k hm)]
      exact ih p p' k ino h h' he (move_node h hn hm) hw

theorem mountWalk_spec : ∀ (comps : List Comp) (p : Pseudo) (cur : Nat), WF p → (∃ n ∈ p.nodes, n.ino = cur) →
    ∃ p' ino, p.mountWalk cur comps = some (p', ino) ∧ WF p' ∧ (∃ n ∈ p'.nodes, n.ino = ino) ∧ Ext p p' ∧
      p'.pathWalk cur comps = some (some ino) := by
  intro comps
  induction comps with
  | nil => intro p cur h hc; exact ⟨p, cur, rfl, h, hc, ext_refl p, rfl⟩
  | cons c rest ih =>
    intro p cur h ⟨n, hn, hni⟩
    subst hni
    cases hm : move n c with
    | some k =>
      obtain ⟨p', ino, hw, h', hmem, he, hres⟩ := ih p k h (move_node h hn hm)
      obtain ⟨n', hn', a, hmv⟩ := he n hn
      exact ⟨p', ino, by rw [mountWalk_move h hn hm]; exact hw, h', hmem, he,
        by rw [← a, pathWalk_move h' hn' (hmv c k hm)]; exact hres⟩
    | none =>
      cases c with
      | none => cases hm
      | some name =>
        -- the component is created under `n`; the rest of the walk starts at the node created
        have hmem1 := @mem_createInode p h.bound n.ino (h.bound n hn) name
        obtain ⟨p', ino, hw, h', hmem, he1, hres⟩ :=
          ih _ p.nextInode (createInode_wf h n hn name) ⟨_, hmem1.mpr (.inr rfl), rfl⟩
        refine ⟨p', ino, by rw [mountWalk_create h hn hm]; exact hw, h', hmem,
          ext_trans (createInode_ext h n hn name) he1, ?_⟩
        -- the name leads from `n` to the node created, and still does in the final tree
        have hchild : move (addChild n.ino p.nextInode name n) (some name) = some p.nextInode := by
          show (addChild n.ino p.nextInode name n).child name = _
          rw [child_append (addChild_children _ _ _ n), show n.child name = none from hm, if_pos rfl]
          simp
        obtain ⟨n2, hn2, a2, hmv⟩ := he1 _ (hmem1.mpr (.inl ⟨n, hn, rfl⟩))
        rw [(addChild_keeps _ _ _ n).1] at a2
        rw [← a2, pathWalk_move h' hn2 (hmv _ _ hchild)]
        exact hres

theorem mountWalk_result {comps : List Comp} {p p' : Pseudo} {ino : Nat} (h : WF p)
    (hw : p.mountWalk 1 comps = some (p', ino)) :
    WF p' ∧ (∃ n ∈ p'.nodes, n.ino = ino) ∧ Ext p p' ∧ p'.pathWalk 1 comps = some (some ino) := by
  obtain ⟨p'', ino'', hw', hr⟩ := mountWalk_spec comps p 1 h (root_mem h)
  rw [hw] at hw'
  cases hw'
  exact hr

end Fbr.Lemmas.VfsPath
