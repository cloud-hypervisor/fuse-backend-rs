/-
  The real inodes the code keeps for a path as a function of the disk alone (`expReals`, in index
  form `expIdx`, hence the SPEC `merge`), and the in-memory forest as a valid cache of the
  disk: `Consistent s`, which is a condition at every path (`PathOK`) that carries over wherever nothing
  it reads has changed (`PathOK.frame`).  Scanning the children of a consistent node (`load_directory`)
  keeps the forest consistent (`loaded_consistent`).
-/
import Fbr.Lemmas.OvlMerge
import Fbr.Lemmas.OvlHoare
import Fbr.Lemmas.OvlEval

namespace Fbr.Ovl

/-- the real inode of layer `i` at path `p` with the flags `lookup_child` computes -/
def realOf (d : Disk) (p : Path) (i : Nat) : Real :=
  { layer := i, inUpper := i == 0, path := p,
    whiteout := (d.nodeAt i p).isWhiteout, opq := (d.nodeAt i p).isOpaqueDir }

def Disk.RootsOK (d : Disk) : Prop := ∀ i ∈ d.indices, (d.nodeAt i []).isDir = true

def Disk.TreesOK (d : Disk) : Prop := ∀ i L, d.layer i = some L → TreeOK L

theorem nodeAt_setLayer0 (d : Disk) (L' : Layer) (i : Nat) (p : Path) :
    (d.setLayer 0 L').nodeAt i p = if i = 0 then L' p else d.nodeAt i p := by
  cases i <;> simp [Disk.nodeAt, Disk.layer, Disk.setLayer]

theorem nodeAt_zero {d : Disk} {L : Layer} (h : d.upper = some L) (p : Path) : d.nodeAt 0 p = L p := by
  simp [Disk.nodeAt, Disk.layer, h]

/-- The upper layer becomes `L'`, which is `L` outside the subtree at `q0`: along a path `p` outside that subtree
    (at `p` and at its ancestors, which lie outside too) every layer has the entries it had. -/
theorem nodeAt_outside {d : Disk} {L L' : Layer} (hup : d.upper = some L) {q0 : Path}
    (hout : ∀ q, q0.isSuffixOf q = false → L' q = L q) {p : Path} (hp : q0.isSuffixOf p = false) (i : Nat) (q' : Path)
    (hq' : q'.isSuffixOf p = true) : (d.setLayer 0 L').nodeAt i q' = d.nodeAt i q' := by
  rw [nodeAt_setLayer0]
  split
  · rename_i hi
    rw [hi, nodeAt_zero hup]
    refine hout q' ?_
    cases hb : q0.isSuffixOf q' with
    | false => rfl
    | true => rw [below_trans hb hq'] at hp; cases hp
  · rfl

theorem indices_setLayer0 {d : Disk} {L L' : Layer} (h : d.upper = some L) :
    (d.setLayer 0 L').indices = d.indices := by
  simp [Disk.setLayer, Disk.indices, h]

theorem wf_setLayer0 {d : Disk} {L L' : Layer} (hup : d.upper = some L) (hr : d.RootsOK) (ht : d.TreesOK)
    (hstep : HostStep L L') : (d.setLayer 0 L').RootsOK ∧ (d.setLayer 0 L').TreesOK := by
  refine ⟨fun i hi => ?_, fun i Li hLi => ?_⟩
  · rw [indices_setLayer0 hup] at hi
    have := hr i hi
    rw [nodeAt_setLayer0]
    split
    · rename_i h0
      rw [h0] at this
      exact hstep.1 (by simpa [Disk.nodeAt, Disk.layer, hup] using this)
    · exact this
  · cases i with
    | zero =>
      simp only [Disk.layer, Disk.setLayer, Option.some.injEq] at hLi
      exact hLi ▸ hstep.2 (ht 0 L hup)
    | succ j => exact ht (j + 1) Li (by simpa [Disk.layer, Disk.setLayer] using hLi)

/-- the real inodes the overlay node `p` keeps, computed with the model's own functions -/
def expReals (d : Disk) : Path → List Real
  | [] => d.indices.map (rootReal d)
  | n :: pp =>
    match newFromReals d ((takeDirs d (expReals d pp)).filterMap (lookupChild d · n)) with
    | some k => k.reals
    | none => []

theorem statReal_realOf (d : Disk) (p : Path) (i : Nat) : d.statReal (realOf d p i) = d.nodeAt i p := rfl

theorem rootReal_eq_realOf {d : Disk} {i : Nat} (h : (d.nodeAt i []).isDir = true) :
    rootReal d i = realOf d [] i := by
  simp [rootReal, realOf, Node.not_whiteout_of_dir h]

theorem takeDirs_realOf (d : Disk) (p : Path) :
    ∀ l, takeDirs d (l.map (realOf d p)) = (dirsIdx d p l).map (realOf d p)
  | [] => rfl
  | i :: rest => by
    simp only [List.map_cons, takeDirs, dirsIdx, statReal_realOf]
    by_cases hd : (d.nodeAt i p).isDir = true
    · have hw := Node.not_whiteout_of_dir hd
      by_cases ho : (d.nodeAt i p).isOpaqueDir = true
      · simp [realOf, hd, hw, ho]
      · simp only [Bool.not_eq_true] at ho
        simp [realOf, hd, hw, ho]
        exact takeDirs_realOf d p rest
    · simp only [Bool.not_eq_true] at hd
      by_cases hw : (d.nodeAt i p).isWhiteout = true <;> simp [realOf, hd, hw]

/-- what scanning the real inodes of the layers `l` at `p` finds for the name `n`: of a whiteout (which
    `lookup_child` refuses) the hypothesis says that it has no such entry (it is no directory) -/
theorem filterMap_lookupChild (d : Disk) (p : Path) (n : Name) :
    ∀ l : List Nat, (∀ i ∈ l, (d.nodeAt i p).isWhiteout = true → (d.nodeAt i (n :: p)).isAbsent = true) →
      (l.map (realOf d p)).filterMap (lookupChild d · n) =
        (l.filter fun i => !(d.nodeAt i (n :: p)).isAbsent).map (realOf d (n :: p))
  | [], _ => rfl
  | i :: rest, h => by
    have ih := filterMap_lookupChild d p n rest (fun j hj => h j (List.mem_cons_of_mem _ hj))
    rw [List.map_cons, List.filterMap_cons, List.filter_cons, ih]
    by_cases ha : (d.nodeAt i (n :: p)).isAbsent = true
    · simp [lookupChild_eq, realOf, ha]
    · have hw : (d.nodeAt i p).isWhiteout = false := by
        cases hw : (d.nodeAt i p).isWhiteout with
        | false => rfl
        | true => exact absurd (h i (by simp) hw) ha
      simp [lookupChild_eq, realOf, hw, ha]

theorem newFromReals_realOf (d : Disk) (p : Path) (l : List Nat) :
    (match newFromReals d (l.map (realOf d p)) with | some k => k.reals | none => []) =
      (cutW d p l).map (realOf d p) := by
  cases l with
  | nil => rfl
  | cons i rest =>
    simp only [List.map_cons, newFromReals, cutW, statReal_realOf]
    by_cases hd : (d.nodeAt i p).isDir = true
    · have hw := Node.not_whiteout_of_dir hd
      by_cases ho : (d.nodeAt i p).isOpaqueDir = true
      · simp [realOf, hd, hw, ho]
      · simp only [Bool.not_eq_true] at ho
        simp [realOf, hd, hw, ho]
        exact takeDirs_realOf d p rest
    · simp only [Bool.not_eq_true] at hd
      simp [realOf, hd]

theorem expReals_eq (d : Disk) (hr : d.RootsOK) : ∀ p, expReals d p = (expIdx d p).map (realOf d p)
  | [] => by
    simp only [expReals, expIdx]
    apply List.map_congr_left
    intro i hi
    exact rootReal_eq_realOf (hr i hi)
  | n :: pp => by
    rw [expReals, expReals_eq d hr pp, takeDirs_realOf,
      filterMap_lookupChild d pp n _ (fun i hi hw => by rw [Node.not_whiteout_of_dir (dirsIdx_all_dirs d pp _ i hi)] at hw; cases hw),
      newFromReals_realOf, expIdx]

/-- what LOOKUP answers from a list of real inodes: the first one's attributes, nothing for a
    whiteout -/
def headStat (d : Disk) : List Real → Option Node
  | [] => none
  | r :: _ => if r.whiteout then none else some (d.statReal r)

theorem headStat_cons {d : Disk} {r : Real} {rest : List Real} :
    headStat d (r :: rest) = if r.whiteout then none else some (d.statReal r) := rfl

theorem headStat_visible {d : Disk} {r : Real} {rest : List Real} (hw : r.whiteout = false) :
    headStat d (r :: rest) = some (d.statReal r) := by rw [headStat_cons, hw]; rfl

theorem headStat_whiteout {d : Disk} {r : Real} {rest : List Real} (hw : r.whiteout = true) :
    headStat d (r :: rest) = none := by rw [headStat_cons, hw]; rfl

/-- what LOOKUP answers for a path according to the disk -/
def specStat (d : Disk) (p : Path) : Option Node := headStat d (expReals d p)

theorem specStat_eq (d : Disk) (p : Path) : specStat d p = headStat d (expReals d p) := rfl

def viewOfStat : Option Node → VNode
  | some n => n.view
  | none => .none

/-- on real inodes: the SPEC at a path is the view of what LOOKUP answers -/
theorem merge_eq_specStat (d : Disk) (hr : d.RootsOK) (p : Path) : merge d p = viewOfStat (specStat d p) := by
  rw [merge_eq_head, specStat, expReals_eq d hr]
  cases h : expIdx d p with
  | nil => rfl
  | cons i rest =>
    simp only [List.map_cons, realOf, headStat]
    by_cases hw : (d.nodeAt i p).isWhiteout = true
    · simp only [hw, if_true, viewOfStat]
      cases hn : d.nodeAt i p <;> simp_all [Node.isWhiteout, Node.view]
    · simp only [Bool.not_eq_true] at hw
      simp [hw, viewOfStat, Disk.statReal]

/-- below a path where the kept stack offers no directory nothing is kept -/
theorem expReals_below_leaf {d : Disk} {p : Path} (h : takeDirs d (expReals d p) = []) (c : Name) :
    expReals d (c :: p) = [] := by
  simp [expReals, h, newFromReals]

theorem takeDirs_nondir {d : Disk} {r : Real} (rest : List Real) (h : (d.statReal r).isDir = false) :
    takeDirs d (r :: rest) = [] := by
  simp [takeDirs, h]

theorem specStat_below (d : Disk) (n : Name) (pp : Path)
    (h : ∀ st, specStat d pp = some st → st.isDir = false) : specStat d (n :: pp) = none := by
  have htd : takeDirs d (expReals d pp) = [] := by
    cases hl : expReals d pp with
    | nil => rfl
    | cons r rest =>
      unfold takeDirs
      by_cases hw : r.whiteout = true
      · simp [hw]
      · simp only [Bool.not_eq_true] at hw
        have := h (d.statReal r) (by simp [specStat, headStat, hl, hw])
        simp [hw, this]
  rw [specStat, expReals_below_leaf htd]; rfl

/-- a real inode whose cached `opaque` flag was taken before `set_opaque` ran (do_mkdir) -/
def staleOf (e : Real) : Real := { e with opq := false }

/-- the node's real inodes are the ones the disk dictates, except that the single real inode of
    a directory made by do_mkdir (always in the upper layer) may carry a stale `opaque = false` -/
def RealsOK (d : Disk) (p : Path) (rs : List Real) : Prop :=
  rs = expReals d p ∨ ∃ e, expReals d p = [e] ∧ e.inUpper = true ∧ rs = [staleOf e]

def headWhiteout : List Real → Bool
  | r :: _ => r.whiteout
  | [] => false

/-- a stack that must have a node in a loaded parent: something visible, or an upper whiteout
    (a name hidden by a LOWER whiteout may have no node: `do_rm` drops the node in that case) -/
def needsNode : List Real → Bool
  | r :: _ => !r.whiteout || r.inUpper
  | [] => false

structure Consistent (s : St) : Prop where
  roots : s.disk.RootsOK
  trees : s.disk.TreesOK
  root : ∃ m, s.mem [] = some m
  reals : ∀ p m, s.mem p = some m → RealsOK s.disk p m.reals
  wh : ∀ p m, s.mem p = some m → m.whiteout = headWhiteout m.reals
  /-- a loaded directory lists only names that have real inodes, and every name that is visible
      or whited out in the upper layer -/
  kidsLoaded : ∀ p m, s.mem p = some m → m.loaded = true → ∀ n,
    (n ∈ m.kids → expReals s.disk (n :: p) ≠ []) ∧ (needsNode (expReals s.disk (n :: p)) = true → n ∈ m.kids)
  kidsMem : ∀ p m n, s.mem p = some m → n ∈ m.kids → ∃ c, s.mem (n :: p) = some c
  unloaded : ∀ p m, s.mem p = some m → m.loaded = false → m.kids = []
  reach : ∀ n p c, s.mem (n :: p) = some c → ∃ pm, s.mem p = some pm ∧ n ∈ pm.kids

/-- what the cache invariant says at the path `p`: about the node there and about which names below it
    have nodes; it reads the forest at `p`, which of the `n :: p` have a node, and what the code keeps at
    `p` and at the `n :: p` -/
structure PathOK (d : Disk) (mem : Mem) (p : Path) : Prop where
  node : ∀ m, mem p = some m →
    RealsOK d p m.reals ∧ m.whiteout = headWhiteout m.reals ∧ (m.loaded = false → m.kids = [])
  kidsLoaded : ∀ m, mem p = some m → m.loaded = true → ∀ n,
    (n ∈ m.kids → expReals d (n :: p) ≠ []) ∧ (needsNode (expReals d (n :: p)) = true → n ∈ m.kids)
  kids : ∀ n, (∃ c, mem (n :: p) = some c) ↔ ∃ m, mem p = some m ∧ n ∈ m.kids

theorem Consistent.path {s : St} (hc : Consistent s) (p : Path) : PathOK s.disk s.mem p :=
  ⟨fun m hm => ⟨hc.reals p m hm, hc.wh p m hm, hc.unloaded p m hm⟩, hc.kidsLoaded p,
    fun n => ⟨fun ⟨c, h⟩ => hc.reach n p c h, fun ⟨m, hm, hn⟩ => hc.kidsMem p m n hm hn⟩⟩

theorem Consistent.of_paths {s : St} (roots : s.disk.RootsOK) (trees : s.disk.TreesOK) (root : ∃ m, s.mem [] = some m)
    (h : ∀ p, PathOK s.disk s.mem p) : Consistent s :=
  ⟨roots, trees, root, fun p m hm => ((h p).node m hm).1, fun p m hm => ((h p).node m hm).2.1,
    fun p => (h p).kidsLoaded, fun p m n hm hn => ((h p).kids n).2 ⟨m, hm, hn⟩,
    fun p m hm => ((h p).node m hm).2.2, fun n p c hc => ((h p).kids n).1 ⟨c, hc⟩⟩

theorem Consistent.listed {s : St} (hc : Consistent s) {n : Name} {pp : Path} {pm m : MNode}
    (hpm : s.mem pp = some pm) (hm : s.mem (n :: pp) = some m) : n ∈ pm.kids := by
  obtain ⟨pm', hpm', hn⟩ := hc.reach n pp m hm
  rw [hpm] at hpm'; cases hpm'
  exact hn

/-- a node that lists no names has no child in the forest -/
theorem Consistent.no_child {s : St} (hc : Consistent s) {p : Path} {m : MNode} (hm : s.mem p = some m)
    (hk : m.kids = []) (c : Name) : s.mem (c :: p) = none := by
  cases hx : s.mem (c :: p) with
  | none => rfl
  | some cm =>
    have hn := hc.listed hm hx
    rw [hk] at hn; cases hn

/-- the invariant at `p` carries over when nothing it reads has changed -/
theorem PathOK.frame {d d' : Disk} {mem mem' : Mem} {p : Path} (h : PathOK d mem p) (hm : mem' p = mem p)
    (hk : ∀ n, (∃ c, mem' (n :: p) = some c) ↔ ∃ c, mem (n :: p) = some c)
    (hr : expReals d' p = expReals d p) (hrk : ∀ n, expReals d' (n :: p) = expReals d (n :: p)) : PathOK d' mem' p := by
  refine ⟨fun m hm' => ?_, fun m hm' hl n => ?_, fun n => ?_⟩
  · have := h.node m (hm ▸ hm')
    unfold RealsOK at this ⊢
    rw [hr]; exact this
  · rw [hrk]; exact h.kidsLoaded m (hm ▸ hm') hl n
  · rw [hk, hm]; exact h.kids n

theorem lookupChild_stale (d : Disk) (e : Real) (n : Name) :
    lookupChild d (staleOf e) n = lookupChild d e n := rfl

theorem takeDirs_single_stale (d : Disk) (e : Real) (n : Name) :
    (takeDirs d [staleOf e]).filterMap (lookupChild d · n) = (takeDirs d [e]).filterMap (lookupChild d · n) := by
  have h1 : takeDirs d [staleOf e] = (takeDirs d [e]).map staleOf := by
    simp only [takeDirs, Disk.statReal]
    by_cases hw : e.whiteout = true
    · simp [hw, staleOf]
    · simp only [Bool.not_eq_true] at hw
      by_cases hd : (d.nodeAt e.layer e.path).isDir = true
      · by_cases ho : e.opq = true <;> simp [hw, hd, ho, staleOf]
      · simp only [Bool.not_eq_true] at hd
        simp [hw, hd, staleOf]
  rw [h1, List.filterMap_map]
  rfl

theorem scan_cands (d : Disk) (p : Path) (rs : List Real) (n : Name) (h : RealsOK d p rs) :
    (takeDirs d rs).filterMap (lookupChild d · n) =
      (takeDirs d (expReals d p)).filterMap (lookupChild d · n) := by
  rcases h with h | ⟨e, he, _, h⟩
  · rw [h]
  · rw [h, he, takeDirs_single_stale]

/-- below a node the code keeps what scanning the node's own real inodes (`scan_childrens`) gives -/
theorem expReals_child {d : Disk} {p : Path} {rs : List Real} (h : RealsOK d p rs) (n : Name) :
    expReals d (n :: p) = match newFromReals d ((takeDirs d rs).filterMap (lookupChild d · n)) with
      | some k => k.reals
      | none => [] := by
  rw [scan_cands d p rs n h]; rfl

/-- the node `new_from_real_inodes` builds from the expected real inodes -/
def freshNode (rs : List Real) : MNode := { reals := rs, whiteout := headWhiteout rs, loaded := false, kids := [] }

/-- `new_from_real_inodes` makes no node of no real inodes, and otherwise the fresh node of the real inodes it keeps -/
theorem newFromReals_eq (d : Disk) (l : List Real) :
    newFromReals d l = match (match newFromReals d l with | some k => k.reals | none => []) with
      | [] => none
      | rs => some (freshNode rs) := by
  cases l with
  | nil => rfl
  | cons r rest =>
    simp only [newFromReals]
    split
    · simp [freshNode, headWhiteout]
    · rename_i h
      simp only [Bool.or_eq_true, not_or, Bool.not_eq_true] at h
      simp [freshNode, headWhiteout, h.1.1]

/-- the child `scan_childrens` produces for name `n` -/
theorem scanChild (d : Disk) (p : Path) (m : MNode) (n : Name) (h : RealsOK d p m.reals) :
    newFromReals d ((takeDirs d m.reals).filterMap (lookupChild d · n)) =
      (if expReals d (n :: p) = [] then none else some (freshNode (expReals d (n :: p)))) := by
  rw [scan_cands d p m.reals n h, newFromReals_eq]
  show (match expReals d (n :: p) with | [] => none | rs => some (freshNode rs)) = _
  cases expReals d (n :: p) <;> simp

theorem lookup_filterMap_key {β : Type} (f : Name → Option β) (n : Name) : ∀ l : List Name,
    (l.filterMap fun a => (f a).map fun k => (a, k)).lookup n = if n ∈ l then f n else none
  | [] => rfl
  | a :: rest => by
    rw [List.filterMap_cons]
    by_cases hna : n = a
    · subst hna
      cases hk : f n with
      | none => simp [lookup_filterMap_key f n rest, hk]
      | some k => simp
    · cases hk : f a with
      | none => simp [lookup_filterMap_key f n rest, hna]
      | some k =>
        have : (n == a) = false := by simpa using hna
        simp [List.lookup_cons, lookup_filterMap_key f n rest, hna, this]

theorem scanKids_lookup (d : Disk) (p : Path) (m : MNode) (n : Name) (h : RealsOK d p m.reals) :
    (scanKids d m).lookup n =
      (if expReals d (n :: p) = [] then none else some (freshNode (expReals d (n :: p)))) := by
  unfold scanKids
  rw [lookup_filterMap_key, if_pos (mem_names n), scanChild d p m n h]

theorem scanKids_names (d : Disk) (p : Path) (m : MNode) (n : Name) (h : RealsOK d p m.reals) :
    n ∈ (scanKids d m).map (·.1) ↔ expReals d (n :: p) ≠ [] := by
  have : ((scanKids d m).lookup n).isSome ↔ expReals d (n :: p) ≠ [] := by
    rw [scanKids_lookup d p m n h]
    split <;> simp [*]
  rw [← this, List.lookup_isSome_iff, List.mem_map]
  exact ⟨fun ⟨x, hx, hn⟩ => ⟨x, hx, beq_iff_eq.2 hn.symm⟩, fun ⟨x, hx, hn⟩ => ⟨x, hx, (beq_iff_eq.1 hn).symm⟩⟩

theorem insertKids_apply (d : Disk) (mem : Mem) (p : Path) (m : MNode) (h : RealsOK d p m.reals)
    (n : Name) (q : Path) :
    insertKids mem p (scanKids d m) (n :: q) =
      if q = p then
        (if expReals d (n :: p) = [] then mem (n :: q) else some (freshNode (expReals d (n :: p))))
      else mem (n :: q) := by
  simp only [insertKids]
  by_cases hq : q = p
  · subst hq
    simp only [if_true, scanKids_lookup d q m n h]
    by_cases he : expReals d (n :: q) = [] <;> simp [he]
  · simp [hq]

theorem addNames_nil (l : List Name) : addNames [] l = l := by simp [addNames]

theorem ne_cons_cons_self {α : Type} (a b : α) (l : List α) : l ≠ a :: b :: l := by
  intro h
  have := congrArg List.length h
  simp at this
  omega

theorem loaded_consistent {s s' : St} (hc : Consistent s) {p : Path} {m : MNode} (hm : s.mem p = some m)
    (hl : m.loaded = false) (hd : s'.disk = s.disk) (hmem : s'.mem = loadedMem s.disk s.mem p m) :
    Consistent s' := by
  have hr := hc.reals p m hm
  have hk0 : m.kids = [] := hc.unloaded p m hm hl
  have hkids := fun n => scanKids_names s.disk p m n hr
  have hnochild := hc.no_child hm hk0
  -- the forest after loading, pointwise
  have hp : s'.mem p = some { m with loaded := true, kids := (scanKids s.disk m).map (·.1) } := by
    simp [hmem, loadedMem, Mem.set, hk0, addNames_nil]
  have hchild : ∀ n, s'.mem (n :: p) =
      if expReals s.disk (n :: p) = [] then none else some (freshNode (expReals s.disk (n :: p))) := by
    intro n
    simp only [hmem, loadedMem, Mem.set, if_neg (List.cons_ne_self n p), insertKids_apply s.disk s.mem p m hr, if_true,
      hnochild]
  have hother : ∀ q, q ≠ p → (∀ n, q ≠ n :: p) → s'.mem q = s.mem q := by
    intro q h1 h2
    simp only [hmem, loadedMem, Mem.set, if_neg h1]
    cases q with
    | nil => rfl
    | cons n q' => rw [insertKids_apply s.disk s.mem p m hr, if_neg fun h => h2 n (by rw [h])]
  refine Consistent.of_paths (hd ▸ hc.roots) (hd ▸ hc.trees) ?_ fun q => ?_
  · obtain ⟨m0, hm0⟩ := hc.root
    by_cases hp0 : p = []
    · exact ⟨_, hp0 ▸ hp⟩
    · exact ⟨m0, by rw [hother [] (Ne.symm hp0) (fun n h => by cases h)]; exact hm0⟩
  rw [hd]
  by_cases h1 : q = p
  · -- the loaded node lists the names that have real inodes, and those have got nodes
    subst h1
    refine ⟨fun m' hm' => ?_, fun m' hm' _ n => ?_, fun n => ?_⟩
    · rw [hp] at hm'; cases hm'
      exact ⟨hr, hc.wh _ m hm, fun h => by cases h⟩
    · rw [hp] at hm'; cases hm'
      exact ⟨(hkids n).1, fun hsp => (hkids n).2 fun he => by rw [he] at hsp; cases hsp⟩
    · rw [hchild, hp]
      by_cases he : expReals s.disk (n :: q) = [] <;> simp [he, hkids n]
  · by_cases h2 : ∃ n, q = n :: p
    · -- a scanned child: a fresh node, nothing below it
      obtain ⟨n, rfl⟩ := h2
      have hnone : ∀ c, s'.mem (c :: n :: p) = none := fun c => by
        rw [hother _ (ne_cons_cons_self c n p).symm fun n' h => List.cons_ne_self n p (List.cons.inj h).2]
        cases hx : s.mem (c :: n :: p) with
        | none => rfl
        | some cm =>
          obtain ⟨pm, hpm, _⟩ := hc.reach c (n :: p) cm hx
          rw [hnochild] at hpm; cases hpm
      refine ⟨fun m' hm' => ?_, fun m' hm' hlo c => ?_, fun c => ?_⟩
      · rw [hchild] at hm'
        split at hm' <;> cases hm'
        exact ⟨Or.inl rfl, rfl, fun _ => rfl⟩
      · rw [hchild] at hm'
        split at hm' <;> cases hm'
        cases hlo
      · rw [hnone, hchild]
        split <;> simp [freshNode]
    · -- any other path: nothing read there has changed
      refine (hc.path q).frame (hother q h1 fun n h => h2 ⟨n, h⟩) (fun c => ?_) rfl fun _ => rfl
      by_cases h3 : c :: q = p
      · rw [h3]; exact ⟨fun _ => ⟨m, hm⟩, fun _ => ⟨_, hp⟩⟩
      · rw [hother (c :: q) h3 fun n h => h1 (List.cons.inj h).2]

end Fbr.Ovl
