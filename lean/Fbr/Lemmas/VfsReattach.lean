/-
  C19: the extra invariants needed to re-attach backends after a restore (backends in the table
  did mount successfully, every mount point is a pseudo node and its recorded path resolves to it),
  their preservation, and the theorem that save + restore + re-attach gives the state back: after the
  mount points below `k` the loop stands at `below s k`, a function of the original state.
-/
import Fbr.Vfs
import Fbr.Persist
import Fbr.Lemmas.VfsStep
import Fbr.Lemmas.VfsInv
import Fbr.Lemmas.VfsMap
import Fbr.Lemmas.VfsPseudo
import Fbr.Lemmas.VfsPath
import Fbr.Lemmas.VfsPersist

namespace Fbr.Lemmas.VfsReattach
open Fbr.Vfs Fbr.Persist Fbr.Lemmas.VfsStep Fbr.Lemmas.VfsInv Fbr.Lemmas.VfsMap Fbr.Lemmas.VfsPseudo
open Fbr.Lemmas.VfsPath Fbr.Lemmas.VfsPersist

structure XInv (s : State) : Prop where
  bkOk : ∀ i b, s.supers i = some b → b.mountErr = none ∧ b.maxIno ≤ VFS_MAX_INO
  mntNode : ∀ p m, s.mnts p = some m → ∃ n ∈ s.pseudo.nodes, n.ino = p
  pathOk : ∀ p m, s.mnts p = some m → ∃ comps, components m.path = some comps ∧ s.pseudo.pathWalk 1 comps = some (some p)

theorem xinv_new (opts : Opts) (rm : Bool) : XInv (State.new opts rm) := by
  refine ⟨?_, ?_, ?_⟩ <;> intro a b h <;> simp [State.new] at h

theorem xinv_grow {s : State} (hx : XInv s) (hwf : WF s.pseudo) {p' : Pseudo} (hwf' : WF p') (he : Ext s.pseudo p') :
    XInv { s with pseudo := p' } := by
  refine ⟨hx.bkOk, ?_, ?_⟩
  · intro p m hm
    obtain ⟨n, hn, hni⟩ := hx.mntNode p m hm
    obtain ⟨n', hn', a, _⟩ := he n hn
    exact ⟨n', hn', by rw [a, hni]⟩
  · intro p m hm
    obtain ⟨comps, hc, hw⟩ := hx.pathOk p m hm
    exact ⟨comps, hc, pathWalk_ext comps s.pseudo p' 1 p hwf hwf' he (root_mem hwf) hw⟩

theorem prim_xinv {map : Option Map} {s t : State} (hp : PInv s) (hx : XInv s) (hprim : Prim map s t) : XInv t := by
  have hwf := hp.wf
  cases hprim with
  | frame next o i hn => exact ⟨hx.bkOk, hx.mntNode, hx.pathOk⟩
  | setMap idx hvac hlt => exact ⟨hx.bkOk, hx.mntNode, hx.pathOk⟩
  | ins b idx path hb hvac h0 hlt hi =>
    cases hi with
    | walkPanic | entryPanic | relative => exact hx
    | badRoot comps p' inode n hw =>
      obtain ⟨hwf', _, he, _⟩ := mountWalk_result hwf hw
      exact xinv_grow hx hwf hwf' he
    | done comps p' inode ent hc hw he =>
      obtain ⟨hwf', hmem, he, hres⟩ := mountWalk_result hwf hw
      have hg := xinv_grow hx hwf hwf' he
      refine ⟨?_, ?_, ?_⟩
      · intro i b' hb'
        rcases upd_some hb' with ⟨_, hv⟩ | ⟨_, hb'⟩
        · cases hv; exact hb
        · exact hx.bkOk i b' (dropOld_some hb')
      · intro p m hm
        rcases upd_some hm with ⟨rfl, _⟩ | ⟨_, hm⟩
        · exact hmem
        · exact hg.mntNode p m hm
      · intro p m hm
        rcases upd_some hm with ⟨rfl, hv⟩ | ⟨_, hm⟩
        · cases hv
          exact ⟨comps, hc, hres⟩
        · exact hg.pathOk p m hm
  | remove inode m0 pseudo hm0 hev =>
    rw [hev hp.norm]
    exact ⟨fun i b hb => hx.bkOk i b (upd_none_some hb).2, fun p m hm => hx.mntNode p m (upd_none_some hm).2,
      fun p m hm => hx.pathOk p m (upd_none_some hm).2⟩

/-- the live mount at pseudo inode `pino`, as `liveMounts` lists it -/
def liveAt (s : State) (pino : Nat) : Option (Mnt × Bk) :=
  (s.mnts pino).bind fun m => (s.supers m.idx).map fun b => (m, b)

theorem liveMounts_eq (s : State) : liveMounts s = (List.range' 0 s.pseudo.nextInode).filterMap (liveAt s) := by
  unfold liveMounts liveAt
  rw [List.range_eq_range']

/-- what `restore_from_bytes` produces from the snapshot of `s` -/
def restored0 (s : State) : State :=
  { supers := fun _ => none, mnts := fun _ => none, pseudo := s.pseudo, nextSuper := s.nextSuper,
    mountMaps := fun i => ((loadMaps (save s) false)[i]?).join, globalMap := s.globalMap, opts := s.opts,
    initialized := decide (s.opts.inOpts ≠ 0), rmRoot := s.rmRoot }

theorem restore_eq {s : State} (hp : PInv s) : restore s.globalMap s.rmRoot (save s) false = some (restored0 s) := by
  have hpseudo : restorePseudo (save s).nextInode (save s).inodes = some s.pseudo := restorePseudo_save hp.wf
  unfold restore
  rw [hpseudo]
  rfl

/-- `t` is `s` with only the mount points below `k` (and their slots) attached -/
structure Agree (s t : State) (k : Nat) : Prop where
  pseudo : t.pseudo = s.pseudo
  maps : t.mountMaps = s.mountMaps
  gmap : t.globalMap = s.globalMap
  opts : t.opts = s.opts
  init : t.initialized = s.initialized
  rm : t.rmRoot = s.rmRoot
  next : t.nextSuper = s.nextSuper
  mnts : ∀ p, t.mnts p = if p < k then s.mnts p else none
  supers : ∀ i, (∃ p m, p < k ∧ s.mnts p = some m ∧ m.idx = i) → t.supers i = s.supers i
  supersNone : ∀ i, (¬ ∃ p m, p < k ∧ s.mnts p = some m ∧ m.idx = i) → t.supers i = none

/-- `s` with only the mount points below `k`, and their slots, attached -/
def below (s : State) (k : Nat) : State :=
  { s with mnts := fun p => if p < k then s.mnts p else none,
           supers := fun i => if ∃ p, p < k ∧ (s.mnts p).map (·.idx) = some i then s.supers i else none }

theorem below_skip {s : State} {k : Nat} (hk : s.mnts k = none) : below s (k + 1) = below s k := by
  unfold below
  congr 1
  · funext i
    simp only [Nat.exists_lt_succ_right, hk, Option.map_none, reduceCtorEq, or_false]
  · funext p
    by_cases hp : p = k
    · subst hp; simp [hk]
    · have : p < k + 1 ↔ p < k := by omega
      simp only [this]

theorem below_attach {s : State} {k : Nat} {m : Mnt} (hk : s.mnts k = some m) :
    below s (k + 1) =
      { below s k with supers := upd (below s k).supers m.idx (s.supers m.idx), mnts := upd (below s k).mnts k (some m) } := by
  unfold below
  congr 1
  · funext i
    simp only [Nat.exists_lt_succ_right, hk, Option.map_some, Option.some.injEq, upd]
    by_cases hi : i = m.idx
    · subst hi; simp
    · have : ¬ m.idx = i := fun h => hi h.symm
      simp only [this, or_false, hi, if_false]
  · funext p
    unfold upd
    by_cases hp : p = k
    · subst hp; simp [hk]
    · have : p < k + 1 ↔ p < k := by omega
      simp only [this, hp, if_false]

theorem restored0_below {s : State} (hp : PInv s) (hinit : s.initialized = decide (s.opts.inOpts ≠ 0)) :
    restored0 s = below s 0 := by
  unfold restored0 below
  rw [loadMaps_save s hp.range, ← hinit]
  congr 1 <;> funext x <;> simp

theorem below_all {s : State} (hi : Inv s) {n : Nat} (hlt : ∀ p m, s.mnts p = some m → p < n) : below s n = s := by
  have hm : (fun p => if p < n then s.mnts p else none) = s.mnts := by
    funext p
    by_cases h : p < n
    · exact if_pos h
    · rw [if_neg h]
      cases hm : s.mnts p with
      | none => rfl
      | some m => exact absurd (hlt p m hm) h
  have hs : (fun i => if ∃ p, p < n ∧ (s.mnts p).map (·.idx) = some i then s.supers i else none) = s.supers := by
    funext i
    cases hs : s.supers i with
    | none => exact ite_self _
    | some b =>
      obtain ⟨p, m, hm, hmi⟩ := hi.occ i b hs
      exact if_pos ⟨p, hlt p m hm, by rw [hm, ← hmi]; rfl⟩
  unfold below
  rw [hm, hs]

/-- the step of the loop: the recorded path resolves without creating anything (`XInv.pathOk`) and the record
    stored is the original one (`MapInv.rootEntry`) -/
theorem restoreMount_below {s : State} {k : Nat} (hm : MapInv s) (hw : WF s.pseudo) (hx : XInv s)
    {m : Mnt} {b : Bk} (hmk : s.mnts k = some m) (hb : s.supers m.idx = some b) (hbid : b.id = m.bk) :
    (below s k).restoreMount b m.idx m.path = (below s (k + 1), .unit, [mountCall b]) := by
  obtain ⟨hme, hmax⟩ := hx.bkOk _ _ hb
  obtain ⟨comps, hcomps, hwalk⟩ := hx.pathOk k m hmk
  have hmw : (below s k).pseudo.mountWalk 1 comps = some (s.pseudo, k) :=
    mountWalk_of_pathWalk comps s.pseudo 1 k hw (root_mem hw) hwalk
  obtain ⟨hmap, hino, hce⟩ := hm.rootEntry hmk hb
  have hce' : ({ below s k with pseudo := s.pseudo }).convertEntry m.idx b.rootIno b.rootEnt = some (.ok m.rootEntry) := hce
  have htk : (below s k).mnts k = none := if_neg (Nat.lt_irrefl k)
  have hrec : ({ idx := m.idx, ino := b.rootIno, rootEntry := m.rootEntry, path := m.path, bk := b.id,
                 map := (below s k).mountMaps m.idx } : Mnt) = m := by
    show ({ idx := m.idx, ino := b.rootIno, rootEntry := m.rootEntry, path := m.path, bk := b.id, map := s.mountMaps m.idx } : Mnt) = m
    rw [hmap, ← hino, hbid]
  have hnot : ¬ b.maxIno > VFS_MAX_INO := by omega
  rw [below_attach hmk, hb]
  unfold State.restoreMount
  simp only [hme, hnot, if_false]
  unfold State.insertMountLocked
  simp only [hcomps, hmw, hce', htk, hrec]
  rfl

theorem reattach_below {s : State} (hi : Inv s) (hm : MapInv s) (hw : WF s.pseudo) (hx : XInv s) :
    ∀ (len k : Nat), ∃ calls,
      reattach (below s k) ((List.range' k len).filterMap (liveAt s)) = (below s (k + len), calls, none) := by
  intro len
  induction len with
  | zero => intro k; exact ⟨[], rfl⟩
  | succ n ih =>
    intro k
    rw [List.range'_succ, List.filterMap_cons, show k + (n + 1) = k + 1 + n by omega]
    obtain ⟨calls, hr⟩ := ih (k + 1)
    cases hmk : s.mnts k with
    | none =>
      have hl : liveAt s k = none := by simp [liveAt, hmk]
      simp only [hl]
      exact ⟨calls, below_skip hmk ▸ hr⟩
    | some m =>
      obtain ⟨b, hb, hbid⟩ := hi.slot k m hmk
      have hl : liveAt s k = some (m, b) := by simp [liveAt, hmk, hb]
      simp only [hl]
      exact ⟨[mountCall b] ++ calls, by simp only [reattach, restoreMount_below hm hw hx hmk hb hbid, hr]⟩

theorem saveRestore_identity {s : State} (hi : Inv s) (hm : MapInv s) (hp : PInv s) (hx : XInv s)
    (hinit : s.initialized = decide (s.opts.inOpts ≠ 0)) :
    (saveRestore s .same).1 = s ∧ (saveRestore s .same).2.1 = .unit := by
  obtain ⟨calls, hr⟩ := reattach_below hi hm hp.wf hx s.pseudo.nextInode 0
  have hall : below s (0 + s.pseudo.nextInode) = s := below_all hi fun p m hm => by
    obtain ⟨n, hn, hni⟩ := hx.mntNode p m hm
    rw [Nat.zero_add, ← hni]; exact hp.wf.bound n hn
  unfold saveRestore
  have hd : decide (RMode.same = RMode.v1) = false := by decide
  simp only [hd, Bool.false_eq_true, if_false, restore_eq hp, restored0_below hp hinit, liveMounts_eq, hr, hall]
  exact ⟨trivial, trivial⟩

end Fbr.Lemmas.VfsReattach
