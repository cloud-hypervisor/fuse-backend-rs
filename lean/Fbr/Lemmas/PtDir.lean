/-
  C16, record level: positions in a host directory, `getdents`, and the fetch phase of `do_readdir`
  — positioning by cached cookie, `lseek64` or linear scan, then the dot-only refetch loop.  The
  phase ends in `Post`: the batch handed to the record loop is cut from what follows the requested
  cookie, after "." / ".." records only.  For the linear scan one lemma (`scan_ahead`) gives both that
  and the converse: it fails with `EINVAL` when a record up to the requested one does not fit a batch.
-/
import Fbr.PtDir

namespace Fbr.Lemmas.PtDir
open Fbr.PtDir Fbr.Wire

theorem upd_same {α : Type} (f : Nat → α) (i : Nat) (v : α) : upd f i v i = v := if_pos rfl

theorem upd_other {α : Type} (f : Nat → α) {i j : Nat} (v : α) (h : j ≠ i) : upd f i v j = f j := if_neg h

structure WF (d : Dir) : Prop where
  nodup : (d.map (·.cookie)).Nodup
  nonzero : ∀ e ∈ d, e.cookie ≠ 0
  nonul : ∀ e ∈ d, ∀ b ∈ e.name, b ≠ 0

/-- a descriptor on `d` at position `c` has `rest` still to read -/
def Pos (d : Dir) (c : Nat) (rest : Dir) : Prop :=
  (c = 0 ∧ rest = d) ∨ (∃ pre e, d = pre ++ e :: rest ∧ e.cookie = c)

theorem skipL_append (pre : Dir) (e : HEnt) (rest : Dir) (c : Nat)
    (hpre : ∀ x ∈ pre, x.cookie ≠ c) (he : e.cookie = c) :
    skipToCookieL (pre ++ e :: rest) c = some rest := by
  induction pre with
  | nil => simp [skipToCookieL, he]
  | cons x xs ih =>
    have hx : x.cookie ≠ c := hpre x (by simp)
    simp only [List.cons_append, skipToCookieL, hx, if_false]
    exact ih (fun y hy => hpre y (by simp [hy]))

theorem skipL_eq_none (b : Dir) (c : Nat) : skipToCookieL b c = none ↔ ∀ x ∈ b, x.cookie ≠ c := by
  fun_induction skipToCookieL b c
  · simp
  -- the first record carries the cookie
  · simp
  next hx ih => simp [hx, ih]

theorem skipL_some (b : Dir) (c : Nat) (r : Dir) :
    skipToCookieL b c = some r → ∃ pre e, b = pre ++ e :: r ∧ e.cookie = c ∧ ∀ x ∈ pre, x.cookie ≠ c := by
  fun_induction skipToCookieL b c
  · intro h; cases h
  -- the first record carries the cookie
  next x _ => intro h; cases h; exact ⟨[], x, rfl, rfl, by simp⟩
  -- it does not: the search goes on behind it
  next x xs c hx ih =>
    intro h
    obtain ⟨pre, e, h1, h2, h3⟩ := ih h
    exact ⟨x :: pre, e, by simp [h1], h2, fun y hy => (List.mem_cons.mp hy).elim (· ▸ hx) (h3 y)⟩

theorem nodup_pre {d pre : Dir} {e : HEnt} {rest : Dir} (hn : (d.map (·.cookie)).Nodup)
    (hd : d = pre ++ e :: rest) : ∀ x ∈ pre, x.cookie ≠ e.cookie := by
  subst hd
  intro x hx heq
  simp only [List.map_append, List.map_cons] at hn
  exact (List.nodup_append.mp hn).2.2 x.cookie (List.mem_map.mpr ⟨x, hx, rfl⟩) e.cookie (by simp) heq

theorem after_of_pos {d : Dir} (wf : WF d) {c : Nat} {rest : Dir} (hp : Pos d c rest) : after d c = rest := by
  rcases hp with ⟨h0, hr⟩ | ⟨pre, e, hd, hc⟩
  · subst h0; subst hr; simp [after]
  · have hne : c ≠ 0 := by
      rw [← hc]; exact wf.nonzero e (by rw [hd]; simp)
    have hpre : ∀ x ∈ pre, x.cookie ≠ c := by rw [← hc]; exact nodup_pre wf.nodup hd
    simp only [after, hne, if_false]
    rw [hd, skipL_append pre e rest c hpre hc]
    rfl

theorem pos_skip {d : Dir} {c : Nat} {A B : Dir} {e : HEnt} (hp : Pos d c (A ++ e :: B)) : Pos d e.cookie B := by
  rcases hp with ⟨_, hr⟩ | ⟨pre, x, hd, _⟩
  · exact Or.inr ⟨A, e, hr.symm, rfl⟩
  · exact Or.inr ⟨pre ++ x :: A, e, by rw [hd]; simp, rfl⟩

theorem pos_advance {d : Dir} {c : Nat} {b t : Dir} (hp : Pos d c (b ++ t)) (hb : b ≠ []) :
    Pos d (b.getLast hb).cookie t := by
  rw [← List.dropLast_concat_getLast hb, List.append_assoc] at hp
  exact pos_skip hp

theorem pos_suffix {d : Dir} {c : Nat} {rest : Dir} (hp : Pos d c rest) : ∃ pre, d = pre ++ rest := by
  rcases hp with ⟨_, hr⟩ | ⟨pre, x, hd, _⟩
  · exact ⟨[], hr.symm⟩
  · exact ⟨pre ++ [x], by rw [hd]; simp⟩

theorem pos_sub {d : Dir} {c : Nat} {rest : Dir} (hp : Pos d c rest) : ∀ e ∈ rest, e ∈ d := by
  obtain ⟨pre, hd⟩ := pos_suffix hp
  intro e he; rw [hd]; exact List.mem_append_right _ he

theorem pos_length {d : Dir} {c : Nat} {rest : Dir} (hp : Pos d c rest) : rest.length ≤ d.length := by
  obtain ⟨pre, hd⟩ := pos_suffix hp
  rw [hd, List.length_append]; omega

theorem fitPrefix_prefix (size : Nat) (l : Dir) : ∃ t, l = fitPrefix size l ++ t := by
  fun_induction fitPrefix size l
  · exact ⟨[], rfl⟩
  -- the first record fits
  next ih => obtain ⟨t, ht⟩ := ih; exact ⟨t, by simp [← ht]⟩
  -- it does not: the batch ends before it
  next e r _ => exact ⟨e :: r, rfl⟩

theorem fitPrefix_ne_nil (size : Nat) (e : HEnt) (r : Dir) (h : reclen e ≤ size) : fitPrefix size (e :: r) ≠ [] := by
  simp [fitPrefix, h]

theorem fitPrefix_fits (size : Nat) (l : Dir) : ∀ e ∈ fitPrefix size l, reclen e ≤ size := by
  fun_induction fitPrefix size l
  · intro e he; cases he
  -- the first record fits: the others are measured against what is left of `size`
  next size x r hx ih =>
    intro e he
    rcases List.mem_cons.mp he with h | h
    · rw [h]; exact hx
    · exact Nat.le_trans (ih e h) (Nat.sub_le _ _)
  · intro e he; cases he

theorem lastCookieL_eq (b : Dir) (hb : b ≠ []) : lastCookieL b = some (b.getLast hb).cookie := by
  simp [lastCookieL, List.getLast?_eq_some_getLast hb]

theorem lastCookieL_append (a b : Dir) (hb : b ≠ []) : lastCookieL (a ++ b) = lastCookieL b := by
  obtain ⟨x, hx⟩ : ∃ x, b.getLast? = some x := ⟨_, List.getLast?_eq_some_getLast hb⟩
  simp [lastCookieL, hx]

theorem skipL_suffix_last (b : Dir) (c : Nat) (r : Dir) (h : skipToCookieL b c = some r) (hr : r ≠ []) :
    lastCookieL r = lastCookieL b := by
  obtain ⟨pre, e, hb, _, _⟩ := skipL_some b c r h
  rw [hb, List.append_cons, lastCookieL_append _ _ hr]

theorem getdentsFd_noquirk (H : Host) (hq : H.eofQuirk = false) (size : Nat) (fd : Fd) :
    getdentsFd H size fd =
      match getdents H.dir size fd.pos with
      | .error e => (.error e, { fd with fresh := false, stale := false })
      | .ok (b, p) => (.ok b, { pos := p, fresh := false, stale := false }) := by
  unfold getdentsFd
  simp only [hq, Bool.false_and, Bool.false_eq_true, if_false]
  cases getdents H.dir size fd.pos <;> rfl

theorem getdentsFd_at {H : Host} (wf : WF H.dir) (hq : H.eofQuirk = false) (size : Nat) {fd : Fd} {t : Dir}
    (hp : Pos H.dir fd.pos t) :
    (∀ e r, t = e :: r → reclen e > size → ∃ fd', getdentsFd H size fd = (.error EINVAL, fd')) ∧
    ((∀ e r, t = e :: r → reclen e ≤ size) →
      ∃ b t' fd', getdentsFd H size fd = (.ok b, fd') ∧ t = b ++ t' ∧ Pos H.dir fd'.pos t' ∧ (b = [] → t' = []) ∧
        ∀ e ∈ b, reclen e ≤ size) := by
  rw [getdentsFd_noquirk H hq]
  have ha := after_of_pos wf hp
  cases t with
  | nil =>
    refine ⟨fun _ _ h => (by cases h), fun _ => ?_⟩
    simp only [getdents, ha]
    exact ⟨[], [], _, rfl, rfl, hp, fun _ => rfl, fun _ h => (by cases h)⟩
  | cons e r =>
    refine ⟨fun _ _ h hgt => ?_, fun hfit => ?_⟩
    · cases h; simp only [getdents, ha, hgt, if_true]; exact ⟨_, rfl⟩
    · have hle := hfit e r rfl
      obtain ⟨t', ht⟩ := fitPrefix_prefix size (e :: r)
      have hne := fitPrefix_ne_nil size e r hle
      refine ⟨_, t', { pos := _, fresh := false, stale := false }, ?_, ht, pos_advance (ht ▸ hp) hne,
        fun h => absurd h hne, fitPrefix_fits size _⟩
      simp [getdents, ha, Nat.not_lt.mpr hle, lastCookieL_eq _ hne]

/-- what the refetch loop needs so that none of its `getdents64` fails with `EINVAL`: it reads on as
    long as a batch holds only "." / ".." records -/
def Fits (size : Nat) (rest : Dir) : Prop :=
  ∀ pre e r, rest = pre ++ e :: r → pre.all isDot = true → reclen e ≤ size

theorem Fits.head {size : Nat} {rest : Dir} (h : Fits size rest) : ∀ e r, rest = e :: r → reclen e ≤ size :=
  fun e r hr => h [] e r hr rfl

/-- the state after the fetch phase: `rest0` is what follows the requested cookie, `b` the batch handed
    to the record loop, `fd` the descriptor afterwards -/
def Post (d : Dir) (rest0 : Dir) (b : Dir) (fd : Fd) : Prop :=
  ∃ dots t, rest0 = dots ++ b ++ t ∧ dots.all isDot = true ∧ Pos d fd.pos t ∧ (b = [] → t = [])

theorem Post.here {d rest0 b t : Dir} {fd : Fd} (hs : rest0 = b ++ t) (hp : Pos d fd.pos t) (hb : b = [] → t = []) :
    Post d rest0 b fd :=
  ⟨[], t, hs, rfl, hp, hb⟩

theorem refetch_post {H : Host} (wf : WF H.dir) (hq : H.eofQuirk = false) (size : Nat) (rest0 : Dir)
    (hfits : Fits size rest0) :
    ∀ (fuel : Nat) (b : Dir) (fd : Fd) (dots t : Dir), rest0 = dots ++ b ++ t → dots.all isDot = true →
      Pos H.dir fd.pos t → (b = [] → t = []) → t.length < fuel →
      ∃ b' fd', refetch H size fuel b fd = (.ok b', fd') ∧ Post H.dir rest0 b' fd' ∧
        (onlyDotsL b' = true → b' = []) := by
  intro fuel
  induction fuel with
  | zero => intro b fd dots t _ _ _ _ hlt; omega
  | succ fuel ih =>
    intro b fd dots t hsplit hdots hp hbt hlt
    unfold refetch
    by_cases hcond : (!b.isEmpty && onlyDotsL b) = true
    · rw [if_pos hcond]
      simp only [Bool.and_eq_true, Bool.not_eq_true', List.isEmpty_eq_false_iff] at hcond
      -- `b` joins the skipped dots; the next batch is read from `t`
      have hdots' : (dots ++ b).all isDot = true := by rw [List.all_append, hdots]; exact hcond.2
      obtain ⟨b2, t2, fd2, hg, ht, hp2, hb2, _⟩ :=
        (getdentsFd_at wf hq size hp).2 fun e r ht => hfits (dots ++ b) e r (by rw [hsplit, ht]) hdots'
      have hsplit' : rest0 = dots ++ b ++ b2 ++ t2 := by rw [hsplit, ht]; simp
      rw [hg]
      by_cases hb2e : b2 = []
      · -- end of directory: the next round stops
        subst hb2e
        have : refetch H size fuel [] fd2 = (.ok [], fd2) := by cases fuel <;> simp [refetch]
        exact ⟨[], fd2, this, ⟨dots ++ b, t2, hsplit', hdots', hp2, hb2⟩, fun _ => rfl⟩
      · refine ih b2 fd2 (dots ++ b) t2 hsplit' hdots' hp2 (fun h => absurd h hb2e) ?_
        have : t.length = b2.length + t2.length := by rw [ht]; simp
        have : 0 < b2.length := List.length_pos_iff.mpr hb2e
        omega
    · rw [if_neg hcond]
      refine ⟨b, fd, rfl, ⟨dots, t, hsplit, hdots, hp, hbt⟩, fun hd => ?_⟩
      simpa [hd] using hcond

theorem getdentsFd_post {H : Host} (wf : WF H.dir) (hq : H.eofQuirk = false) {size : Nat} {rest0 : Dir} {fd : Fd}
    (hp : Pos H.dir fd.pos rest0) (hfit : ∀ e r, rest0 = e :: r → reclen e ≤ size) :
    ∃ b fd1, getdentsFd H size fd = (.ok b, fd1) ∧ Post H.dir rest0 b fd1 := by
  obtain ⟨b, t', fd', hg, ht, hp2, hb, _⟩ := (getdentsFd_at wf hq size hp).2 hfit
  exact ⟨b, fd', hg, .here ht hp2 hb⟩

theorem scan_found {H : Host} (wf : WF H.dir) (hq : H.eofQuirk = false) {size offset : Nat} {rest0 : Dir}
    (hfit : ∀ e r, rest0 = e :: r → reclen e ≤ size) (fuel : Nat) (fd : Fd)
    (hp : Pos H.dir fd.pos rest0) :
    ∃ b fd', scan H size offset (fuel + 1) fd true = (.ok b, fd') ∧ Post H.dir rest0 b fd' := by
  obtain ⟨b, fd', hg, hpost⟩ := getdentsFd_post wf hq hp hfit
  refine ⟨b, fd', ?_, hpost⟩
  unfold scan
  rw [hg]
  cases b <;> rfl

/-- the scan while the target `x` is ahead: it fails exactly when a record up to and including `x` does not fit a
    batch.  The fuel: at worst one batch per record of `A`, one for the batch that reaches `x`, and one more
    (`scan_found`) when that batch ends with `x` -/
theorem scan_ahead {H : Host} (wf : WF H.dir) (hq : H.eofQuirk = false) {size offset : Nat} (x : HEnt) (B : Dir) :
    ∀ (fuel : Nat) (A : Dir) (fd : Fd), Pos H.dir fd.pos (A ++ x :: B) →
      (∀ a ∈ A, a.cookie ≠ offset) → A.length + 2 ≤ fuel →
      ((∃ y ∈ A ++ [x], reclen y > size) → ∃ fd', scan H size offset fuel fd false = (.error EINVAL, fd')) ∧
      ((∀ y ∈ A ++ [x], reclen y ≤ size) → x.cookie = offset → (∀ e r, B = e :: r → reclen e ≤ size) →
        ∃ b fd', scan H size offset fuel fd false = (.ok b, fd') ∧ Post H.dir B b fd') := by
  intro fuel
  induction fuel with
  | zero => intro _ _ _ _ h; omega
  | succ fuel ih =>
    intro A fd hp hA hfuel
    unfold scan
    obtain ⟨hfail, hok⟩ := getdentsFd_at wf hq size hp
    by_cases hhead : ∀ e r, A ++ x :: B = e :: r → reclen e ≤ size
    case neg =>
      -- the descriptor stands at a record that does not fit
      obtain ⟨e, r, her, hgt⟩ : ∃ e r, A ++ x :: B = e :: r ∧ reclen e > size := by
        simpa only [Classical.not_forall, Nat.not_le, exists_prop] using hhead
      obtain ⟨fd', hg⟩ := hfail e r her hgt
      rw [hg]
      refine ⟨fun _ => ⟨_, rfl⟩, fun hall => absurd (hall e ?_) (by omega)⟩
      cases A <;> cases her <;> simp
    -- the next record fits: a non-empty batch `b` of records that fit
    obtain ⟨b, t', fd', hg, hsplit, hp', hbt, hbfit⟩ := hok hhead
    have hbne : b ≠ [] := fun hb => by rw [hb, hbt hb] at hsplit; simp at hsplit
    rw [hg]
    simp only [List.isEmpty_iff, hbne, Bool.false_eq_true, if_false]
    have hblen : 0 < b.length := List.length_pos_iff.mpr hbne
    rcases List.append_eq_append_iff.mp hsplit with ⟨a', hb, hxB⟩ | ⟨c', hAb, ht'⟩
    · cases a' with
      | nil =>
        -- the batch is exactly `A`
        simp only [List.append_nil, List.nil_append] at hb hxB
        subst hb
        rw [(skipL_eq_none b offset).mpr hA]
        obtain ⟨ih1, ih2⟩ := ih [] _ (hxB ▸ hp') (fun _ h => by cases h) (by simp; omega)
        exact ⟨fun ⟨y, hy, hgt⟩ => ih1 ⟨y, (List.mem_append.mp hy).resolve_left fun h => by have := hbfit y h; omega, hgt⟩,
          fun hall => ih2 fun y hy => hall y (List.mem_append_right _ hy)⟩
      | cons y r' =>
        -- the batch reaches `x`: every record up to `x` fits, and the scan finds it
        obtain ⟨rfl, (hB : B = r' ++ t')⟩ := List.cons.inj hxB
        refine ⟨fun ⟨y, hy, hgt⟩ => ?_, fun _ hc hB0 => ?_⟩
        · have := hbfit y (by rw [hb, List.append_cons]; exact List.mem_append_left _ hy)
          omega
        rw [hb, skipL_append A x r' offset hA hc]
        dsimp only
        by_cases hre : r' = []
        · subst hre
          simp only [List.isEmpty_nil, Bool.not_true, Bool.false_eq_true, if_false]
          cases fuel with
          | zero => omega
          | succ f => exact scan_found wf hq hB0 f _ (by simpa using hB ▸ hp')
        · rw [if_pos (by simpa using hre)]
          exact ⟨r', _, rfl, .here hB hp' fun h => absurd h hre⟩
    · -- the batch stays inside `A`
      rw [(skipL_eq_none b offset).mpr fun y hy => hA y (by rw [hAb]; exact List.mem_append_left _ hy)]
      obtain ⟨ih1, ih2⟩ := ih c' _ (ht' ▸ hp') (fun y hy => hA y (by rw [hAb]; exact List.mem_append_right _ hy)) (by
        have : A.length = b.length + c'.length := by rw [hAb]; simp
        omega)
      subst hAb
      exact ⟨fun ⟨y, hy, hgt⟩ => ih1 ⟨y, by
          rw [List.append_assoc] at hy
          exact (List.mem_append.mp hy).resolve_left fun h => by have := hbfit y h; omega, hgt⟩,
        fun hall => ih2 fun y hy => hall y (by rw [List.append_assoc]; exact List.mem_append_right _ hy)⟩

theorem fetch_scan {H : Host} (wf : WF H.dir) (hq : H.eofQuirk = false) {size c : Nat} {pre rest0 : Dir} {tgt : HEnt}
    (hd : H.dir = pre ++ tgt :: rest0) (hc : tgt.cookie = c) (hbad : c > I64_MAX ∨ H.seekErr c = some EINVAL) (fd0 : Fd) :
    ((∃ y ∈ pre ++ [tgt], reclen y > size) → ∃ fd', fetch H false fd0 size c = (.error EINVAL, fd')) ∧
    ((∀ y ∈ pre ++ [tgt], reclen y ≤ size) → (∀ e r, rest0 = e :: r → reclen e ≤ size) →
      ∃ b fd', fetch H false fd0 size c = (.ok b, fd') ∧ Post H.dir rest0 b fd') := by
  have hf : fetch H false fd0 size c = scan H size c (H.dir.length + 2) { fd0 with pos := 0 } false := by
    unfold fetch
    by_cases hgt : c > I64_MAX
    · simp [hgt]
    · simp [hgt, hbad.resolve_left hgt]
  rw [hf]
  exact (scan_ahead wf hq tgt rest0 _ pre _ (.inl ⟨rfl, hd.symm⟩) (hc ▸ nodup_pre wf.nodup hd) (by rw [hd]; simp)).imp_right
    fun h2 hall => h2 hall hc

/-- the host can position a descriptor for a resume from cookie `c` with `size` bytes: the cached cookie
    hits (`hit`), which needs no positioning, or `lseek64` accepts the cookie, or (linear-scan fallback) the
    cookie is a record's and every record up to and including that one fits a batch (the scan re-reads them
    with the request's `size`; records after the cookie are not re-read) -/
def Serveable (H : Host) (size c : Nat) (hit : Bool) : Prop :=
  hit = false →
    ((c ≤ I64_MAX ∧ H.seekErr c = none) ∨
     ((c > I64_MAX ∨ H.seekErr c = some EINVAL) ∧ c ≠ 0 ∧
        ∀ pre e rest, H.dir = pre ++ e :: rest → e.cookie = c → ∀ x ∈ pre ++ [e], reclen x ≤ size))

theorem fetch_post {H : Host} (wf : WF H.dir) (hq : H.eofQuirk = false) {size c : Nat} {rest0 : Dir}
    (hp : Pos H.dir c rest0) (hfits : Fits size rest0) (hit : Bool) (hpath : Serveable H size c hit) (fd0 : Fd)
    (hpos : hit = true → fd0.pos = c) :
    ∃ b fd1, fetch H hit fd0 size c = (.ok b, fd1) ∧ Post H.dir rest0 b fd1 := by
  cases hit with
  | true => exact getdentsFd_post wf hq (fd := fd0) (hpos rfl ▸ hp) hfits.head
  | false =>
    rcases hpath rfl with ⟨hle, hse⟩ | ⟨hbad, hne, hall⟩
    · simp only [fetch, Bool.false_eq_true, if_false, Nat.not_lt.mpr hle, hse]
      exact getdentsFd_post wf hq (fd := { fd0 with pos := c }) hp hfits.head
    · rcases hp with ⟨h0, _⟩ | ⟨pre, tgt, hd, hc⟩
      · exact absurd h0 hne
      · exact (fetch_scan wf hq hd hc hbad fd0).2 (hall pre tgt rest0 hd hc) hfits.head

end Fbr.Lemmas.PtDir
