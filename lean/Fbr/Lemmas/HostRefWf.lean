/-
  Fbr.Lemmas.HostRefWf — descriptor / file-handle bookkeeping of the reference FS.

  * `Wf`: descriptors and handle ids are allocated below their counters, one handle id per inode;
  * `Ext h h'`: `h'` extends `h` — every descriptor / handle of `h` still denotes the same object,
    the export root and the sentinel set are the same;
  * every call keeps `Wf` and extends the state (`wf_step`);
  * what an answer that names a descriptor, a handle id or an inode says about the call and the state
    after it, for every call (`Says`, `Eff.says`, `step_says`); the calls of `do_lookup` are instances (`*_ans`).
-/
import Fbr.Lemmas.HostRefGood

namespace Fbr.Host.Ref

structure Wf (h : State) : Prop where
  fdLt : ∀ f e, h.fds f = some e → f < h.nextFd
  hLt : ∀ k o, h.handles k = some o → k < h.nextHandle
  hInj : ∀ k k' o, h.handles k = some o → h.handles k' = some o → k = k'

structure Ext (h h' : State) : Prop where
  root : h'.exportRoot = h.exportRoot
  sent : h'.sent = h.sent
  fds : ∀ f o, fdObj h f = some o → fdObj h' f = some o
  handles : ∀ k o, h.handles k = some o → h'.handles k = some o

theorem Ext.refl (h : State) : Ext h h := ⟨rfl, rfl, fun _ _ x => x, fun _ _ x => x⟩

theorem Ext.trans {a b c : State} (h1 : Ext a b) (h2 : Ext b c) : Ext a c :=
  ⟨by rw [h2.root, h1.root], by rw [h2.sent, h1.sent], fun f o x => h2.fds f o (h1.fds f o x),
   fun k o x => h2.handles k o (h1.handles k o x)⟩

/-- the step relation proved for every call: `Wf` is kept and the state is extended -/
def Adv (h h' : State) : Prop := Wf h → Wf h' ∧ Ext h h'

theorem Adv.trans {a b c : State} (h1 : Adv a b) (h2 : Adv b c) : Adv a c := fun w =>
  ⟨(h2 (h1 w).1).1, (h1 w).2.trans (h2 (h1 w).1).2⟩

theorem adv_of_tables {h : State} {nodes : Obj → Option Node} {next : Obj} {creds : Creds} :
    Adv h { h with nodes := nodes, next := next, creds := creds } := fun w =>
  ⟨⟨w.fdLt, w.hLt, w.hInj⟩, rfl, rfl, fun _ _ x => x, fun _ _ x => x⟩

theorem Adv.refl (h : State) : Adv h h := adv_of_tables

theorem adv_modNode {h : State} {o : Obj} {f : Node → Node} : Adv h (modNode h o f) := by
  unfold modNode; split
  · exact adv_of_tables
  · exact .refl _

theorem adv_renameApply {h : State} {a b : Obj} {x y : Name} {c : Obj} {cn : Node} {t : Option Obj} :
    Adv h (renameApply h a b x y c cn t) :=
  renameApply_ind' (P := Adv h) (.refl h) fun _ hs => hs.trans adv_modNode

/-- a new descriptor gets the number `nextFd`, which no descriptor in use has -/
theorem adv_newFd {h : State} {o : Obj} {fl : Nat} : Adv h (newFd h o fl).2 := by
  intro w
  refine ⟨⟨?_, w.hLt, w.hInj⟩, ⟨rfl, rfl, ?_, fun _ _ x => x⟩⟩
  · intro f e he
    simp only [newFd] at he ⊢
    split at he
    · rename_i hf; rw [hf]; exact Nat.lt_succ_self _
    · exact Nat.lt_succ_of_lt (w.fdLt f e he)
  · intro f o' hf
    obtain ⟨e, he, _⟩ := fdObj_eq_some.mp hf
    rw [fdObj_newFd_of_ne h o fl (Nat.ne_of_lt (w.fdLt f e he))]; exact hf

theorem adv_updFd {h : State} {f : Fd} {e e' : FdEnt} (he : h.fds f = some e) (ho : e'.obj = e.obj) :
    Adv h { h with fds := fun x => if x = f then some e' else h.fds x } := by
  intro w
  refine ⟨⟨?_, w.hLt, w.hInj⟩, ⟨rfl, rfl, ?_, fun _ _ x => x⟩⟩
  · intro f' e'' h'
    simp only at h'
    split at h'
    · rename_i hf; rw [hf]; exact w.fdLt f e he
    · exact w.fdLt f' e'' h'
  · intro f' o hf
    unfold fdObj at hf ⊢
    simp only
    split
    · rename_i hff; rw [hff, he] at hf; simp only [Option.map] at hf ⊢; rw [ho]; exact hf
    · exact hf

theorem adv_newHandle {h : State} {o : Obj}
    (hn : (List.range h.nextHandle).find? (fun k => h.handles k == some o) = none) :
    Adv h { h with handles := fun k => if k = h.nextHandle then some o else h.handles k, nextHandle := h.nextHandle + 1 } := by
  intro w
  have hno : ∀ k, h.handles k ≠ some o := by
    intro k hk
    have := List.find?_eq_none.mp hn k (List.mem_range.mpr (w.hLt k o hk))
    simp [hk] at this
  refine ⟨⟨w.fdLt, ?_, ?_⟩, ⟨rfl, rfl, fun _ _ x => x, ?_⟩⟩
  · intro k o' hk
    simp only at hk ⊢
    split at hk
    · rename_i e; rw [e]; exact Nat.lt_succ_self _
    · exact Nat.lt_succ_of_lt (w.hLt k o' hk)
  · intro k k' o' hk hk'
    simp only at hk hk'
    split at hk <;> split at hk'
    · rename_i e1 e2; rw [e1, e2]
    · cases hk; exact absurd hk' (hno k')
    · cases hk'; exact absurd hk (hno k)
    · exact w.hInj k k' o' hk hk'
  · intro k o' hk
    simp only
    have hlt := w.hLt k o' hk
    rw [if_neg (Nat.ne_of_lt hlt)]; exact hk

theorem Eff.adv {s : State} {c : HCall} {r : HAns × State} (h : Eff s c r) : Adv s r.2 := by
  cases h with
  | same | stat | handleOld | attr | mkdirat | mknodat | symlinkat | linkat | unlinkat | creds => exact adv_of_tables
  | opened => exact adv_newFd
  | truncated | creat => exact adv_of_tables.trans adv_newFd
  | renameat2 => exact adv_renameApply
  | handle _ hn => exact adv_newHandle hn
  | fdent _ _ he ho => exact adv_updFd he ho

theorem wf_step (s : State) (c : HCall) (w : Wf s) : Wf (step s c).2 ∧ Ext s (step s c).2 := by
  rw [step_eq]; exact (stepCore_eff s c).adv w

theorem newFd_ans {s : State} {o : Obj} {fl : Nat} {f : Fd} {o' : Obj} (h : (newFd s o fl).1 = .fd f o') :
    o' = o ∧ fdObj (newFd s o fl).2 f = some o := by
  simp only [newFd] at h
  cases h
  exact ⟨rfl, fdObj_newFd s o fl⟩

theorem openObj_ans (s : State) (o : Obj) (fl : Nat) (f : Fd) (o' : Obj) (h : (openObj s o fl).1 = .fd f o') :
    o' = o ∧ fdObj (openObj s o fl).2 f = some o := by
  revert h
  unfold openObj
  split
  · intro h; cases h
  split
  · intro h; cases h
  split <;> exact newFd_ans

/-- **what an answer says**, of any call: a descriptor denotes the answered object, and — unless the call is
    an exclusive creation, whose file did not exist before — that is the object the call named (`Opens`); a
    handle id denotes the descriptor's object; a stat answer describes the object the call names.
    (`s'`: the state after the call.) -/
def Says (s : State) (c : HCall) (s' : State) : HAns → Prop
  | .fd f o => fdObj s' f = some o ∧
      ((∀ d n fl m, c = .openat d n fl m → (has fl O_CREAT && has fl O_EXCL) = false) → ∃ fl, Opens s c o fl)
  | .handle k => match c with
    | .nameToHandle f _ _ => ∃ o, fdObj s f = some o ∧ s'.handles k = some o
    | _ => False
  | .st st => Stats s c st.obj
  | _ => True

theorem Eff.says {s : State} {c : HCall} {r : HAns × State} (h : Eff s c r) : Says s c r.2 r.1 := by
  cases h with
  | same a ha | attr a ha | fdent a ha => cases a <;> first | trivial | cases ha
  | opened ho | truncated ho => exact ⟨fdObj_newFd .., fun _ => ⟨_, ho⟩⟩
  | creat _ hx => exact ⟨fdObj_newFd .., fun h => by rw [h _ _ _ _ rfl] at hx; cases hx⟩
  | stat ht => exact ht
  | handleOld ho hf => exact ⟨_, ho, by simpa using List.find?_some hf⟩
  | handle ho => exact ⟨_, ho, if_pos rfl⟩
  | _ => trivial

theorem step_says (s : State) (c : HCall) : Says s c (step s c).2 (step s c).1 := by
  rw [step_eq]; exact (stepCore_eff s c).says

theorem openat_path_ans (s : State) (dfd : Fd) (name : Name) (f : Fd) (o : Obj)
    (h : (step s (.openat dfd name (O_NOFOLLOW ||| O_CLOEXEC ||| O_PATH) 0)).1 = .fd f o) :
    fdObj (step s (.openat dfd name (O_NOFOLLOW ||| O_CLOEXEC ||| O_PATH) 0)).2 f = some o := by
  have hs := step_says s (.openat dfd name (O_NOFOLLOW ||| O_CLOEXEC ||| O_PATH) 0)
  rw [h] at hs; exact hs.1

theorem openByHandle_path_ans (s : State) (k md : Nat) (f : Fd) (o : Obj)
    (h : (step s (.openByHandle k O_PATH md)).1 = .fd f o) :
    s.handles k = some o ∧ fdObj (step s (.openByHandle k O_PATH md)).2 f = some o := by
  have hs := step_says s (.openByHandle k O_PATH md)
  rw [h] at hs
  obtain ⟨_, ho⟩ := hs.2 nofun
  cases ho with | handle hk => exact ⟨hk, hs.1⟩

theorem statx_ans (s : State) (f : Fd) (a b : Nat) (st : Stat) (h : (step s (.statx f [] a b)).1 = .st st) :
    fdObj s f = some st.obj := by
  have hs := step_says s (.statx f [] a b)
  rw [h] at hs
  obtain ⟨_, ho, ht⟩ := hs
  cases ht; exact ho

theorem nameToHandle_ans (s : State) (f : Fd) (fl sz k : Nat) (h : (step s (.nameToHandle f fl sz)).1 = .handle k) :
    ∃ o, fdObj s f = some o ∧ (step s (.nameToHandle f fl sz)).2.handles k = some o := by
  have hs := step_says s (.nameToHandle f fl sz)
  rw [h] at hs
  exact hs

end Fbr.Host.Ref
