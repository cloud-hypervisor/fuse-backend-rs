/-
  Fbr.Lemmas.SrvReply — what the kernel reads back from the reply encodings, and the reply of a
  handler that calls the file system once.
-/
import Fbr.Lemmas.SrvDecode
import Fbr.Lemmas.SrvGood

namespace Fbr.Srv
open Fbr.Wire Fbr.Conv

/-- the kernel's reading of `struct fuse_attr` (88 bytes) placed at the start of `b` -/
structure AttrRead (b : Bytes) (a : Attr) : Prop where
  ino : u64At b 0 = a.ino % 2 ^ 64
  size : u64At b 8 = a.size % 2 ^ 64
  blocks : u64At b 16 = a.blocks % 2 ^ 64
  atime : u64At b 24 = a.atime % 2 ^ 64
  mtime : u64At b 32 = a.mtime % 2 ^ 64
  ctime : u64At b 40 = a.ctime % 2 ^ 64
  atimensec : u32At b 48 = a.atimensec % 2 ^ 32
  mtimensec : u32At b 52 = a.mtimensec % 2 ^ 32
  ctimensec : u32At b 56 = a.ctimensec % 2 ^ 32
  mode : u32At b 60 = a.mode % 2 ^ 32
  nlink : u32At b 64 = a.nlink % 2 ^ 32
  uid : u32At b 68 = a.uid % 2 ^ 32
  gid : u32At b 72 = a.gid % 2 ^ 32
  rdev : u32At b 76 = a.rdev % 2 ^ 32
  blksize : u32At b 80 = a.blksize % 2 ^ 32
  flags : u32At b 84 = a.flags % 2 ^ 32

theorem attrBytes_read (a : Attr) (rest : Bytes) : AttrRead (attrBytes a ++ rest) a := by
  unfold attrBytes
  simp only [List.append_assoc]
  constructor <;> wire_norm

/-- the kernel's reading of `struct fuse_entry_out` (128 bytes) -/
structure EntryRead (b : Bytes) (o : EntryOut) : Prop where
  nodeid : u64At b 0 = o.nodeid % 2 ^ 64
  generation : u64At b 8 = o.generation % 2 ^ 64
  entryValid : u64At b 16 = o.entryValid % 2 ^ 64
  attrValid : u64At b 24 = o.attrValid % 2 ^ 64
  entryValidNsec : u32At b 32 = o.entryValidNsec % 2 ^ 32
  attrValidNsec : u32At b 36 = o.attrValidNsec % 2 ^ 32
  attr : AttrRead (b.drop 40) o.attr

theorem entryOutBytes_read (o : EntryOut) (rest : Bytes) : EntryRead (entryOutBytes o ++ rest) o := by
  unfold entryOutBytes
  refine ⟨?_, ?_, ?_, ?_, ?_, ?_, ?_⟩
  iterate 6 wire_norm
  · rw [List.append_assoc, List.drop_left' (by simp)]
    exact attrBytes_read _ _

theorem finish_out_ok {cfg : Cfg} {u : Nat} {calls : List Call} {al : List Nat} {a : Ans}
    {okb : Ans → Option (Bytes × Bytes)} {body data : Bytes} (hne : ∀ e, a ≠ .err e)
    (hb : okb a = some (body, data)) (hfit : 16 + body.length + data.length ≤ cfg.cap) :
    (finish cfg u calls al a okb).out =
      emit cfg (outHeader (16 + body.length + data.length) 0 u ++ body ++ data) := by
  unfold finish
  split
  · next e => exact absurd rfl (hne e)
  · rw [hb]
    simp only [okRes, replyOk_fits hfit]

/-- a handler that calls method `m` once, with a file system that answers `m` with `a`: the reply
    is the opcode's body for `a` behind the header; `len` is a parameter so that a caller gives the
    header length and the capacity bound as the literals of its statement -/
theorem simple_out_of_answer {cfg : Cfg} {fs : Call → Ans} {u : Nat} {calls0 : List Call} {ctx : Ctx} {m : String}
    {args : List Arg} {al : List Nat} {okb : Ans → Option (Bytes × Bytes)} {a : Ans} {body data : Bytes} {len : Nat}
    (hans : ∀ c, c.method = m → fs c = a) (hne : ∀ e, a ≠ .err e) (hb : okb a = some (body, data))
    (hlen : 16 + body.length + data.length = len) (hfit : len ≤ cfg.cap) :
    (simple cfg fs u calls0 (mkCall ctx m args) al okb).out = emit cfg (outHeader len 0 u ++ body ++ data) := by
  subst hlen
  unfold simple
  rw [hans _ rfl]
  exact finish_out_ok hne hb hfit

end Fbr.Srv
