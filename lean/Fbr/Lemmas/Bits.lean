/-
  Fbr.Lemmas.Bits — single-bit tests on option words (`Nat.testBit`): `has` and `without` at a power
  of two, and the option words of the INIT model `Fbr.InitFs` read bit by bit.
-/
import Fbr.InitFs

namespace Fbr.InitFs

theorem and_pow (s k : Nat) : s &&& 2 ^ k = if s.testBit k then 2 ^ k else 0 := by
  apply Nat.eq_of_testBit_eq
  intro i
  rw [Nat.testBit_and, Nat.testBit_two_pow]
  by_cases h : k = i
  · subst h
    cases hs : s.testBit k <;> simp [Nat.testBit_two_pow_self]
  · cases hs : s.testBit k <;> simp [h, Nat.testBit_two_pow_of_ne h]

theorem has_pow (s k : Nat) : has s (2 ^ k) = s.testBit k := by
  unfold has
  rw [and_pow]
  cases s.testBit k <;> simp

theorem without_bit (s k j : Nat) (hk : k < 64) :
    (without s (2 ^ k)).testBit j = (s.testBit j && (decide (j < 64) && !decide (k = j))) := by
  unfold without ALL64
  rw [Nat.testBit_and]
  congr 1
  have h : 2 ^ 64 - 1 - 2 ^ k = 2 ^ 64 - (2 ^ k + 1) := by omega
  rw [h, Nat.testBit_two_pow_sub_succ (Nat.pow_lt_pow_right (by decide) hk), Nat.testBit_two_pow]

theorem ZMO_pow : ZERO_MESSAGE_OPEN = 2 ^ 17 := by decide
theorem ZMOD_pow : ZERO_MESSAGE_OPENDIR = 2 ^ 24 := by decide
theorem WB_pow : WRITEBACK_CACHE = 2 ^ 16 := by decide
theorem KP2_pow : HANDLE_KILLPRIV_V2 = 2 ^ 28 := by decide
theorem AOT_pow : ATOMIC_O_TRUNC = 2 ^ 3 := by decide
theorem DAX_pow : PERFILE_DAX = 2 ^ 33 := by decide
theorem RDP_pow : DO_READDIRPLUS = 2 ^ 13 := by decide
theorem RDPA_pow : READDIRPLUS_AUTO = 2 ^ 14 := by decide

theorem testBit_cond_without (c : Bool) (s j k : Nat) (hj : j < 64) (hk : k < 64) :
    (if c then without s (2 ^ j) else s).testBit k = (s.testBit k && !(c && decide (j = k))) := by
  cases c
  · simp
  · simp [without_bit s j k hj, hk]

theorem testBit_either_without (c : Bool) (s i j k : Nat) (hi : i < 64) (hj : j < 64) (hk : k < 64) :
    (if c then without s (2 ^ i) else without s (2 ^ j)).testBit k =
      (s.testBit k && !(if c then decide (i = k) else decide (j = k))) := by
  cases c
  · rw [if_neg Bool.false_ne_true, if_neg Bool.false_ne_true, without_bit _ _ _ hj, decide_eq_true hk, Bool.true_and]
  · rw [if_pos rfl, if_pos rfl, without_bit _ _ _ hi, decide_eq_true hk, Bool.true_and]

theorem vfsNegotiate_outOpts_bit (o : VfsOpts) (capable k : Nat) (hk : k < 64) :
    (vfsNegotiate o capable).outOpts.testBit k =
      (o.outOpts.testBit k && !(if o.noOpen then decide (3 = k) else decide (17 = k)) &&
        !(!o.noOpendir && decide (24 = k)) && !(o.noWriteback && decide (16 = k)) &&
        !(!o.killprivV2 && decide (28 = k)) && capable.testBit k) := by
  have h1 := testBit_either_without o.noOpen o.outOpts 3 17 k (by decide) (by decide) hk
  have h2 : ∀ s, (if o.noOpendir then s else without s (2 ^ 24)).testBit k =
      (s.testBit k && !(!o.noOpendir && decide (24 = k))) := by
    intro s
    cases o.noOpendir
    · exact testBit_cond_without true s 24 k (by decide) hk
    · exact testBit_cond_without false s 24 k (by decide) hk
  have h3 := fun s => testBit_cond_without o.noWriteback s 16 k (by decide) hk
  have h4 := fun s => testBit_cond_without (!o.killprivV2) s 28 k (by decide) hk
  unfold vfsNegotiate
  simp only [AOT_pow, ZMO_pow, ZMOD_pow, WB_pow, KP2_pow]
  simp only [Nat.testBit_and, h4, h3, h2, h1]

theorem vfsNegotiate_outOpts_within (o : VfsOpts) (capable i : Nat)
    (h : (vfsNegotiate o capable).outOpts.testBit i = true) : capable.testBit i = true := by
  unfold vfsNegotiate at h
  rw [Nat.testBit_and, Bool.and_eq_true] at h
  exact h.2

/-- The bit of a zero-message mode stays in the options returned only if the mode was configured, and
    the other bits the VFS clears (3 or 17 before the no-opendir test) are not the one tested. -/
theorem vfsNegotiate_noOpen (o : VfsOpts) (capable : Nat) :
    (vfsNegotiate o capable).noOpen = (vfsNegotiate o capable).outOpts.testBit 17 := by
  rw [vfsNegotiate_outOpts_bit o capable 17 (by decide)]
  show (o.noOpen && has (capable &&& o.outOpts) ZERO_MESSAGE_OPEN) = _
  rw [ZMO_pow, has_pow, Nat.testBit_and]
  cases o.noOpen <;> simp [Bool.and_comm]

theorem vfsNegotiate_noOpendir (o : VfsOpts) (capable : Nat) :
    (vfsNegotiate o capable).noOpendir = (vfsNegotiate o capable).outOpts.testBit 24 := by
  rw [vfsNegotiate_outOpts_bit o capable 24 (by decide)]
  show (o.noOpendir && has (capable &&& (if o.noOpen then without o.outOpts ATOMIC_O_TRUNC
    else without o.outOpts ZERO_MESSAGE_OPEN)) ZERO_MESSAGE_OPENDIR) = _
  rw [ZMOD_pow, AOT_pow, ZMO_pow, has_pow, Nat.testBit_and,
    testBit_either_without _ _ 3 17 24 (by decide) (by decide) (by decide)]
  cases o.noOpen <;> cases o.noOpendir <;> simp [Bool.and_comm]

theorem ptOpts_bits (wb no nod kp dax : Bool) :
    (ptOpts wb no nod kp dax).testBit 16 = wb ∧ (ptOpts wb no nod kp dax).testBit 17 = no ∧
    (ptOpts wb no nod kp dax).testBit 24 = nod ∧ (ptOpts wb no nod kp dax).testBit 28 = kp ∧
    (ptOpts wb no nod kp dax).testBit 33 = dax ∧
    ((ptOpts wb no nod kp dax).testBit 3 = false) := by
  cases wb <;> cases no <;> cases nod <;> cases kp <;> cases dax <;> decide

end Fbr.InitFs
