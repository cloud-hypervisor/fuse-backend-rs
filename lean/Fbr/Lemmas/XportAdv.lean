/-
  Every cursor operation *advances* its cursor by some `n`: it touches exactly the next `n`
  addresses of the flat list (in order, reads or writes), marks exactly their pages dirty when it is
  a write, and leaves `drop n` of the flat list (`AdvBy`).  For a single call `n` is `moved res`, the
  count the call reports (0 on an error).  `consume_spec` says what `consume` does — one call `r`, kept
  to the address-level contract `FOk`, reported as it is, then an `AdvBy` by what it reports — and hands
  on whatever else (`C`) is known of the call; the content-level statements (`consume_rdc`,
  `consume_wrc`) are read off it.
-/
import Fbr.Lemmas.XportLog

namespace Fbr.Xport

def sel (wr : Bool) (log : List Access) : List Addr := if wr then wrAddrs log else rdAddrs log

def moved (r : Except IoErr Nat) : Nat :=
  match r with
  | .ok k => k
  | .error _ => 0

@[simp] theorem moved_ok (k : Nat) : moved (.ok k) = k := rfl
@[simp] theorem moved_error (e : IoErr) : moved (.error e) = 0 := rfl

/-- a call that moves the whole of `src` or fails, its cursor standing `Δ = moved res` further (`vwrite_delta`,
    `fwrite_fwc`, `fwriteVectored_fwc`): what it moved, `src.take Δ`, is `src` or nothing -/
theorem take_all_or_nothing {src : List UInt8} {Δ : Nat} {res : Except IoErr Nat}
    (h : Δ = moved res ∧ ∀ n, res = .ok n → n = src.length) :
    (∀ n, res = .ok n → n = src.length ∧ src.take Δ = src) ∧ (∀ e, res = .error e → src.take Δ = []) := by
  obtain ⟨hd, hall⟩ := h
  refine ⟨fun n hn => ⟨hall n hn, ?_⟩, fun e he => ?_⟩
  · rw [hd, hn, moved_ok, hall n hn, List.take_length]
  · rw [hd, he, moved_error, List.take_zero]

/-- contract of a closure `f` run by `consume` on the offered buffers `bufs`: it passes exactly as
    many of the offered addresses as it reports -/
def FOk {β : Type} (wr : Bool) (w : World) (bufs : List Seg) (r : Except IoErr Nat × World × β) : Prop :=
  moved r.1 ≤ total bufs ∧ r.2.1.p = w.p ∧ r.2.1.fd = w.fd ∧ r.2.1.dirty = w.dirty
    ∧ sel wr r.2.1.log = sel wr w.log ++ (addrs bufs).take (moved r.1)
    ∧ sel (!wr) r.2.1.log = sel (!wr) w.log

def AdvBy (n : Nat) (wr md : Bool) (b : IoBufs) (w : World) (b' : IoBufs) (w' : World) : Prop :=
  n ≤ total b.segs ∧ w'.p = w.p ∧ w'.fd = w.fd
    ∧ sel wr w'.log = sel wr w.log ++ (addrs b.segs).take n
    ∧ sel (!wr) w'.log = sel (!wr) w.log
    ∧ (∀ x, x ∈ w'.dirty ↔ x ∈ w.dirty ∨ (md = true ∧ ∃ a ∈ (addrs b.segs).take n, pageOf w.p a = x))
    ∧ addrs b'.segs = (addrs b.segs).drop n
    ∧ b'.consumed = b.consumed + n

def Adv (wr md : Bool) (b : IoBufs) (w : World) (b' : IoBufs) (w' : World) : Prop :=
  ∃ n, AdvBy n wr md b w b' w'

section
variable {n : Nat} {wr md : Bool} {b b' : IoBufs} {w w' : World}

theorem AdvBy.p (h : AdvBy n wr md b w b' w') : w'.p = w.p := h.2.1
theorem AdvBy.log (h : AdvBy n wr md b w b' w') : sel wr w'.log = sel wr w.log ++ (addrs b.segs).take n := h.2.2.2.1
theorem AdvBy.other (h : AdvBy n wr md b w b' w') : sel (!wr) w'.log = sel (!wr) w.log := h.2.2.2.2.1
theorem AdvBy.dirty (h : AdvBy n wr md b w b' w') :
    ∀ x, x ∈ w'.dirty ↔ x ∈ w.dirty ∨ (md = true ∧ ∃ a ∈ (addrs b.segs).take n, pageOf w.p a = x) := h.2.2.2.2.2.1
theorem AdvBy.addrs' (h : AdvBy n wr md b w b' w') : addrs b'.segs = (addrs b.segs).drop n := h.2.2.2.2.2.2.1
theorem AdvBy.consumed (h : AdvBy n wr md b w b' w') : b'.consumed = b.consumed + n := h.2.2.2.2.2.2.2

theorem AdvBy.rlog (h : AdvBy n false md b w b' w') : rdAddrs w'.log = rdAddrs w.log ++ (addrs b.segs).take n := h.log
theorem AdvBy.rother (h : AdvBy n false md b w b' w') : wrAddrs w'.log = wrAddrs w.log := h.other
theorem AdvBy.wlog (h : AdvBy n true md b w b' w') : wrAddrs w'.log = wrAddrs w.log ++ (addrs b.segs).take n := h.log
theorem AdvBy.wother (h : AdvBy n true md b w b' w') : rdAddrs w'.log = rdAddrs w.log := h.other

theorem AdvBy.delta (h : AdvBy n wr md b w b' w') : b'.consumed - b.consumed = n := by
  have := h.consumed; omega

theorem AdvBy.total_eq (h : AdvBy n wr md b w b' w') : total b'.segs = total b.segs - n := by
  have := congrArg List.length h.addrs'
  simpa using this

theorem AdvBy.inv (h : AdvBy n wr md b w b' w') : b'.consumed + total b'.segs = b.consumed + total b.segs := by
  have := h.total_eq
  have := h.consumed
  have := h.1
  omega

end

theorem AdvBy.abs {n : Nat} {wr md : Bool} {b b' : IoBufs} {w w' : World} (h : AdvBy n wr md b w b' w') :
    b.abs.advance n = ((addrs b.segs).take n, b'.abs) := by
  simp only [IoBufs.abs, Spec.advance, length_addrs, h.addrs', h.consumed, Nat.min_eq_left h.1]

theorem AdvBy.refl {wr md : Bool} {b : IoBufs} {w : World} : AdvBy 0 wr md b w b w := by
  refine ⟨Nat.zero_le _, rfl, rfl, by simp, rfl, ?_, by simp, rfl⟩
  intro x; simp

theorem AdvBy.trans {n1 n2 : Nat} {wr md : Bool} {b1 b2 b3 : IoBufs} {w1 w2 w3 : World}
    (h1 : AdvBy n1 wr md b1 w1 b2 w2) (h2 : AdvBy n2 wr md b2 w2 b3 w3) :
    AdvBy (n1 + n2) wr md b1 w1 b3 w3 := by
  have ht := h1.total_eq
  obtain ⟨a1, a2, a3, a4, a5, a6, a7, a8⟩ := h1
  obtain ⟨c1, c2, c3, c4, c5, c6, c7, c8⟩ := h2
  have htake : (addrs b1.segs).take (n1 + n2) = (addrs b1.segs).take n1 ++ (addrs b2.segs).take n2 := by
    rw [a7, List.take_add]
  refine ⟨by omega, c2.trans a2, c3.trans a3, ?_, c5.trans a5, ?_, ?_, by omega⟩
  · rw [c4, a4, htake, List.append_assoc]
  · intro x
    rw [c6, a6, htake, a2]
    simp only [List.mem_append, or_and_right, exists_or, and_or_left, or_assoc]
  · rw [c7, a7, List.drop_drop]

section
variable {wr md : Bool} {b b' : IoBufs} {w w' : World}

theorem Adv.refl : Adv wr md b w b w := ⟨0, AdvBy.refl⟩

theorem Adv.trans {b1 b2 b3 : IoBufs} {w1 w2 w3 : World}
    (h1 : Adv wr md b1 w1 b2 w2) (h2 : Adv wr md b2 w2 b3 w3) : Adv wr md b1 w1 b3 w3 :=
  ⟨_, h1.choose_spec.trans h2.choose_spec⟩

theorem Adv.inv (h : Adv wr md b w b' w') : b'.consumed + total b'.segs = b.consumed + total b.segs :=
  h.choose_spec.inv

end

theorem take_min_total (segs : List Seg) (n : Nat) :
    (addrs segs).take (min n (total segs)) = (addrs segs).take n := by
  rw [List.take_eq_take_min (i := n), length_addrs]

theorem markDirty_zero (w : World) (segs : List Seg) : markDirty w segs 0 = w := by
  unfold markDirty; rw [dirtyRanges_zero]; rfl

theorem fok_zero {β : Type} {wr : Bool} {w : World} {bufs : List Seg} {a : β} :
    FOk wr w bufs ((.ok 0 : Except IoErr Nat), w, a) :=
  ⟨Nat.zero_le _, rfl, rfl, rfl, by simp, rfl⟩

theorem take_allocate (segs : List Seg) {k n : Nat} (h : k ≤ n) : (addrs (allocate segs n)).take k = (addrs segs).take k := by
  rw [addrs_allocate, List.take_take, Nat.min_eq_left h]

/-- `C` is whatever else is known of the call `r`, which keeps the contract `FOk` (`hok`); when no buffer is offered
    `f` is not called and `r` is `Ok(0)` with world and auxiliary value as they were (`h0`) -/
theorem consume_spec {β : Type} (C : Except IoErr Nat × World × β → Prop) (b : IoBufs) (w : World) (wr md : Bool)
    (count : Nat) (aux0 : β) (f : World → List Seg → Except IoErr Nat × World × β)
    (hov : b.consumed + total b.segs < USIZE) {o : Out Nat β} (ho : consume b w md count aux0 f = o)
    (hok : FOk wr w (allocate b.segs count) (f w (allocate b.segs count)))
    (h0 : (allocate b.segs count).isEmpty = true → C (.ok 0, w, aux0)) (hf : C (f w (allocate b.segs count))) :
    ∃ r, C r ∧ moved r.1 ≤ count ∧ o.res = r.1 ∧ o.aux = r.2.2 ∧ o.w.mem = r.2.1.mem
      ∧ AdvBy (moved r.1) wr md b w o.b o.w := by
  have key : ∃ r, FOk wr w (allocate b.segs count) r ∧ C r ∧ o.res = r.1 ∧ o.aux = r.2.2
      ∧ o.w = (if md then markDirty r.2.1 b.segs (moved r.1) else r.2.1)
      ∧ addrs o.b.segs = (addrs b.segs).drop (moved r.1) ∧ o.b.consumed = b.consumed + moved r.1 := by
    subst ho
    unfold consume
    by_cases he : (allocate b.segs count).isEmpty = true
    · simp only [he, if_true]
      exact ⟨_, fok_zero, h0 he, rfl, rfl, by simp [markDirty_zero], rfl, rfl⟩
    · simp only [he, Bool.false_eq_true, if_false]
      have hn := hok.1
      rw [total_allocate] at hn
      refine ⟨_, hok, hf, ?_⟩
      generalize f w (allocate b.segs count) = r at hn
      obtain ⟨res, w1, a⟩ := r
      cases res with
      | error e => exact ⟨rfl, rfl, by simp [markDirty_zero], rfl, rfl⟩
      | ok n =>
        have hnov : ¬ (b.consumed + n ≥ USIZE) := by simp only [moved_ok] at hn; omega
        dsimp only
        rw [show b.markUsed n = .ok ⟨markUsedSegs b.segs n, b.consumed + n⟩ by simp only [IoBufs.markUsed, hnov, if_false]]
        exact ⟨rfl, rfl, rfl, addrs_markUsed _ _, rfl⟩
  obtain ⟨r, ⟨hn, fp, ffd, fdirty, fsel, fnsel⟩, hr, e1, e2, e3, e4, e5⟩ := key
  rw [total_allocate] at hn
  rw [take_allocate _ (by omega)] at fsel
  obtain ⟨kp, kfd, klog, kmem⟩ := ite_markDirty_keep md r.2.1 b.segs (moved r.1)
  refine ⟨r, hr, by omega, e1, e2, e3 ▸ kmem, by omega, e3 ▸ kp.trans fp, e3 ▸ kfd.trans ffd, ?_, ?_, ?_, e4, e5⟩
  · rw [e3, klog]; exact fsel
  · rw [e3, klog]; exact fnsel
  · intro x
    rw [e3]
    cases md with
    | false => simp [fdirty]
    | true =>
      simp only [if_true]
      rw [mem_markDirty]
      simp [fdirty, fp]

theorem consume_adv {β : Type} (b : IoBufs) (w : World) (wr md : Bool) (count : Nat) (aux0 : β)
    (f : World → List Seg → Except IoErr Nat × World × β)
    (hov : b.consumed + total b.segs < USIZE)
    (hf : FOk wr w (allocate b.segs count) (f w (allocate b.segs count))) :
    moved (consume b w md count aux0 f).res ≤ count
      ∧ AdvBy (moved (consume b w md count aux0 f).res) wr md b w (consume b w md count aux0 f).b
          (consume b w md count aux0 f).w := by
  obtain ⟨r, _, hk, e1, _, _, h⟩ := consume_spec (fun _ => True) b w wr md count aux0 f hov rfl hf (fun _ => trivial) trivial
  rw [e1]; exact ⟨hk, h⟩

end Fbr.Xport
