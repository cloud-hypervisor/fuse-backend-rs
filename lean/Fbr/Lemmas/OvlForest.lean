/-
  Re-establishing the cache invariant after the upper layer and the forest changed inside the subtree at
  one entry `n :: pp` (`consistent_touch`): outside it nothing that the invariant reads at a path has
  changed (`expReals_frame`, `PathOK.frame`), so only the subtree and the pair `pp`, `n` are checked.  Two
  instances.  The node at `n :: pp` changes, keeping its names and its loaded flag, and below it the code
  keeps what it kept (`consistent_setNode`).  The subtree of the forest is replaced by one childless node
  that the loaded parent then lists, or by nothing, the parent forgetting the name, which is allowed when
  nothing that needs a node is left there (`consistent_graft`).  Last, a node in the upper layer: its
  ancestors are there too (`ancestors_inUpper`) and its first real inode is the upper entry at its path
  (`upper_head`).
-/
import Fbr.Lemmas.OvlMut

namespace Fbr.Ovl

theorem setUpper_eq {d : Disk} {L : Layer} (h : d.upper = some L) (q : Path) (X : Node) :
    d.setUpper q X = d.setLayer 0 (L.set q X) := by
  simp [Disk.setUpper, h]

theorem setLayer0_self {d : Disk} {L : Layer} (h : d.upper = some L) : d = d.setLayer 0 L := by
  cases d
  simp only at h
  simp [Disk.setLayer, h]

theorem ne_of_not_below {q p : Path} (h : q.isSuffixOf p = false) : p ≠ q := by
  intro hpq
  rw [hpq, below_self] at h
  cases h

theorem Layer.set_ne (L : Layer) {q p : Path} (X : Node) (h : p ≠ q) : (L.set q X) p = L p := if_neg h

theorem Layer.set_self (L : Layer) (q : Path) (X : Node) : (L.set q X) q = X := if_pos rfl

theorem nodeAt_of_lowers {d d' : Disk} (h : d'.lowers = d.lowers) {i : Nat} (hi : i ≠ 0) (p : Path) :
    d'.nodeAt i p = d.nodeAt i p := by
  cases i with
  | zero => exact absurd rfl hi
  | succ j => simp [Disk.nodeAt, Disk.layer, h]

/-- the new upper real inode of `n :: pp` as `mkNode` returns it and as scanning finds it -/
theorem childReal_eq {pr : Real} {pp : Path} (hl : pr.layer = 0) (hp : pr.path = pp) (n : Name) :
    childReal pr n = { layer := 0, inUpper := true, path := n :: pp, whiteout := false, opq := false } := by
  simp [childReal, hl, hp]

theorem realOf_setUpper_self (d : Disk) (hu : d.upper.isSome) (q : Path) (X : Node) :
    realOf (d.setUpper q X) q 0 =
      { layer := 0, inUpper := true, path := q, whiteout := X.isWhiteout, opq := X.isOpaqueDir } := by
  simp [realOf, nodeAt_setUpper d q X hu]

theorem Consistent.congr {s s' : St} (h : Consistent s) (hd : s'.disk = s.disk) (hm : s'.mem = s.mem) :
    Consistent s' := by
  obtain ⟨h1, h2, h3, h4, h5, h6, h7, h8, h9⟩ := h
  exact ⟨hd ▸ h1, hd ▸ h2, hm ▸ h3, by rw [hd, hm]; exact h4, hm ▸ h5, by rw [hd, hm]; exact h6,
    by rw [hm]; exact h7, hm ▸ h8, by rw [hm]; exact h9⟩

theorem Consistent.parent_loaded {s : St} (hc : Consistent s) {n : Name} {pp : Path} {c pm : MNode}
    (hcm : s.mem (n :: pp) = some c) (hpm : s.mem pp = some pm) : pm.loaded = true := by
  cases hx : pm.loaded with
  | true => rfl
  | false =>
    have hn := hc.listed hpm hcm
    rw [hc.unloaded pp pm hpm hx] at hn; cases hn

/-- The upper layer and the forest change only inside the subtree at
    `n :: pp`; the node at `pp` changes the names it lists.  Outside the subtree nothing that the invariant
    reads has changed (`nodeAt_outside`, `expReals_frame`, `PathOK.frame`); what is to be checked is the subtree and the one
    pair `pp`, `n`. -/
theorem consistent_touch {s : St} (hc : Consistent s) {L L' : Layer} (hup : s.disk.upper = some L)
    (n : Name) (pp : Path) {pm : MNode} (hpm : s.mem pp = some pm) (kids' : List Name) (mem' : Mem)
    (hout : ∀ p, (n :: pp).isSuffixOf p = false → L' p = L p) (htree : TreeOK L')
    (hpp : mem' pp = some { pm with kids := kids' })
    (hold : ∀ p, (n :: pp).isSuffixOf p = false → p ≠ pp → mem' p = s.mem p)
    (hkids : ∀ c, c ≠ n → (c ∈ kids' ↔ c ∈ pm.kids))
    (hunl : pm.loaded = false → kids' = [])
    (hlist : pm.loaded = true → (n ∈ kids' → expReals (s.disk.setLayer 0 L') (n :: pp) ≠ []) ∧
      (needsNode (expReals (s.disk.setLayer 0 L') (n :: pp)) = true → n ∈ kids'))
    (hthere : (∃ c, mem' (n :: pp) = some c) ↔ n ∈ kids')
    (hin : ∀ p, (n :: pp).isSuffixOf p = true → PathOK (s.disk.setLayer 0 L') mem' p)
    (log' : List Call) :
    Consistent { s with disk := s.disk.setLayer 0 L', mem := mem', log := log' } := by
  obtain ⟨hroots, htrees⟩ := wf_setLayer0 hup hc.roots hc.trees
    ⟨fun h => by rw [hout [] (by simp [List.isSuffixOf])]; exact h, fun _ => htree⟩
  have hfr : ∀ p, (n :: pp).isSuffixOf p = false → expReals (s.disk.setLayer 0 L') p = expReals s.disk p :=
    fun p hp => expReals_frame hc.roots hroots (indices_setLayer0 hup) p fun i q' hq' => by
      rw [nodeAt_outside hup hout hp i q' hq']; exact sameShape_refl _
  have hsib : ∀ {c}, c ≠ n → (n :: pp).isSuffixOf (c :: pp) = false := fun h => sibling_not_below pp h
  refine Consistent.of_paths hroots htrees ?_ fun p => ?_
  · obtain ⟨m0, hm0⟩ := hc.root
    by_cases h1 : [] = pp
    · exact ⟨_, h1 ▸ hpp⟩
    · exact ⟨m0, (hold [] (by simp [List.isSuffixOf]) h1).trans hm0⟩
  show PathOK (s.disk.setLayer 0 L') mem' p
  cases hb : (n :: pp).isSuffixOf p with
  | true => exact hin p hb
  | false =>
    by_cases h1 : p = pp
    · -- the node at `pp`: its names changed
      subst h1
      have hp := hc.path p
      refine ⟨fun m hm => ?_, fun m hm hlo c => ?_, fun c => ?_⟩
      · rw [hpp] at hm; cases hm
        unfold RealsOK
        rw [hfr p hb]
        exact ⟨hc.reals p pm hpm, hc.wh p pm hpm, hunl⟩
      · rw [hpp] at hm; cases hm
        by_cases hcn : c = n
        · subst hcn; exact hlist hlo
        · rw [hfr _ (hsib hcn)]
          show (c ∈ kids' → _) ∧ (_ → c ∈ kids')
          rw [hkids c hcn]; exact hp.kidsLoaded pm hpm hlo c
      · rw [hpp]
        by_cases hcn : c = n
        · subst hcn; rw [hthere]; simp
        · rw [hold _ (hsib hcn) (List.cons_ne_self c p), hp.kids c, hpm]; simp [hkids c hcn]
    · -- any other path outside: nothing read there has changed
      have hchild : ∀ c, (n :: pp).isSuffixOf (c :: p) = false :=
        fun c => not_below_child hb fun h => h1 (List.cons.inj h).2
      refine (hc.path p).frame (hold p hb h1) (fun c => ?_) (hfr p hb) fun c => hfr _ (hchild c)
      by_cases h2 : c :: p = pp
      · rw [h2]; exact ⟨fun _ => ⟨pm, hpm⟩, fun _ => ⟨_, hpp⟩⟩
      · rw [hold _ (hchild c) h2]

/-- only the node at `n :: pp` changes, keeping its names and its loaded flag, and below it the code
    keeps what it kept -/
theorem consistent_setNode {s : St} (hc : Consistent s) {L : Layer} (hup : s.disk.upper = some L)
    (n : Name) (pp : Path) (X : Node) {pm m m' : MNode}
    (hpm : s.mem pp = some pm) (hm : s.mem (n :: pp) = some m)
    (hkids : m'.kids = m.kids) (hloaded : m'.loaded = m.loaded)
    (hstep : HostStep L (L.set (n :: pp) X))
    (H1 : RealsOK (s.disk.setUpper (n :: pp) X) (n :: pp) m'.reals)
    (H2 : ∀ l : List Name, l ≠ [] →
      expReals (s.disk.setUpper (n :: pp) X) (l ++ n :: pp) = expReals s.disk (l ++ n :: pp))
    (H4 : m'.whiteout = headWhiteout m'.reals)
    (H5 : m'.reals ≠ [])
    (log' : List Call) :
    Consistent { s with disk := s.disk.setUpper (n :: pp) X, mem := s.mem.set (n :: pp) (some m'), log := log' } := by
  have hq : (s.mem.set (n :: pp) (some m')) (n :: pp) = some m' := if_pos rfl
  have hold : ∀ {p : Path}, p ≠ n :: pp → (s.mem.set (n :: pp) (some m')) p = s.mem p := fun h => if_neg h
  have hn2 := hc.listed hpm hm
  -- a path below `n :: pp` has its parent inside the subtree
  have hne : ∀ {c : Name} {p : Path}, (n :: pp).isSuffixOf p = true → c :: p ≠ n :: pp := fun hp h => by
    rw [(List.cons.inj h).2, not_below_parent] at hp; cases hp
  rw [setUpper_eq hup] at H1 H2 ⊢
  refine consistent_touch hc hup n pp hpm pm.kids _
    (fun p hp => L.set_ne X (ne_of_not_below hp)) (hstep.2 (hc.trees 0 L hup))
    ((hold (List.cons_ne_self n pp).symm).trans hpm) (fun p hp _ => hold (ne_of_not_below hp)) (fun _ _ => Iff.rfl)
    (hc.unloaded pp pm hpm) (fun _ => ⟨fun _ h => H5 ((realsOK_nonempty H1).2 h), fun _ => hn2⟩) ⟨fun _ => hn2, fun _ => ⟨m', hq⟩⟩
    (fun p hp => ?_) log'
  by_cases h1 : p = n :: pp
  · subst h1
    have hq0 := hc.path (n :: pp)
    refine ⟨fun m0 hm0 => ?_, fun m0 hm0 hlo c => ?_, fun c => ?_⟩
    · rw [hq] at hm0; cases hm0
      exact ⟨H1, H4, fun hlo => by rw [hkids]; exact hc.unloaded _ m hm (hloaded ▸ hlo)⟩
    · rw [hq] at hm0; cases hm0
      rw [show expReals _ (c :: n :: pp) = _ from H2 [c] (by simp), hkids]
      exact hq0.kidsLoaded m hm (hloaded ▸ hlo) c
    · rw [hold (hne hp), hq0.kids c, hq, hm]; simp [hkids]
  · obtain ⟨l, rfl⟩ := List.isSuffixOf_iff_suffix.1 hp
    exact (hc.path _).frame (hold h1) (fun c => by rw [hold (hne hp)]) (H2 l fun h => h1 (by rw [h]; rfl))
      fun c => H2 (c :: l) (by simp)

theorem insertedMem_apply (mem : Mem) (n : Name) (pp : Path) (pm m' : MNode) (p : Path) :
    insertedMem mem n pp pm m' p =
      if p = pp then some { pm with kids := addNames pm.kids [n] }
      else if p = n :: pp then some m'
      else if (n :: pp).isSuffixOf p then none else mem p := by
  simp only [insertedMem, Mem.set, removeSubtree]

theorem mem_addNames {old : List Name} {n x : Name} : x ∈ addNames old [n] ↔ x ∈ old ∨ x = n := by
  simp only [addNames, List.mem_append, List.mem_filter, List.mem_singleton]
  constructor
  · rintro (⟨h, _⟩ | h)
    · exact Or.inl h
    · exact Or.inr h
  · rintro (h | h)
    · by_cases hx : x = n
      · exact Or.inr hx
      · exact Or.inl ⟨h, by simpa using hx⟩
    · exact Or.inr h

theorem removedMem_apply (mem : Mem) (n : Name) (pp : Path) (pm : MNode) (p : Path) :
    removedMem mem n pp pm p =
      if p = pp then some { pm with kids := pm.kids.filter (· != n) }
      else if (n :: pp).isSuffixOf p then none else mem p := by
  simp only [removedMem, Mem.set, removeSubtree]

/-- the forest with the subtree at `n :: pp` replaced by `sub` and the names of `pp` by `kids'` -/
def graftedMem (mem : Mem) (n : Name) (pp : Path) (pm : MNode) (kids' : List Name) (sub : Option MNode) : Mem :=
  fun p =>
    if p = pp then some { pm with kids := kids' }
    else if p = n :: pp then sub
    else if (n :: pp).isSuffixOf p then none else mem p

theorem insertedMem_eq (mem : Mem) (n : Name) (pp : Path) (pm m' : MNode) :
    insertedMem mem n pp pm m' = graftedMem mem n pp pm (addNames pm.kids [n]) (some m') :=
  funext fun p => insertedMem_apply mem n pp pm m' p

theorem removedMem_eq (mem : Mem) (n : Name) (pp : Path) (pm : MNode) :
    removedMem mem n pp pm = graftedMem mem n pp pm (pm.kids.filter (· != n)) none := by
  funext p
  rw [removedMem_apply, graftedMem]
  by_cases h1 : p = pp
  · simp [h1]
  · by_cases h2 : p = n :: pp
    · simp [h2, below_self]
    · simp [h1, h2]

/-- the subtree at `n :: pp` is replaced by the childless node `sub`, or by nothing: what has to be
    checked is what the code keeps at the changed entry (and, for a loaded `sub`, below it) -/
theorem consistent_graft {s : St} (hc : Consistent s) {L L' : Layer} (hup : s.disk.upper = some L)
    (n : Name) (pp : Path) {pm : MNode} (hpm : s.mem pp = some pm) (kids' : List Name) (sub : Option MNode)
    (hout : ∀ p, (n :: pp).isSuffixOf p = false → L' p = L p) (htree : TreeOK L')
    (hkids : ∀ x, x ∈ kids' ↔ (x ∈ pm.kids ∧ x ≠ n) ∨ (x = n ∧ sub.isSome = true))
    (Hsome : ∀ m', sub = some m' → pm.loaded = true ∧ m'.kids = [] ∧
      RealsOK (s.disk.setLayer 0 L') (n :: pp) m'.reals ∧ m'.whiteout = headWhiteout m'.reals ∧
      m'.reals ≠ [] ∧
      (m'.loaded = true → ∀ c, needsNode (expReals (s.disk.setLayer 0 L') (c :: n :: pp)) = false))
    (Hnone : sub = none → needsNode (expReals (s.disk.setLayer 0 L') (n :: pp)) = false)
    (log' : List Call) :
    Consistent { s with disk := s.disk.setLayer 0 L', mem := graftedMem s.mem n pp pm kids' sub, log := log' } := by
  have hnpp : (n :: pp).isSuffixOf pp = false := not_below_parent n pp
  have hmem : ∀ p, graftedMem s.mem n pp pm kids' sub p =
      if p = pp then some { pm with kids := kids' } else if p = n :: pp then sub
      else if (n :: pp).isSuffixOf p then none else s.mem p := fun _ => rfl
  have hq : graftedMem s.mem n pp pm kids' sub (n :: pp) = sub := by
    rw [hmem, if_neg (List.cons_ne_self n pp), if_pos rfl]
  -- inside the subtree only the grafted node is left
  have hin : ∀ {x : Path} {m0 : MNode}, (n :: pp).isSuffixOf x = true →
      graftedMem s.mem n pp pm kids' sub x = some m0 → x = n :: pp ∧ sub = some m0 := by
    intro x m0 hx h
    rw [hmem, if_neg (fun h => by rw [h, hnpp] at hx; cases hx), hx] at h
    split at h
    · exact ⟨‹_›, h⟩
    · cases h
  have hsome : n ∈ kids' ↔ sub.isSome = true := by rw [hkids]; simp
  refine consistent_touch hc hup n pp hpm kids' _ hout htree
    ((hmem pp).trans (if_pos rfl)) (fun p hp h1 => ?_) (fun c hcn => by rw [hkids]; simp [hcn]) (fun hlo => ?_)
    (fun _ => ?_) ?_ (fun p hp => ?_) log'
  · rw [hmem, if_neg h1, if_neg (ne_of_not_below hp), hp]; rfl
  · refine List.eq_nil_iff_forall_not_mem.2 fun x hx' => ?_
    rcases (hkids x).1 hx' with h | h
    · rw [hc.unloaded pp pm hpm hlo] at h; cases h.1
    · obtain ⟨m', hsub⟩ := Option.isSome_iff_exists.1 h.2
      rw [(Hsome m' hsub).1] at hlo; cases hlo
  · cases hsub : sub with
    | some m' =>
      obtain ⟨_, _, hr, _, hne, _⟩ := Hsome m' hsub
      exact ⟨fun _ h => hne ((realsOK_nonempty hr).2 h), fun _ => hsome.2 (by rw [hsub]; rfl)⟩
    | none =>
      refine ⟨fun h => ?_, fun h => ?_⟩
      · have := hsome.1 h; rw [hsub] at this; cases this
      · rw [Hnone hsub] at h; cases h
  · rw [hq, hsome]; exact Option.isSome_iff_exists.symm
  · refine ⟨fun m hm => ?_, fun m hm hlo c => ?_, fun c => ⟨fun ⟨cm, hcm⟩ => ?_, fun ⟨m, hm, hcin⟩ => ?_⟩⟩
    · obtain ⟨rfl, hsub⟩ := hin hp hm
      obtain ⟨_, hk, hr, hw, _⟩ := Hsome m hsub
      exact ⟨hr, hw, fun _ => hk⟩
    · obtain ⟨rfl, hsub⟩ := hin hp hm
      obtain ⟨_, hk, _, _, _, hbelow⟩ := Hsome m hsub
      refine ⟨fun h => ?_, fun h => ?_⟩
      · rw [hk] at h; cases h
      · rw [hbelow hlo c] at h; cases h
    · have := (hin (below_of_below c hp) hcm).1
      rw [(List.cons.inj this).2, hnpp] at hp; cases hp
    · obtain ⟨rfl, hsub⟩ := hin hp hm
      rw [(Hsome m hsub).2.1] at hcin; cases hcin

theorem mem_suffix_closed {s : St} (hc : Consistent s) : ∀ (l : List Name) (q : Path) (m : MNode),
    s.mem (l ++ q) = some m → ∃ m', s.mem q = some m'
  | [], _, m, h => ⟨m, h⟩
  | c :: l, q, m, h => by
    obtain ⟨pm, hpm, _⟩ := hc.reach c (l ++ q) m h
    exact mem_suffix_closed hc l q pm hpm

theorem parent_of_below {s : St} (hc : Consistent s) {q p : Path} {m : MNode} (hm : s.mem p = some m)
    (hb : q.isSuffixOf p = true) (hne : p ≠ q) : ∃ o c, s.mem q = some o ∧ c ∈ o.kids := by
  obtain ⟨t, ht⟩ := List.isSuffixOf_iff_suffix.1 hb
  rcases List.eq_nil_or_concat t with rfl | ⟨t', c, rfl⟩
  · exact absurd (by simpa using ht.symm) hne
  · obtain ⟨cm, hcm⟩ := mem_suffix_closed hc t' (c :: q) m (by rw [← ht] at hm; simpa using hm)
    obtain ⟨o, ho, hck⟩ := hc.reach c q cm hcm
    exact ⟨o, c, ho, hck⟩

/-- a node is in the upper layer exactly when its kept stack starts with layer 0 -/
theorem inUpper_iff_stack {s : St} (hc : Consistent s) {p : Path} {m : MNode} (hm : s.mem p = some m) :
    m.inUpper = true ↔ ∃ t0, expIdx s.disk p = 0 :: t0 := by
  rcases realsOK_forms hc.roots (hc.reals _ m hm) with h | ⟨i, hi, hi0, h⟩
  · cases he : expIdx s.disk p with
    | nil => rw [he] at h; simp [MNode.inUpper_nil h]
    | cons i0 t0 =>
      rw [MNode.inUpper_cons (r := realOf s.disk p i0) (by rw [h, he]; rfl)]
      simp [realOf]
  · rw [MNode.inUpper_cons h, hi, hi0]; simp [staleOf, realOf]

theorem inUpper_stack {s : St} (hc : Consistent s) {p : Path} {m : MNode} (hm : s.mem p = some m)
    (hmu : m.inUpper = true) : ∃ t0, expIdx s.disk p = 0 :: t0 :=
  (inUpper_iff_stack hc hm).1 hmu

theorem parent_inUpper {s : St} (hc : Consistent s) {n : Name} {pp : Path} {m pm : MNode}
    (hm : s.mem (n :: pp) = some m) (hpm : s.mem pp = some pm) (hmu : m.inUpper = true) :
    pm.inUpper = true := by
  -- 0 is among the kept indices of the child, hence of the parent, hence the parent's first
  have h0 : 0 ∈ expIdx s.disk (n :: pp) := by
    obtain ⟨t0, ht0⟩ := inUpper_stack hc hm hmu
    rw [ht0]; simp
  have h0p : 0 ∈ expIdx s.disk pp := (expIdx_child_sublist s.disk n pp).subset h0
  refine (inUpper_iff_stack hc hpm).2 ?_
  cases he : expIdx s.disk pp with
  | nil => rw [he] at h0p; cases h0p
  | cons i t =>
    rw [he] at h0p
    simp only [List.mem_cons] at h0p
    rcases h0p with h | h
    · exact ⟨t, by rw [← h]⟩
    · have := (List.pairwise_cons.1 (he ▸ expIdx_sorted s.disk pp)).1 0 h
      omega

theorem ancestors_inUpper {s : St} (hc : Consistent s) {p q : Path} {m mq : MNode} (hq : q.isSuffixOf p = true)
    (hm : s.mem p = some m) (hmu : m.inUpper = true) (hmq : s.mem q = some mq) : mq.inUpper = true := by
  obtain ⟨l, rfl⟩ := List.isSuffixOf_iff_suffix.1 hq
  clear hq
  induction l generalizing m with
  | nil => rw [List.nil_append, hmq] at hm; cases hm; exact hmu
  | cons c l ih =>
    obtain ⟨pm, hpm, _⟩ := hc.reach c (l ++ q) m hm
    exact ih (parent_inUpper hc hm hpm hmu) hpm

theorem upper_head {s : St} (hc : Consistent s) {p : Path} {m : MNode} (hm : s.mem p = some m)
    (hmu : m.inUpper = true) :
    ∃ r, m.upperReal = some r ∧ r.layer = 0 ∧ r.path = p ∧ r.inUpper = true ∧
      r.whiteout = (s.disk.nodeAt 0 p).isWhiteout ∧ ∃ rest, m.reals = r :: rest := by
  obtain ⟨r, rest, hr, hru, hur⟩ := upperReal_of_inUpper hmu
  have hsh := reals_shape hc hm r (by simp [hr])
  have hl : r.layer = 0 := (real_inUpper_iff hc hm (by simp [hr])).1 hru
  exact ⟨r, hur, hl, hsh.1, hru, by rw [hsh.2.2, hl], rest, hr⟩

theorem statReal_upper {s : St} (hc : Consistent s) {L : Layer} (hup : s.disk.upper = some L) {p : Path}
    {m : MNode} (hm : s.mem p = some m) (hmu : m.inUpper = true) {r : Real} {rest : List Real}
    (hr : m.reals = r :: rest) : s.disk.statReal r = L p := by
  obtain ⟨r0, _, hl, hp, _, _, rest0, hr0⟩ := upper_head hc hm hmu
  rw [hr] at hr0; cases hr0
  rw [Disk.statReal, hl, hp, nodeAt_zero hup]

theorem whiteout_eq_stat {s : St} (hc : Consistent s) {p : Path} {m : MNode} (hm : s.mem p = some m)
    {r : Real} {rest : List Real} (hr : m.reals = r :: rest) : m.whiteout = (s.disk.statReal r).isWhiteout := by
  have hsh := reals_shape hc hm r (by simp [hr])
  rw [hc.wh p m hm, hr, Disk.statReal, hsh.1]
  exact hsh.2.2

theorem exists_upper {s : St} (hc : Consistent s) {p : Path} {m : MNode} (hm : s.mem p = some m)
    (hmu : m.inUpper = true) : ∃ L, s.disk.upper = some L := by
  obtain ⟨t0, ht0⟩ := inUpper_stack hc hm hmu
  have h0 : 0 ∈ s.disk.indices := (expIdx_sublist s.disk p).subset (by rw [ht0]; simp)
  cases h : s.disk.upper with
  | some L => exact ⟨L, rfl⟩
  | none => simp [Disk.indices, h] at h0

end Fbr.Ovl
