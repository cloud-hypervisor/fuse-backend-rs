/-
  The content-level invariants of a handle table under ANY operation.  `RdInv`, the invariant of the
  READERS of any table — virtio-fs or fusedev: they cannot overflow and lie inside memory and outside a
  zone `Z`; it speaks of cursors only and every step keeps it.  `MemOff Z m0`, what the writers of a
  table owe the readers: memory is as at the start outside `Z`.  `VInv`, the invariant of the
  WRITERS of a virtio-fs table: what was written and what the writers still hold are the writable
  descriptors' addresses (so the writers lie inside memory, and are pairwise distinct when the
  descriptors are), the sizes of the regions never change, and memory changed only where the log
  says something was written.
-/
import Fbr.Lemmas.XportRdC
import Fbr.Lemmas.XportWrOps
import Fbr.Lemmas.XportSys

namespace Fbr.Xport

theorem lt_length_of_getElem? {α : Type} {l : List α} {i : Nat} {b : α} (h : l[i]? = some b) : i < l.length :=
  (List.getElem?_eq_some_iff.mp h).1

theorem ahead_adv_subset {wr md : Bool} {l : List IoBufs} {i : Nat} {b b' : IoBufs} {w w' : World} (hg : l[i]? = some b)
    (h : Adv wr md b w b' w') : ∀ a ∈ ahead (l.set i b'), a ∈ ahead l :=
  fun _ ha => (perm_ahead_adv hg h.choose_spec).subset (List.mem_append_right _ ha)

theorem ahead_split_subset {l : List IoBufs} {i k : Nat} {b a o : IoBufs} (hg : l[i]? = some b)
    (hs : b.splitAt k = .ok (a, o)) : ∀ x ∈ ahead (l.set i a ++ [o]), x ∈ ahead l :=
  fun _ hx => (perm_splitAt hg hs).subset hx

theorem inMem_ahead {m : Mem} {l : List IoBufs} (h : ∀ b ∈ l, WF m b.segs) : InMem m (ahead l) := by
  intro a ha
  obtain ⟨b, hb, hab⟩ := mem_ahead.mp ha
  exact (h b hb).inMem a hab

theorem step_readers (s : St) (op : Op) :
    ((step s op).1.readers = s.readers ∧ ∀ i, delivered s i op = [])
    ∨ (∃ h b, ReaderOp s op h b) ∨ (∃ h k b a o, ReaderSplit s op h k b a o) := by
  rcases step_cases s op with ⟨e, hd, _⟩ | h | h | ⟨i, b, hwh, _, e⟩ | ⟨i, k, b, a, o, eop, _, _, e⟩
      | ⟨i, f, hfh, _, e⟩ | ⟨i, k, f, a, o, eop, _, _, e⟩ | ⟨i, o, f, eop, _, e⟩
  · exact .inl ⟨by rw [e], hd⟩
  · exact .inr (.inl h)
  · exact .inr (.inr h)
  · exact .inl ⟨by rw [e], delivered_none (wh_rh hwh)⟩
  · exact .inl ⟨by rw [e], delivered_none (by rw [eop]; rfl)⟩
  · exact .inl ⟨by rw [e], delivered_none (fh_rh hfh)⟩
  · exact .inl ⟨by rw [e], delivered_none (by rw [eop]; rfl)⟩
  · exact .inl ⟨by rw [e], delivered_none (by rw [eop]; rfl)⟩

theorem step_writers (s : St) (op : Op) (hnf : s.fws = []) :
    ((step s op).1.writers = s.writers ∧ KeepW s.w (step s op).1.w ∧ (∀ i, placed s i op = [])
        ∧ (step s op).1.fws = s.fws)
    ∨ (∃ h b, WriterOp s op h b) ∨ (∃ h k b a o, WriterSplit s op h k b a o) := by
  rcases step_cases_nofuse s op hnf with ⟨e, _, hd, _⟩ | ⟨i, b, hrh, _, e⟩ | ⟨i, k, b, a, o, eop, _, _, e⟩ | h | h
  · exact .inl ⟨by rw [e], by rw [e]; exact KeepW.refl _, hd, by rw [e]⟩
  · exact .inl ⟨by rw [e], by rw [e]; exact readerRun_keep b s.w op, placed_none (rh_wh hrh), by rw [e]⟩
  · exact .inl ⟨by rw [e], by rw [e]; exact KeepW.refl _, placed_none (by rw [eop]; rfl), by rw [e]⟩
  · exact .inr (.inl h)
  · exact .inr (.inr h)

/-- what the writers of a table owe its readers, `m0` being the memory the request started with; every table
    invariant that confines its writers to a zone gives it (`VInv.memOff`, `FInv.memOff`) -/
structure MemOff (Z : List Addr) (m0 : Mem) (s : St) : Prop where
  len : ∀ x, (s.w.mem.get x).length = (m0.get x).length
  frame : ∀ a, a ∉ Z → s.w.mem.byteAt a = m0.byteAt a

/-- it speaks of cursors only, so EVERY step keeps it, whatever the writers of the table are (`step_rdinv`);
    that the readers still hold what they held in `m0` is read off `MemOff` (`RdInv.agree`) -/
structure RdInv (Z : List Addr) (m0 : Mem) (s : St) : Prop where
  rov : ∀ b ∈ s.readers, b.consumed + total b.segs < USIZE
  rin : InMem m0 (ahead s.readers)
  out : ∀ a ∈ ahead s.readers, a ∉ Z

section
variable {Z : List Addr} {m0 : Mem} {s : St}

theorem RdInv.agree (h : RdInv Z m0 s) (hm : MemOff Z m0 s) : ∀ a ∈ ahead s.readers, s.w.mem.byteAt a = m0.byteAt a :=
  fun a ha => hm.frame a (h.out a ha)

theorem RdInv.rdc (h : RdInv Z m0 s) (hm : MemOff Z m0 s) {i : Nat} {b : IoBufs} (hg : s.readers[i]? = some b) (op : Op) :
    RdC (readerOut b s.w op) b s.w (readerRun b s.w op).1 (readerRun b s.w op).2 :=
  readerRun_rdc b s.w op (fun a ha => by rw [hm.len]; exact h.rin a (mem_ahead_of hg ha))
    (h.rov b (List.mem_of_getElem? hg))

theorem step_rdinv (h : RdInv Z m0 s) (op : Op) : RdInv Z m0 (step s op).1 := by
  rcases step_readers s op with ⟨e, _⟩ | ⟨i, b, _, hg, e⟩ | ⟨i, k, b, a, o, _, hg, hs, e⟩
  · exact ⟨e ▸ h.rov, e ▸ h.rin, e ▸ h.out⟩
  · have hov := h.rov b (List.mem_of_getElem? hg)
    have hadv := readerRun_adv b s.w op hov
    have hsub := ahead_adv_subset hg hadv
    rw [e]
    exact ⟨forall_set h.rov (hadv.inv ▸ hov), h.rin.mono hsub, fun a ha => h.out a (hsub a ha)⟩
  · obtain ⟨f1, f2⟩ := split_facts hs (h.rov b (List.mem_of_getElem? hg))
    have hsub := ahead_split_subset hg hs
    rw [e]
    exact ⟨forall_set_append h.rov f1 f2, h.rin.mono hsub, fun a ha => h.out a (hsub a ha)⟩

theorem exec_rdinv (ops : List Op) (h : RdInv Z m0 s) : RdInv Z m0 (exec s ops) :=
  exec_induct step_rdinv ops h

end

/-- `W0`: the writable addresses of the request, `m0`: its memory at the start.  `wonce` puts every writer inside
    memory (`VInv.inMem`) and makes the writers pairwise distinct when `W0` is (`nodup_of_perm_append`).  It asks nothing
    of the readers: what they do to the world is `KeepW`, whatever their cursors -/
structure VInv (W0 : List Addr) (m0 : Mem) (s : St) : Prop where
  nofuse : s.fws = []
  wov : ∀ b ∈ s.writers, b.consumed + total b.segs < USIZE
  wonce : (wrAddrs s.w.log ++ ahead s.writers).Perm W0
  win : InMem m0 W0
  len : ∀ x, (s.w.mem.get x).length = (m0.get x).length
  frame : ∀ a, a ∉ wrAddrs s.w.log → s.w.mem.byteAt a = m0.byteAt a

section
variable {W0 : List Addr} {m0 : Mem} {s : St}

theorem VInv.sub (h : VInv W0 m0 s) : ∀ a ∈ ahead s.writers, a ∈ W0 :=
  fun _ ha => h.wonce.subset (List.mem_append_right _ ha)

theorem VInv.inMem (h : VInv W0 m0 s) {i : Nat} {b : IoBufs} (hg : s.writers[i]? = some b) :
    InMem s.w.mem (addrs b.segs) :=
  fun a ha => by rw [h.len]; exact h.win a (h.sub a (mem_ahead_of hg ha))

theorem VInv.wrc (h : VInv W0 m0 s) {i : Nat} {b : IoBufs} (hg : s.writers[i]? = some b) (op : Op) :
    WrC (writerIn b s.w op) b s.w (writerRun b s.w op).1 (writerRun b s.w op).2 :=
  writerRun_wrc b s.w op (h.inMem hg) (h.wov b (List.mem_of_getElem? hg))

theorem step_vinv (h : VInv W0 m0 s) (op : Op) : VInv W0 m0 (step s op).1 := by
  rcases step_writers s op h.nofuse with ⟨e, hk, _, hf⟩ | ⟨i, b, _, hg, e⟩ | ⟨i, k, b, a, o, _, hg, hs, e⟩
  · exact ⟨hf.trans h.nofuse, e ▸ h.wov, by rw [hk.2.2, e]; exact h.wonce, h.win, fun x => by rw [hk.1]; exact h.len x,
      fun a ha => by rw [hk.2.2] at ha; rw [hk.1]; exact h.frame a ha⟩
  · have hw := h.wrc hg op
    rw [e]
    refine ⟨h.nofuse, forall_set h.wov (hw.hov (h.wov b (List.mem_of_getElem? hg))), (perm_adv hg hw.adv).trans h.wonce, h.win,
      fun x => (hw.len x).trans (h.len x), ?_⟩
    intro a ha
    simp only at ha ⊢
    rw [hw.adv.wlog, List.mem_append, not_or] at ha
    rw [hw.frame a ha.2]; exact h.frame a ha.1
  · rw [e]
    obtain ⟨f1, f2⟩ := split_facts hs (h.wov b (List.mem_of_getElem? hg))
    exact ⟨h.nofuse, forall_set_append h.wov f1 f2, (List.Perm.append_left _ (perm_splitAt hg hs)).trans h.wonce,
      h.win, h.len, h.frame⟩

theorem exec_vinv (ops : List Op) (h : VInv W0 m0 s) : VInv W0 m0 (exec s ops) :=
  exec_induct step_vinv ops h

/-- nothing outside the writable descriptors ever changes: what `reads_run` needs of the virtio-fs transport -/
theorem VInv.memOff (h : VInv W0 m0 s) : MemOff W0 m0 s :=
  ⟨h.len, fun a ha => h.frame a fun hm => ha (h.wonce.subset (List.mem_append_left _ hm))⟩

end

theorem start_vinv {st : St} (h : Start st) (hw : ∀ b ∈ st.writers, WF st.w.mem b.segs) :
    VInv (writable st) st.w.mem st :=
  ⟨h.nofuse, h.wov, (start_ainv h).wonce, inMem_ahead hw, fun _ => rfl, fun _ _ => rfl⟩

end Fbr.Xport
