/-
  Arithmetic of `UniqueInodeGenerator`'s packing `(unique_id << 47) | inode`, with the virtual-inode
  bit `1 << 55` (util.rs).
-/
import Fbr.PtRefs

namespace Fbr.PtRefs

theorem packIno_eq (uid ino : Nat) (h : ino < 2 ^ 47) : packIno uid ino = uid * 2 ^ 47 + ino := by
  unfold packIno
  rw [← Nat.shiftLeft_add_eq_or_of_lt h, Nat.shiftLeft_eq]

theorem virt_eq (v : Nat) (h : v < 2 ^ 55) : v ||| VIRTUAL_INODE_FLAG = 2 ^ 55 + v := by
  rw [VIRTUAL_INODE_FLAG, Nat.or_two_pow_eq_add_of_lt h, Nat.add_comm]

theorem packIno_virt_eq (uid v : Nat) (hu : uid < 256) (hv : v < 2 ^ 47) :
    packIno uid (v ||| VIRTUAL_INODE_FLAG) = 2 ^ 55 + (uid * 2 ^ 47 + v) := by
  have hx : uid * 2 ^ 47 + v < 2 ^ 55 := by omega
  rw [← virt_eq _ hx, ← packIno_eq uid v hv]
  unfold packIno
  rw [Nat.or_assoc]

theorem max_host_lt (a : Nat) (h : a ≤ MAX_HOST_INO) : a < 2 ^ 47 := by unfold MAX_HOST_INO at h; omega

theorem pack_inj {u u' a a' : Nat} (ha : a ≤ MAX_HOST_INO) (ha' : a' ≤ MAX_HOST_INO)
    (h : packIno u a = packIno u' a') : u = u' ∧ a = a' := by
  have h1 := max_host_lt a ha; have h2 := max_host_lt a' ha'
  rw [packIno_eq u a h1, packIno_eq u' a' h2] at h
  omega

theorem pack_virt_inj {u u' v v' : Nat} (hu : u < 255) (hu' : u' < 255) (hv : v ≤ MAX_HOST_INO) (hv' : v' ≤ MAX_HOST_INO)
    (h : packIno u (v ||| VIRTUAL_INODE_FLAG) = packIno u' (v' ||| VIRTUAL_INODE_FLAG)) : u = u' ∧ v = v' := by
  have h1 := max_host_lt v hv; have h2 := max_host_lt v' hv'
  rw [packIno_virt_eq u v (by omega) h1, packIno_virt_eq u' v' (by omega) h2] at h
  omega

theorem pack_ne_virt {u u' a v : Nat} (hu : u < 255) (hu' : u' < 255) (ha : a ≤ MAX_HOST_INO) (hv : v ≤ MAX_HOST_INO) :
    packIno u a ≠ packIno u' (v ||| VIRTUAL_INODE_FLAG) := by
  have h1 := max_host_lt a ha; have h2 := max_host_lt v hv
  rw [packIno_eq u a h1, packIno_virt_eq u' v (by omega) h2]
  omega

theorem pack_ne_root {u a : Nat} (hu : 1 ≤ u) (ha : a ≤ MAX_HOST_INO) : packIno u a ≠ ROOT_ID := by
  have h1 := max_host_lt a ha
  rw [packIno_eq u a h1]; unfold ROOT_ID; omega

theorem pack_virt_ne_root {u v : Nat} (hu : u < 255) (hv : v ≤ MAX_HOST_INO) :
    packIno u (v ||| VIRTUAL_INODE_FLAG) ≠ ROOT_ID := by
  have h2 := max_host_lt v hv
  rw [packIno_virt_eq u v (by omega) h2]; unfold ROOT_ID; omega

end Fbr.PtRefs
