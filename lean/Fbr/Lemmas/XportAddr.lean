/-
  The flat address list of a buffer list (`segAddrs`, `addrs`, `total`: membership, distinctness,
  cutting), the IoBuffers loops (`allocate`, `mark_dirty`, `mark_used`, `split_at`) as
  `take`/`drop` on it, and what the constructors guarantee of the cursor they build from a
  descriptor chain (`fromChainAux_spec`).
-/
import Fbr.XportSpec

namespace Fbr.Xport

theorem Spec.advance_min {α : Type} (s : Spec α) (n : Nat) : s.advance n = s.advance (min n s.rest.length) := by
  simp only [Spec.advance, Nat.min_assoc, Nat.min_self, ← List.take_eq_take_min]
  rw [List.drop_eq_drop_iff.mpr (show min n s.rest.length = min (min n s.rest.length) s.rest.length by omega)]

@[simp] theorem length_segAddrs (s : Seg) : (segAddrs s).length = s.len := by
  simp [segAddrs]

@[simp] theorem length_addrs (segs : List Seg) : (addrs segs).length = total segs := by
  induction segs with
  | nil => rfl
  | cons s rest ih => simp [addrs, total, ih]

theorem segAddrs_zero (s : Seg) (h : s.len = 0) : segAddrs s = [] := by
  simp [segAddrs, h]

theorem mem_segAddrs {s : Seg} {a : Addr} :
    a ∈ segAddrs s ↔ a.1 = s.region ∧ s.off ≤ a.2 ∧ a.2 < s.off + s.len := by
  obtain ⟨r, i⟩ := a
  simp only [segAddrs, List.mem_map, List.mem_range, Prod.mk.injEq]
  constructor
  · rintro ⟨j, hj, rfl, rfl⟩; omega
  · rintro ⟨rfl, h1, h2⟩; exact ⟨i - s.off, by omega, rfl, by omega⟩

theorem getElem_segAddrs (s : Seg) (j : Nat) (h : j < (segAddrs s).length) :
    (segAddrs s)[j] = (s.region, s.off + j) := by
  simp [segAddrs]

theorem segAddrs_take (s : Seg) (n : Nat) (h : n ≤ s.len) :
    (segAddrs s).take n = segAddrs { s with len := n } := by
  simp only [segAddrs, ← List.map_take, List.take_range]
  congr 2; omega

theorem segAddrs_drop (s : Seg) (n : Nat) :
    (segAddrs s).drop n = segAddrs { s with off := s.off + n, len := s.len - n } := by
  apply List.ext_getElem
  · simp
  · intro i h1 h2
    simp [segAddrs] at h1 h2 ⊢
    omega

theorem dirtyRanges_eq_allocate (segs : List Seg) (n : Nat) : dirtyRanges segs n = allocate segs n := by
  induction segs generalizing n with
  | nil => rfl
  | cons s rest ih => simp only [dirtyRanges, allocate, ih]

theorem dirtyRanges_zero (X : List Seg) : dirtyRanges X 0 = [] := by
  cases X <;> rfl

/-! `take`/`drop` on the flat list of `s :: rest`, in the two cases every loop distinguishes: the cut
falls inside the first buffer, or behind it -/

theorem take_segAddrs_append_le (s : Seg) (X : List Addr) {k : Nat} (h : k ≤ s.len) :
    (segAddrs s ++ X).take k = segAddrs { s with len := k } := by
  rw [List.take_append_of_le_length (by rw [length_segAddrs]; exact h), segAddrs_take s k h]

theorem take_segAddrs_append_ge (s : Seg) (X : List Addr) {k : Nat} (h : s.len ≤ k) :
    (segAddrs s ++ X).take k = segAddrs s ++ X.take (k - s.len) := by
  rw [List.take_append, length_segAddrs, List.take_of_length_le (by rw [length_segAddrs]; exact h)]

theorem drop_segAddrs_append_le (s : Seg) (X : List Addr) {k : Nat} (h : k ≤ s.len) :
    (segAddrs s ++ X).drop k = segAddrs { s with off := s.off + k, len := s.len - k } ++ X := by
  rw [List.drop_append_of_le_length (by rw [length_segAddrs]; exact h), segAddrs_drop]

theorem drop_segAddrs_append_ge (s : Seg) (X : List Addr) {k : Nat} (h : s.len ≤ k) :
    (segAddrs s ++ X).drop k = X.drop (k - s.len) := by
  rw [List.drop_append, length_segAddrs, List.drop_of_length_le (by rw [length_segAddrs]; exact h), List.nil_append]

theorem addrs_allocate (segs : List Seg) (n : Nat) : addrs (allocate segs n) = (addrs segs).take n := by
  induction segs generalizing n with
  | nil => simp [allocate, addrs]
  | cons s rest ih =>
    unfold allocate
    split
    · subst n; rfl
    dsimp only
    split
    · simp only [addrs, ih, Nat.sub_self, List.take_zero, List.append_nil]
      exact (take_segAddrs_append_le s _ (by omega)).symm
    · simp only [addrs, ih]
      exact (take_segAddrs_append_ge s _ (by omega)).symm

theorem addrs_markUsed (segs : List Seg) (n : Nat) : addrs (markUsedSegs segs n) = (addrs segs).drop n := by
  induction segs generalizing n with
  | nil => simp [markUsedSegs, addrs]
  | cons s rest ih =>
    unfold markUsedSegs
    split
    · exact (drop_segAddrs_append_le s _ (by omega)).symm
    · rw [ih]; exact (drop_segAddrs_append_ge s _ (by omega)).symm

theorem splitSegs_some {segs a o : List Seg} {k : Nat} : splitSegs segs k = some (a, o) →
    k ≤ total segs ∧ addrs a = (addrs segs).take k ∧ addrs o = (addrs segs).drop k := by
  fun_induction splitSegs segs k generalizing a
  -- nothing cut from nothing
  case case1 => intro h; cases h; simp [addrs]
  -- the cut falls inside the first buffer
  case case3 s _ _ _ _ =>
    intro h; cases h
    simp only [total, addrs]
    exact ⟨by omega, by rw [List.append_nil]; exact (take_segAddrs_append_le s _ (by omega)).symm,
      (drop_segAddrs_append_le s _ (by omega)).symm⟩
  -- the cut falls in front of the first buffer
  case case4 k _ _ =>
    intro h; cases h
    obtain rfl : k = 0 := by omega
    simp [addrs]
  -- the cut falls behind the first buffer, and is found in the rest
  case case5 s _ _ _ _ _ hr ih =>
    intro h; cases h
    obtain ⟨i1, i2, i3⟩ := ih hr
    simp only [total, addrs]
    exact ⟨by omega, by rw [i2]; exact (take_segAddrs_append_ge s _ (by omega)).symm,
      by rw [i3]; exact (drop_segAddrs_append_ge s _ (by omega)).symm⟩
  -- no cut
  all_goals nofun

theorem splitSegs_none {segs : List Seg} {k : Nat} : splitSegs segs k = none → total segs < k := by
  fun_induction splitSegs segs k
  -- behind the last buffer with something left to cut
  case case2 => intro _; simp only [total]; omega
  -- the cut lies behind the first buffer and the rest is too short
  case case6 hr ih => intro _; have := ih hr; simp only [total]; omega
  -- a cut is found
  all_goals nofun

theorem splitAt_ok {b a o : IoBufs} {k : Nat} (h : b.splitAt k = .ok (a, o)) :
    k ≤ total b.segs ∧ addrs a.segs = (addrs b.segs).take k ∧ addrs o.segs = (addrs b.segs).drop k
      ∧ a.consumed = b.consumed ∧ o.consumed = 0 ∧ total a.segs = k ∧ total o.segs = total b.segs - k := by
  unfold IoBufs.splitAt at h
  split at h <;> cases h
  next a' o' e =>
    obtain ⟨hk, ha, ho⟩ := splitSegs_some e
    have la := congrArg List.length ha
    have lo := congrArg List.length ho
    simp only [length_addrs, List.length_take, List.length_drop] at la lo
    exact ⟨hk, ha, ho, rfl, rfl, la.trans (Nat.min_eq_left hk), lo⟩

theorem splitAt_error_iff (b : IoBufs) (k : Nat) :
    total b.segs < k ↔ ∃ e, b.splitAt k = .error e := by
  unfold IoBufs.splitAt
  split
  · next e => have := (splitSegs_some e).1; simp; omega
  · next e => have := splitSegs_none e; simp; omega

theorem splitAt_addrs {b a o : IoBufs} {k : Nat} (hs : b.splitAt k = .ok (a, o)) :
    addrs b.segs = addrs a.segs ++ addrs o.segs := by
  obtain ⟨_, ha, ho, _⟩ := splitAt_ok hs
  rw [ha, ho, List.take_append_drop]

theorem split_facts {b a o : IoBufs} {k : Nat} (hs : b.splitAt k = .ok (a, o)) (hov : b.consumed + total b.segs < USIZE) :
    a.consumed + total a.segs < USIZE ∧ o.consumed + total o.segs < USIZE := by
  obtain ⟨hk, _, _, ca, co, la, lo⟩ := splitAt_ok hs
  exact ⟨by omega, by omega⟩

theorem available_eq_total (b : IoBufs) : b.available = total b.segs := by
  unfold IoBufs.available
  suffices h : ∀ (l : List Seg) (c : Nat), l.foldl (fun c s => c + s.len) c = c + total l by
    simpa using h b.segs 0
  intro l
  induction l with
  | nil => intro c; simp [total]
  | cons s rest ih => intro c; simp [List.foldl, total, ih]; omega

theorem total_allocate (segs : List Seg) (n : Nat) : total (allocate segs n) = min n (total segs) := by
  have := congrArg List.length (addrs_allocate segs n)
  simpa using this

theorem total_markUsed (segs : List Seg) (n : Nat) : total (markUsedSegs segs n) = total segs - n := by
  have := congrArg List.length (addrs_markUsed segs n)
  simpa using this

theorem total_append (a b : List Seg) : total (a ++ b) = total a + total b := by
  induction a with
  | nil => simp [total]
  | cons s rest ih => simp [total, ih]; omega

theorem total_reverse (a : List Seg) : total a.reverse = total a := by
  induction a with
  | nil => rfl
  | cons s rest ih => simp [total_append, total, ih]; omega

theorem take_min_segAddrs (s : Seg) (rem : Nat) :
    segAddrs { s with len := min rem s.len } = (segAddrs s).take rem := by
  rw [← segAddrs_take s (min rem s.len) (Nat.min_le_right _ _), List.take_eq_take_min (i := rem), length_segAddrs]

theorem take_cons_addrs (s : Seg) (rest : List Seg) (rem : Nat) :
    (segAddrs s).take rem ++ (addrs rest).take (rem - min rem s.len) = (addrs (s :: rest)).take rem := by
  simp only [addrs, List.take_append, length_segAddrs]
  congr 2
  omega

theorem mem_addrs {segs : List Seg} {a : Addr} : a ∈ addrs segs ↔ ∃ s ∈ segs, a ∈ segAddrs s := by
  induction segs with
  | nil => simp [addrs]
  | cons s rest ih => simp [addrs, ih]

theorem nodup_segAddrs (s : Seg) : (segAddrs s).Nodup := by
  rw [List.nodup_iff_pairwise_ne]
  unfold segAddrs
  rw [List.pairwise_map]
  exact List.pairwise_lt_range.imp (fun h e => by
    have := congrArg Prod.snd e
    simp only at this
    omega)

theorem nodup_addrs (segs : List Seg)
    (h : segs.Pairwise fun s t => s.region ≠ t.region ∨ s.off + s.len ≤ t.off ∨ t.off + t.len ≤ s.off) :
    (addrs segs).Nodup := by
  induction segs with
  | nil => exact List.nodup_nil
  | cons s rest ih =>
    obtain ⟨hs, hrest⟩ := List.pairwise_cons.mp h
    refine List.nodup_append.mpr ⟨nodup_segAddrs s, ih hrest, ?_⟩
    rintro a ha _ hb rfl
    obtain ⟨t, ht, hat⟩ := mem_addrs.mp hb
    rw [mem_segAddrs] at ha hat
    rcases hs t ht with h1 | h1
    · exact h1 (ha.1.symm.trans hat.1)
    · omega

theorem segAddrs_subset {r off n off' n' : Nat} (h1 : off' ≤ off) (h2 : off + n ≤ off' + n') :
    ∀ a ∈ segAddrs ⟨r, off, n⟩, a ∈ segAddrs ⟨r, off', n'⟩ := by
  intro a ha
  rw [mem_segAddrs] at ha ⊢
  simp only at ha ⊢; omega

theorem mk_mem_segAddrs (s : Seg) (j : Nat) (h : j < s.len) : (s.region, s.off + j) ∈ segAddrs s :=
  mem_segAddrs.mpr ⟨rfl, Nat.le_add_right _ _, Nat.add_lt_add_left h _⟩

theorem map_range_add {β : Type} (f : Nat → β) (a b : Nat) :
    (List.range (a + b)).map f = (List.range a).map f ++ (List.range b).map fun i => f (a + i) := by
  rw [List.range_add, List.map_append, List.map_map]; rfl

theorem segAddrs_split (r off a b : Nat) :
    segAddrs ⟨r, off, a + b⟩ = segAddrs ⟨r, off, a⟩ ++ segAddrs ⟨r, off + a, b⟩ := by
  simp only [segAddrs, map_range_add, Nat.add_assoc]

theorem addrs_single (s : Seg) : addrs [s] = segAddrs s := by simp [addrs]

theorem take_addrs_single (s : Seg) (n : Nat) (h : n ≤ s.len) : (addrs [s]).take n = segAddrs { s with len := n } := by
  rw [addrs_single, segAddrs_take s n h]

/-! ### the constructors `Reader::from_descriptor_chain` / `VirtioFsWriter::new`: the cursors they yield lie inside
    the guest memory regions and cannot overflow -/

def Fits (lay : Layout) (s : Seg) : Prop := ∃ e ∈ lay, e.1 = s.region ∧ s.off + s.len ≤ e.2.2

theorem fromChainAux_spec (lay : Layout) (ds : List Desc) (tot : Nat) (acc res : List Seg)
    (ht : total acc = tot) (hu : tot < USIZE) (hf : ∀ s ∈ acc, Fits lay s) :
    fromChainAux lay ds tot acc = .ok res →
    total res < USIZE ∧ (∀ s ∈ res, Fits lay s)
      ∧ res.map (·.len) = (acc.reverse.map (·.len)) ++ ds.map (·.len) := by
  fun_induction fromChainAux lay ds tot acc
  -- the chain is exhausted: the buffers collected, in chain order
  case case1 =>
    intro h; cases h
    exact ⟨by rw [total_reverse, ht]; exact hu, fun s hs => hf s (List.mem_reverse.mp hs), by simp⟩
  -- the descriptor lies inside a region and the total stays below `usize::MAX`: it is collected
  case case5 d _ _ _ _ r base size hfr off _ ih =>
    intro h
    have hmem : (r, base, size) ∈ lay := by
      unfold findRegion at hfr; exact List.mem_of_find?_eq_some hfr
    obtain ⟨i1, i2, i3⟩ := ih (by simp [total, ht]; omega) (by omega) (by
      intro s hs
      rcases List.mem_cons.mp hs with rfl | hs
      · exact ⟨(r, base, size), hmem, rfl, by simp only [off]; omega⟩
      · exact hf s hs) h
    exact ⟨i1, i2, by rw [i3]; simp⟩
  -- the total overflows, no region holds the address, the descriptor runs out of its region: errors
  all_goals nofun

end Fbr.Xport
