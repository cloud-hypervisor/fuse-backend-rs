/-
  How the four store transitions of `Fbr.Conc` (increment, decrement, remove, insert) act on the
  store part of the invariant.
-/
import Fbr.Lemmas.ConcInv

namespace Fbr.Conc

theorem probe_some {c : Cfg} {st : Store} {incs decs : HostId → Nat} (h : SInv c st incs decs)
    {f : HostId} {o : ObjId} (hp : probe st f = some o) :
    ∃ i, st.byId f = some i ∧ st.data i = some o ∧ st.objHost o = f := by
  unfold probe at hp
  cases hb : st.byId f with
  | none => simp [hb] at hp
  | some i =>
    simp [hb] at hp
    refine ⟨i, rfl, hp, ?_⟩
    have := (h.dataObj i o hp).2.2
    exact h.byIdInj _ _ i this hb

theorem probe_of_data {c : Cfg} {st : Store} {incs decs : HostId → Nat} (h : SInv c st incs decs)
    {i : Ino} {o : ObjId} (hd : st.data i = some o) : probe st (st.objHost o) = some o := by
  have := (h.dataObj i o hd).2.2
  simp [probe, this, hd]

theorem SInv.single {c : Cfg} {st : Store} {incs decs : HostId → Nat} (h : SInv c st incs decs) {i j : Ino}
    {o o' : ObjId} (hi : st.data i = some o) (hj : st.data j = some o') (he : st.objHost o = st.objHost o') :
    i = j ∧ o = o' := by
  have a := (h.dataObj i o hi).2.2
  rw [he, (h.dataObj j o' hj).2.2] at a
  cases a
  rw [hi] at hj
  exact ⟨rfl, Option.some.inj hj⟩

theorem liveCount_of_data {c : Cfg} {st : Store} {incs decs : HostId → Nat} (h : SInv c st incs decs)
    {i : Ino} {o : ObjId} (hd : st.data i = some o) : liveCount st (st.objHost o) = st.cells o :=
  liveCount_some (probe_of_data h hd)

theorem sinv_cells {c : Cfg} {st : Store} {incs decs : HostId → Nat} (h : SInv c st incs decs)
    {i : Ino} {o : ObjId} (hd : st.data i = some o) (v : Nat) {incs' decs' : HostId → Nat}
    (hg : v + decs' (st.objHost o) = incs' (st.objHost o))
    (hother : ∀ f, f ≠ st.objHost o → decs' f = decs f ∧ incs' f = incs f) :
    SInv c { st with cells := upd st.cells o v } incs' decs' := by
  refine ⟨h.dataObj, h.byIdInj, h.fresh, h.packed, ?_, ?_⟩
  · intro o' ho' hn
    have : o' ≠ o := by intro e; subst e; exact hn i hd
    simp only [upd_apply, this, if_false]
    exact h.orphan o' ho' hn
  · intro f
    by_cases hf : f = st.objHost o
    · subst hf
      -- `probe` does not read the counts
      have h2 : liveCount { st with cells := upd st.cells o v } (st.objHost o) = v :=
        (liveCount_some (st := { st with cells := upd st.cells o v }) (probe_of_data h hd)).trans (if_pos rfl)
      rw [h2]; exact hg
    · have h2 : liveCount { st with cells := upd st.cells o v } f = liveCount st f := by
        refine liveCount_congr rfl fun j hbf => ⟨rfl, fun o' hdj => ?_⟩
        have : o' ≠ o := by
          intro e; subst e
          exact hf (h.byIdInj _ _ j hbf (h.dataObj j o' hdj).2.2)
        simp [this]
      rw [h2, (hother f hf).1, (hother f hf).2]; exact h.ghost f

theorem sinv_inc {c : Cfg} {st : Store} {incs decs : HostId → Nat} (h : SInv c st incs decs)
    {i : Ino} {o : ObjId} (hd : st.data i = some o) :
    SInv c { st with cells := upd st.cells o (st.cells o + 1) }
      (upd incs (st.objHost o) (incs (st.objHost o) + 1)) decs := by
  apply sinv_cells h hd
  · have := h.ghost (st.objHost o)
    rw [liveCount_of_data h hd] at this
    simp only [upd_apply, if_true]; omega
  · intro f hf; simp [hf]

theorem sinv_dec {c : Cfg} {st : Store} {incs decs : HostId → Nat} (h : SInv c st incs decs)
    {i : Ino} {o : ObjId} (hd : st.data i = some o) (new : Nat) (hle : new ≤ st.cells o) :
    SInv c { st with cells := upd st.cells o new } incs
      (upd decs (st.objHost o) (decs (st.objHost o) + (st.cells o - new))) := by
  apply sinv_cells h hd
  · have := h.ghost (st.objHost o)
    rw [liveCount_of_data h hd] at this
    simp only [upd_apply, if_true]; omega
  · intro f hf; simp [hf]

/-- the store after `InodeStore::remove(i, keep)` -/
def removeAt (c : Cfg) (st : Store) (i : Ino) (o : ObjId) : Store :=
  { st with data := upd st.data i none,
            byId := if c.keep then st.byId else upd st.byId (st.objHost o) none }

theorem removeAt_byId_sub {c : Cfg} {st : Store} {i : Ino} {o : ObjId} {f : HostId} {j : Ino}
    (h : (removeAt c st i o).byId f = some j) : st.byId f = some j := by
  unfold removeAt at h
  cases hk : c.keep <;> simp [hk] at h
  · exact h.2
  · exact h

theorem sinv_remove {c : Cfg} {st : Store} {incs decs : HostId → Nat} (h : SInv c st incs decs)
    {i : Ino} {o : ObjId} (hd : st.data i = some o) (hz : st.cells o = 0) :
    SInv c (removeAt c st i o) incs decs := by
  have hbo := (h.dataObj i o hd).2.2
  constructor
  · intro j o' hj
    obtain ⟨hji, hj'⟩ := upd_none_some hj
    obtain ⟨a, b, d⟩ := h.dataObj j o' hj'
    refine ⟨a, b, ?_⟩
    cases hk : c.keep
    · have hne : st.objHost o' ≠ st.objHost o := by
        intro e; rw [e, hbo] at d; exact hji (Option.some.inj d).symm
      simp [removeAt, hk, hne, d]
    · simp [removeAt, hk, d]
  · intro f g j hf hg
    exact h.byIdInj f g j (removeAt_byId_sub hf) (removeAt_byId_sub hg)
  · intro hk
    obtain ⟨a, b⟩ := h.fresh hk
    constructor
    · intro f j hf; exact a f j (removeAt_byId_sub hf)
    · intro j o' hj; exact b j o' (upd_none_some hj).2
  · intro hk f j hf; exact h.packed hk f j (removeAt_byId_sub hf)
  · intro o' ho' hn
    by_cases e : o' = o
    · subst e; exact hz
    · apply h.orphan o' ho'
      intro j hj
      have hji : j ≠ i := by intro e2; subst e2; rw [hd] at hj; exact e (Option.some.inj hj).symm
      exact hn j (by simpa [removeAt, hji] using hj)
  · intro f
    have hg := h.ghost f
    have hl : liveCount (removeAt c st i o) f = liveCount st f := by
      by_cases hf : f = st.objHost o
      · subst hf
        have h1 := liveCount_of_data h hd
        rw [h1, hz]
        rw [liveCount_eq]
        cases hk : c.keep
        · simp [removeAt, hk]
        · simp [removeAt, hk, hbo]
      · refine liveCount_congr (by cases hk : c.keep <;> simp [removeAt, hk, hf]) fun j hbf => ?_
        have hji : j ≠ i := by
          intro e; subst e; exact hf (h.byIdInj _ _ j hbf hbo)
        exact ⟨by simp [removeAt, hji], fun _ _ => rfl⟩
    rw [hl]; exact hg

/-- a store with a new object for file `f` stored under `ino` -/
def ins (st : Store) (next0 : Nat) (ino : Ino) (f : HostId) : Store :=
  { st with next := next0, data := upd st.data ino (some st.nobj), byId := upd st.byId f (some ino),
            cells := upd st.cells st.nobj 1, objIno := upd st.objIno st.nobj ino,
            objHost := upd st.objHost st.nobj f, nobj := st.nobj + 1 }

theorem no_live_host {c : Cfg} {st : Store} {incs decs : HostId → Nat} (h : SInv c st incs decs)
    {f : HostId} (hp : probe st f = none) : ∀ j o', st.data j = some o' → st.objHost o' ≠ f := by
  intro j o' hj e
  have := probe_of_data h hj
  rw [e, hp] at this; cases this

theorem sinv_ins {c : Cfg} {st : Store} {incs decs : HostId → Nat} (h : SInv c st incs decs)
    {f : HostId} {ino : Ino} {next0 : Nat} (hp : probe st f = none)
    (hino : st.data ino = none) (hother : ∀ g, g ≠ f → st.byId g ≠ some ino)
    (hnext : c.keep = true → ino < next0 ∧ st.next ≤ next0) (hpack : c.keep = false → ino = c.pack f) :
    SInv c (ins st next0 ino f) (upd incs f (incs f + 1)) decs := by
  have hnof := no_live_host h hp
  constructor
  · intro j o' hj
    rcases upd_some_some hj with ⟨rfl, rfl⟩ | ⟨hji, hj'⟩
    · simp [ins]
    · obtain ⟨a, b, d⟩ := h.dataObj j o' hj'
      have hne : o' ≠ st.nobj := Nat.ne_of_lt a
      have hf : st.objHost o' ≠ f := hnof j o' hj'
      refine ⟨by simp only [ins]; exact Nat.lt_succ_of_lt a, by simp [ins, hne, b], by simp [ins, hne, hf, d]⟩
  · intro g1 g2 j h1 h2
    rcases upd_some_some h1 with ⟨rfl, rfl⟩ | ⟨e1, a1⟩ <;> rcases upd_some_some h2 with ⟨rfl, e⟩ | ⟨e2, a2⟩
    · rfl
    · exact absurd a2 (hother g2 e2)
    · exact absurd (e ▸ a1) (hother g1 e1)
    · exact h.byIdInj g1 g2 j a1 a2
  · intro hk
    obtain ⟨a, b⟩ := h.fresh hk
    obtain ⟨c1, c2⟩ := hnext hk
    constructor
    · intro g j hg
      rcases upd_some_some hg with ⟨_, rfl⟩ | ⟨_, hg⟩
      · exact c1
      · exact Nat.lt_of_lt_of_le (a g j hg) c2
    · intro j o' hj
      rcases upd_some_some hj with ⟨rfl, _⟩ | ⟨_, hj⟩
      · exact c1
      · exact Nat.lt_of_lt_of_le (b j o' hj) c2
  · intro hk g j hg
    rcases upd_some_some hg with ⟨rfl, rfl⟩ | ⟨_, hg⟩
    · exact hpack hk
    · exact h.packed hk g j hg
  · intro o' ho' hn
    by_cases e : o' = st.nobj
    · subst e
      exact absurd (by simp [ins]) (hn ino)
    · have ho : o' < st.nobj := by
        have : o' < st.nobj + 1 := by simpa [ins] using ho'
        exact Nat.lt_of_le_of_ne (Nat.le_of_lt_succ this) e
      have : st.cells o' = 0 := by
        apply h.orphan o' ho
        intro j hj
        have hji : j ≠ ino := by intro e2; subst e2; rw [hino] at hj; cases hj
        exact hn j (by simp [ins, hji, hj])
      simp [ins, e, this]
  · intro g
    have hg := h.ghost g
    by_cases e : g = f
    · subst e
      have h0 := liveCount_none hp
      have h1 : liveCount (ins st next0 ino g) g = 1 := by
        rw [liveCount_eq]; simp [ins]
      rw [h1]; simp only [upd_apply, if_true]; omega
    · have h1 : liveCount (ins st next0 ino f) g = liveCount st g := by
        refine liveCount_congr (by simp [ins, e]) fun j hbg => ?_
        have hji : j ≠ ino := by intro e2; subst e2; exact hother g e hbg
        exact ⟨by simp [ins, hji], fun o' hdj => by simp [ins, Nat.ne_of_lt (h.dataObj j o' hdj).1]⟩
      rw [h1]; simp only [upd_apply, e, if_false]; exact hg

/-- the store after `allocate_inode` + `insert_locked` of a new `InodeData` for file `f` -/
def insertAt (c : Cfg) (st : Store) (f : HostId) : Store × Ino :=
  match allocate c st f with
  | (st, ino) => (ins st st.next ino f, ino)

/-- `allocate_inode` never hands out a number that is in use, a number another file maps to, or
    (without `use_host_ino`) a number at or above the next fresh one -/
theorem insertAt_facts {c : Cfg} (hinj : c.keep = false → ∀ f g, c.pack f = c.pack g → f = g)
    {st : Store} {incs decs : HostId → Nat} (h : SInv c st incs decs) {f : HostId}
    (hp : probe st f = none) :
    ∃ next0 ino, insertAt c st f = (ins st next0 ino f, ino) ∧ st.data ino = none
      ∧ (∀ g, g ≠ f → st.byId g ≠ some ino)
      ∧ (c.keep = true → ino < next0 ∧ st.next ≤ next0) ∧ (c.keep = false → ino = c.pack f)
      ∧ (c.keep = true → ∀ g j, st.byId g = some j → (ins st next0 ino f).byId g = some j) := by
  cases hk : c.keep
  · -- use_host_ino: the number is `pack f`
    refine ⟨st.next, c.pack f, by simp [insertAt, allocate, hk, ins], ?_, ?_, by simp, by simp, by simp⟩
    · cases hd : st.data (c.pack f) with
      | none => rfl
      | some o' =>
        have hb := (h.dataObj _ _ hd).2.2
        have := h.packed hk _ _ hb
        have e := hinj hk _ _ this
        exact absurd e.symm (no_live_host h hp _ _ hd)
    · intro g hg hbg
      have := h.packed hk g _ hbg
      exact hg (hinj hk _ _ this).symm
  · cases hb : st.byId f with
    | some i0 =>
      refine ⟨st.next, i0, by simp [insertAt, allocate, hk, hb, ins], ?_, ?_, ?_, by simp, ?_⟩
      · simpa [probe, hb] using hp
      · intro g hg hbg; exact hg (h.byIdInj g f i0 hbg hb)
      · intro _; exact ⟨(h.fresh hk).1 f i0 hb, Nat.le_refl _⟩
      · intro _ g j hg
        simp only [ins, upd_apply]
        split
        · rename_i e; subst e; rw [hb] at hg; exact hg
        · exact hg
    | none =>
      refine ⟨st.next + 1, st.next, by simp [insertAt, allocate, hk, hb, ins], ?_, ?_, ?_, by simp, ?_⟩
      · cases hd : st.data st.next with
        | none => rfl
        | some o' => exact absurd ((h.fresh hk).2 _ _ hd) (Nat.lt_irrefl _)
      · intro g _ hbg; exact absurd ((h.fresh hk).1 _ _ hbg) (Nat.lt_irrefl _)
      · intro _; exact ⟨Nat.lt_succ_self _, Nat.le_succ _⟩
      · intro _ g j hg
        simp only [ins, upd_apply]
        split
        · rename_i e; subst e; rw [hb] at hg; cases hg
        · exact hg

end Fbr.Conc
