/-
  C08: the inode table refines the client ledger (`Ref`), composed from the effects of
  `do_lookup` and `forget_one`.
-/
import Fbr.PtSpec
import Fbr.Lemmas.PtEffect

namespace Fbr.PtRefs

/-- stored counts never exceed the number of successful lookups (+2 for the root's initial count) -/
def Bnd (s : St) : Prop := ∀ i d, mget s.data i = some d → d.refs ≤ s.lookups + 2

structure Good (s : St) (sp : Spec) : Prop where
  ref : Ref s sp
  bnd : Bnd s

/-- what a theorem about a run assumes of its *final* state; both ghosts are monotone, so it
    carries back to every intermediate state -/
def OK (s : St) : Prop := s.clobbered = false ∧ s.lookups + 2 < U64_MAX

/-- `s'` is later than `s` as far as the monotone ghosts are concerned -/
def Mono (s s' : St) : Prop := (s'.clobbered = false → s.clobbered = false) ∧ s.lookups ≤ s'.lookups

theorem Mono.ok {s s' : St} (h : Mono s s') (ok : OK s') : OK s :=
  ⟨h.1 ok.1, by have := h.2; have := ok.2; omega⟩

theorem Mono.refl (s : St) : Mono s s := ⟨id, Nat.le_refl _⟩

theorem Mono.trans {a b c : St} (h1 : Mono a b) (h2 : Mono b c) : Mono a c :=
  ⟨fun h => h1.1 (h2.1 h), Nat.le_trans h1.2 h2.2⟩

theorem Unchanged.mono {s s' : St} (h : Unchanged s s') : Mono s s' :=
  ⟨fun hc => by rw [← h.clobbered]; exact hc, by rw [h.lookups]; exact Nat.le_refl _⟩

theorem Mono.of_tables {s s' : St} (h : s'.tables = s.tables) : Mono s s' :=
  (Unchanged.of_tables h).mono

theorem LkEff.mono {e : Env} {s s' : St} {f : HFile} {r : Except Errno Ino} (h : LkEff e s s' f r) :
    Mono s s' := by
  cases h with
  | err _ h => exact h.mono
  | hit _ x => exact ⟨fun c => by rw [← x.clobbered]; exact c, by have := x.lookups; omega⟩
  | ins _ x hl =>
    refine ⟨fun c => ?_, by omega⟩
    rw [x.clobbered] at c
    cases hs : s.clobbered with
    | false => rfl
    | true => simp [hs] at c

theorem forgetOne_ghost (e : Env) (s : St) (i : Ino) (n : Nat) :
    (forgetOne e s i n).clobbered = s.clobbered ∧ (forgetOne e s i n).lookups = s.lookups :=
  ⟨congrArg Tables.clobbered (forgetOne_frame e s i n), congrArg Tables.lookups (forgetOne_frame e s i n)⟩

theorem Ref.held_some {s : St} {sp : Spec} (h : Ref s sp) {i : Ino} (hi : i ≠ ROOT_ID) {d : IData}
    (hm : mget s.data i = some d) : sp.held i = d.refs ∧ d.refs ≠ 0 := by
  have := h i hi
  rw [hm] at this
  by_cases hz : sp.held i = 0
  · simp [hz] at this
  · simp [hz] at this; omega

theorem Ref.held_none {s : St} {sp : Spec} (h : Ref s sp) {i : Ino} (hi : i ≠ ROOT_ID)
    (hm : mget s.data i = none) : sp.held i = 0 := by
  have := h i hi
  rw [hm] at this
  by_cases hz : sp.held i = 0
  · exact hz
  · simp [hz] at this

theorem Ref.valid_iff {s : St} {sp : Spec} (h : Ref s sp) {i : Ino} (hi : i ≠ ROOT_ID) :
    (mget s.data i).isSome = true ↔ 0 < sp.held i := by
  cases hm : mget s.data i with
  | none => simp [h.held_none hi hm]
  | some d => have := h.held_some hi hm; simp; omega

theorem Ref.update {s s' : St} {sp sp' : Spec} (h : Ref s sp) (k : Ino)
    (hd : ∀ i, k ≠ i → mget s'.data i = mget s.data i) (hh : ∀ i, k ≠ i → sp'.held i = sp.held i)
    (hk : k ≠ ROOT_ID → (mget s'.data k).map (·.refs) = if sp'.held k = 0 then none else some (sp'.held k)) :
    Ref s' sp' := by
  intro i hi
  by_cases e : k = i
  · subst e; exact hk hi
  · rw [hd i e, hh i e]; exact h i hi

theorem Ref.of_data {s s' : St} {sp : Spec} (hd : s'.data = s.data) (h : Ref s sp) : Ref s' sp := by
  intro i hi; rw [hd]; exact h i hi

theorem satAdd_exact {a : Nat} (h : a + 1 ≤ U64_MAX) : satAdd a 1 = a + 1 := by
  unfold satAdd; omega

theorem deliver_held_self (sp : Spec) {i : Ino} (hi : i ≠ ROOT_ID) :
    (sp.deliver i).held i = sp.held i + 1 := by
  simp [Spec.deliver, hi]

theorem deliver_held_other (sp : Spec) (i : Ino) : ∀ j, i ≠ j → (sp.deliver i).held j = sp.held j := by
  intro j h
  unfold Spec.deliver
  split
  · rfl
  · have : ¬ j = i := fun x => h x.symm
    simp [this]

theorem forget_held_self (sp : Spec) {i : Ino} (hi : i ≠ ROOT_ID) (n : Nat) :
    (sp.forget i n).held i = sp.held i - n := by
  simp [Spec.forget, hi]

theorem forget_held_other (sp : Spec) (i : Ino) (n : Nat) : ∀ j, i ≠ j → (sp.forget i n).held j = sp.held j := by
  intro j h
  unfold Spec.forget
  split
  · rfl
  · have : ¬ j = i := fun x => h x.symm
    simp [this]

theorem Good.frame {s s' : St} {sp : Spec} (g : Good s sp) (h : Unchanged s s') : Good s' sp :=
  ⟨g.ref.of_data h.data, by intro i d hi; rw [h.data] at hi; rw [h.lookups]; exact g.bnd i d hi⟩

theorem Good.of_tables {s s' : St} {sp : Spec} (ht : s'.tables = s.tables) (h : Good s sp) : Good s' sp :=
  h.frame (.of_tables ht)

theorem good_lookup {e : Env} {s s' : St} {sp : Spec} {f : HFile} {ino : Ino} (g : Good s sp)
    (h : LkEff e s s' f (.ok ino)) (ok : OK s') : Good s' (sp.deliver ino) := by
  cases h with
  | @hit _ d hg x =>
    have hm := getAlt_data hg
    have hb := g.bnd ino d hm
    have hsat : satAdd d.refs 1 = d.refs + 1 := satAdd_exact (by have := ok.2; have := x.lookups; omega)
    constructor
    · refine g.ref.update ino (fun i e => by rw [x.data, mget_mput_ne _ _ e]) (deliver_held_other sp ino) fun hi => ?_
      rw [x.data, mget_mput_self, deliver_held_self sp hi, (g.ref.held_some hi hm).1]
      simp [hsat]
    · unfold Bnd
      rw [x.data, x.lookups]
      exact forall_mget_mput (by simp only [hsat]; omega) fun i d' hi => by have := g.bnd i d' hi; omega
  | ins hg x l =>
    -- the number was not in use: that is what `clobbered = false` records
    have hfree : ino ≠ ROOT_ID → mget s.data ino = none := by
      intro hi
      have := ok.1; rw [x.clobbered] at this
      cases hm : mget s.data ino with
      | none => rfl
      | some x => simp [hm, hi] at this
    constructor
    · refine g.ref.update ino (fun i e => by rw [x.data, mget_mput_ne _ _ e]) (deliver_held_other sp ino) fun hi => ?_
      rw [x.data, mget_mput_self, deliver_held_self sp hi, g.ref.held_none hi (hfree hi)]
      rfl
    · unfold Bnd
      rw [x.data, l]
      exact forall_mget_mput (by show 1 ≤ _; omega) fun i d' hi => by have := g.bnd i d' hi; omega

theorem good_forget (e : Env) {s : St} {sp : Spec} (g : Good s sp) (i : Ino) (n : Nat) :
    Good (forgetOne e s i n) (sp.forget i n) := by
  constructor
  · by_cases hr : i = ROOT_ID
    · subst hr; rw [forgetOne_root]; exact g.ref
    refine g.ref.update i (forgetOne_data_other e s i n) (forget_held_other sp i n)
      fun _ => ?_
    · rw [forget_held_self sp hr]
      cases hm : mget s.data i with
      | none => rw [forgetOne_absent e s i n hm, hm, g.ref.held_none hr hm]; simp
      | some d =>
        rw [forgetOne_data_self e s i n d hr hm, (g.ref.held_some hr hm).1]
        by_cases hn : d.refs - n = 0 <;> simp [hn]
  · intro j d hj
    obtain ⟨d', hj', _, _, hle⟩ := forgetOne_entries e s i n j d hj
    have := g.bnd j d' hj'
    rw [(forgetOne_ghost e s i n).2]; omega

end Fbr.PtRefs
