/-
  The SPEC `merge` / `stackIdx` / `cutIdx` of Fbr.Ovl: equation lemmas, and that the scan logic of
  the code written on layer indices (`expIdx`: what `import`, `scan_childrens` and
  `new_from_real_inodes` compute along a path) agrees with it.  What the code keeps at a path reads of
  the disk only the kinds of the entries at the path and at its ancestors (`expIdx_shape_frame`).
-/
import Fbr.Lemmas.OvlHost
import Fbr.Lemmas.OvlEval

namespace Fbr.Ovl

/-- the layers that can contribute the name `n` in directory `pp`: they take part in the merged
    directory `pp` (as a directory) and have an entry `n` -/
def cands (d : Disk) (pp : Path) (n : Name) : List Nat :=
  (stackIdx d pp).filter fun i => (d.nodeAt i pp).isDir && !(d.nodeAt i (n :: pp)).isAbsent

theorem stackIdx_cons (d : Disk) (pp : Path) (n : Name) :
    stackIdx d (n :: pp) = cutIdx d (n :: pp) (cands d pp n) := rfl

theorem cutIdx_nil (d : Disk) (p : Path) : cutIdx d p [] = [] := rfl

theorem cutIdx_cons (d : Disk) (p : Path) (i : Nat) (rest : List Nat) :
    cutIdx d p (i :: rest) =
      match d.nodeAt i p with
      | .whiteout => []
      | .absent => []
      | .dir _ o _ => if o != 0 then [i] else i :: cutIdx.cutDirsIdx d p rest
      | _ => [i] := by
  rw [cutIdx]
  generalize d.nodeAt i p = nd
  cases nd <;> rfl

theorem cutIdx_whiteout {d : Disk} {p : Path} {i : Nat} {rest : List Nat}
    (h : d.nodeAt i p = .whiteout) : cutIdx d p (i :: rest) = [] := by
  rw [cutIdx_cons, h]

theorem cutIdx_absent {d : Disk} {p : Path} {i : Nat} {rest : List Nat}
    (h : d.nodeAt i p = .absent) : cutIdx d p (i :: rest) = [] := by
  rw [cutIdx_cons, h]

theorem cutIdx_dir {d : Disk} {p : Path} {i : Nat} {rest : List Nat} {m o x : Nat}
    (h : d.nodeAt i p = .dir m o x) :
    cutIdx d p (i :: rest) = if o != 0 then [i] else i :: cutIdx.cutDirsIdx d p rest := by
  rw [cutIdx_cons, h]

theorem cutIdx_nondir {d : Disk} {p : Path} {i : Nat} {rest : List Nat}
    (hd : (d.nodeAt i p).isDir = false) (hw : (d.nodeAt i p).isWhiteout = false)
    (ha : (d.nodeAt i p).isAbsent = false) : cutIdx d p (i :: rest) = [i] := by
  rw [cutIdx_cons]
  cases h : d.nodeAt i p <;> simp_all [Node.isDir, Node.isWhiteout, Node.isAbsent]

theorem cutDirsIdx_nil (d : Disk) (p : Path) : cutIdx.cutDirsIdx d p [] = [] := rfl

theorem cutDirsIdx_cons (d : Disk) (p : Path) (j : Nat) (rest : List Nat) :
    cutIdx.cutDirsIdx d p (j :: rest) =
      match d.nodeAt j p with
      | .dir _ o _ => if o != 0 then [j] else j :: cutIdx.cutDirsIdx d p rest
      | _ => [] := by
  rw [cutIdx.cutDirsIdx]
  generalize d.nodeAt j p = nd
  cases nd <;> rfl

theorem cutDirsIdx_nondir {d : Disk} {p : Path} {j : Nat} {rest : List Nat}
    (hd : (d.nodeAt j p).isDir = false) : cutIdx.cutDirsIdx d p (j :: rest) = [] := by
  rw [cutDirsIdx_cons]
  cases h : d.nodeAt j p <;> simp_all [Node.isDir]

theorem cutDirsIdx_dir {d : Disk} {p : Path} {j : Nat} {rest : List Nat} {m o x : Nat}
    (h : d.nodeAt j p = .dir m o x) :
    cutIdx.cutDirsIdx d p (j :: rest) = if o != 0 then [j] else j :: cutIdx.cutDirsIdx d p rest := by
  rw [cutDirsIdx_cons, h]

theorem merge_def (d : Disk) (p : Path) :
    merge d p = match stackIdx d p with | [] => .none | i :: _ => (d.nodeAt i p).view := rfl

theorem merge_of_stack_nil {d : Disk} {p : Path} (h : stackIdx d p = []) : merge d p = .none := by
  rw [merge_def, h]

theorem merge_of_stack_cons {d : Disk} {p : Path} {i : Nat} {tl : List Nat}
    (h : stackIdx d p = i :: tl) : merge d p = (d.nodeAt i p).view := by
  rw [merge_def, h]

theorem stack_below_nil (d : Disk) (p : Path) (h : stackIdx d p = []) :
    ∀ q : Path, stackIdx d (q ++ p) = [] := by
  intro q
  induction q with
  | nil => simpa using h
  | cons m q ih =>
    show stackIdx d (m :: (q ++ p)) = []
    rw [stackIdx_cons, cands, ih]
    rfl

/-- `takeDirs` on layer indices: the directories that take part in the merged directory `p` -/
def dirsIdx (d : Disk) (p : Path) : List Nat → List Nat
  | [] => []
  | i :: rest =>
    if (d.nodeAt i p).isDir then
      (if (d.nodeAt i p).isOpaqueDir then [i] else i :: dirsIdx d p rest)
    else []

/-- `new_from_real_inodes` on layer indices -/
def cutW (d : Disk) (p : Path) : List Nat → List Nat
  | [] => []
  | i :: rest =>
    if (d.nodeAt i p).isDir && !(d.nodeAt i p).isOpaqueDir then i :: dirsIdx d p rest else [i]

/-- the layers whose entry at `p` the overlay node `p` keeps as real inodes -/
def expIdx (d : Disk) : Path → List Nat
  | [] => d.indices
  | n :: pp => cutW d (n :: pp) ((dirsIdx d pp (expIdx d pp)).filter fun i => !(d.nodeAt i (n :: pp)).isAbsent)

/-- what is visible of a kept stack -/
def visIdx (d : Disk) (p : Path) : List Nat → List Nat
  | [] => []
  | i :: rest =>
    if (d.nodeAt i p).isDir then dirsIdx d p (i :: rest)
    else if (d.nodeAt i p).isWhiteout || (d.nodeAt i p).isAbsent then [] else [i]

theorem expIdx_nil (d : Disk) : expIdx d [] = d.indices := rfl

theorem expIdx_cons (d : Disk) (n : Name) (pp : Path) :
    expIdx d (n :: pp) = cutW d (n :: pp) ((dirsIdx d pp (expIdx d pp)).filter fun i => !(d.nodeAt i (n :: pp)).isAbsent) :=
  rfl

theorem cutDirsIdx_eq (d : Disk) (p : Path) : ∀ l, cutIdx.cutDirsIdx d p l = dirsIdx d p l
  | [] => rfl
  | j :: rest => by
    rw [cutDirsIdx_cons, dirsIdx]
    cases h : d.nodeAt j p <;> simp [Node.isDir, Node.isOpaqueDir, cutDirsIdx_eq d p rest]

theorem cutIdx_eq_vis (d : Disk) (p : Path) : ∀ l, cutIdx d p l = visIdx d p l
  | [] => rfl
  | i :: rest => by
    rw [cutIdx_cons, visIdx, dirsIdx]
    cases h : d.nodeAt i p <;>
      simp [Node.isDir, Node.isOpaqueDir, Node.isWhiteout, Node.isAbsent, cutDirsIdx_eq]

theorem stackIdx_of_cands {d : Disk} {pp : Path} {n : Name} {l : List Nat} (h : cands d pp n = l) :
    stackIdx d (n :: pp) = visIdx d (n :: pp) l := by
  rw [stackIdx_cons, h, cutIdx_eq_vis]

theorem merge_below_nil {d : Disk} {p : Path} (h : stackIdx d p = []) (q : Path) : merge d (q ++ p) = .none :=
  merge_of_stack_nil (stack_below_nil d p h q)

theorem dirsIdx_all_dirs (d : Disk) (p : Path) : ∀ l, ∀ i ∈ dirsIdx d p l, (d.nodeAt i p).isDir = true
  | [], i, h => by simp [dirsIdx] at h
  | j :: rest, i, h => by
    rw [dirsIdx] at h
    split at h
    · split at h
      · simp at h; subst h; assumption
      · simp at h
        rcases h with h | h
        · subst h; assumption
        · exact dirsIdx_all_dirs d p rest i h
    · simp at h

theorem dirsIdx_idem (d : Disk) (p : Path) : ∀ l, dirsIdx d p (dirsIdx d p l) = dirsIdx d p l
  | [] => rfl
  | i :: rest => by
    rw [dirsIdx]
    split
    · rename_i hd
      split
      · rename_i ho; simp [dirsIdx, hd, ho]
      · rename_i ho; simp [dirsIdx, hd, ho, dirsIdx_idem d p rest]
    · rfl

theorem dirsIdx_of_nondir {d : Disk} {p : Path} {i : Nat} {rest : List Nat}
    (h : (d.nodeAt i p).isDir = false) : dirsIdx d p (i :: rest) = [] := by
  simp [dirsIdx, h]

theorem dirsIdx_of_opaque {d : Disk} {p : Path} {i : Nat} {rest : List Nat}
    (hd : (d.nodeAt i p).isDir = true) (ho : (d.nodeAt i p).isOpaqueDir = true) : dirsIdx d p (i :: rest) = [i] := by
  rw [dirsIdx, if_pos hd, if_pos ho]

theorem dirsIdx_of_plain {d : Disk} {p : Path} {i : Nat} {rest : List Nat}
    (hd : (d.nodeAt i p).isDir = true) (ho : (d.nodeAt i p).isOpaqueDir = false) :
    dirsIdx d p (i :: rest) = i :: dirsIdx d p rest := by
  rw [dirsIdx, if_pos hd, ho]; rfl

/-- a directory on top is kept -/
theorem dirsIdx_head {d : Disk} {p : Path} {i : Nat} (rest : List Nat) (hd : (d.nodeAt i p).isDir = true) :
    ∃ tl, dirsIdx d p (i :: rest) = i :: tl := by
  cases ho : (d.nodeAt i p).isOpaqueDir with
  | true => exact ⟨[], dirsIdx_of_opaque hd ho⟩
  | false => exact ⟨_, dirsIdx_of_plain hd ho⟩

theorem visIdx_of_dir {d : Disk} {p : Path} {i : Nat} {rest : List Nat} (hd : (d.nodeAt i p).isDir = true) :
    visIdx d p (i :: rest) = dirsIdx d p (i :: rest) := by
  rw [visIdx, if_pos hd]

theorem dirsIdx_shape (d d' : Disk) (p : Path) : ∀ l : List Nat,
    (∀ i ∈ l, sameShape (d'.nodeAt i p) (d.nodeAt i p)) → dirsIdx d' p l = dirsIdx d p l
  | [], _ => rfl
  | i :: rest, h => by
    have hi := h i (by simp)
    rw [dirsIdx, dirsIdx, hi.2.2.1, hi.2.2.2, dirsIdx_shape d d' p rest (fun j hj => h j (List.mem_cons_of_mem _ hj))]

theorem cutW_shape (d d' : Disk) (p : Path) (l : List Nat) (h : ∀ i ∈ l, sameShape (d'.nodeAt i p) (d.nodeAt i p)) :
    cutW d' p l = cutW d p l := by
  cases l with
  | nil => rfl
  | cons i rest =>
    have hi := h i (by simp)
    rw [cutW, cutW, hi.2.2.1, hi.2.2.2, dirsIdx_shape d d' p rest (fun j hj => h j (List.mem_cons_of_mem _ hj))]

theorem dirsIdx_congr (d d' : Disk) (p : Path) (l : List Nat) (h : ∀ i ∈ l, d'.nodeAt i p = d.nodeAt i p) :
    dirsIdx d' p l = dirsIdx d p l :=
  dirsIdx_shape d d' p l fun i hi => by rw [h i hi]; exact sameShape_refl _

theorem cutW_congr (d d' : Disk) (p : Path) (l : List Nat) (h : ∀ i ∈ l, d'.nodeAt i p = d.nodeAt i p) :
    cutW d' p l = cutW d p l :=
  cutW_shape d d' p l fun i hi => by rw [h i hi]; exact sameShape_refl _

theorem cutW_of_dir {d : Disk} {p : Path} {i : Nat} {rest : List Nat} (h : (d.nodeAt i p).isDir = true) :
    cutW d p (i :: rest) = dirsIdx d p (i :: rest) := by
  rw [cutW, dirsIdx, if_pos h]
  by_cases ho : (d.nodeAt i p).isOpaqueDir = true <;> simp [h, ho]

theorem cutW_head {d : Disk} {p : Path} {l : List Nat} {j : Nat} {t : List Nat} (h : cutW d p l = j :: t) :
    ∃ l', l = j :: l' := by
  cases l with
  | nil => simp [cutW] at h
  | cons i rest =>
    rw [cutW] at h
    split at h <;> (simp only [List.cons.injEq] at h; exact ⟨rest, by rw [h.1]⟩)

/-- cutting keeps the head -/
theorem cutW_cons (d : Disk) (p : Path) (i : Nat) (rest : List Nat) : ∃ t, cutW d p (i :: rest) = i :: t := by
  rw [cutW]
  split <;> exact ⟨_, rfl⟩

theorem cutW_of_nondir {d : Disk} {p : Path} {i : Nat} {rest : List Nat} (h : (d.nodeAt i p).isDir = false) :
    cutW d p (i :: rest) = [i] := by
  simp [cutW, h]

theorem visIdx_cutW (d : Disk) (p : Path) (l : List Nat) : visIdx d p (cutW d p l) = visIdx d p l := by
  cases l with
  | nil => rfl
  | cons i rest =>
    cases hd : (d.nodeAt i p).isDir with
    | true =>
      obtain ⟨tl, htl⟩ := dirsIdx_head rest hd
      rw [cutW_of_dir hd, visIdx_of_dir hd, htl, visIdx_of_dir hd, ← htl, dirsIdx_idem]
    | false => rw [cutW_of_nondir hd]; simp [visIdx, hd]

theorem dirsIdx_cutW (d : Disk) (p : Path) (l : List Nat) : dirsIdx d p (cutW d p l) = dirsIdx d p l := by
  cases l with
  | nil => rfl
  | cons i rest =>
    cases hd : (d.nodeAt i p).isDir with
    | true => rw [cutW_of_dir hd, dirsIdx_idem]
    | false => rw [cutW_of_nondir hd, dirsIdx_of_nondir hd, dirsIdx_of_nondir hd]

theorem dirsIdx_visIdx (d : Disk) (p : Path) (l : List Nat) : dirsIdx d p (visIdx d p l) = dirsIdx d p l := by
  cases l with
  | nil => rfl
  | cons i rest =>
    rw [visIdx]
    by_cases hd : (d.nodeAt i p).isDir = true
    · simp [hd, dirsIdx_idem]
    · simp only [Bool.not_eq_true] at hd
      simp only [hd, Bool.false_eq_true, if_false]
      split
      · simp [dirsIdx, hd]
      · simp [dirsIdx, hd]

/-- of the visible part of a kept stack, the directories are the directories scanning takes of the stack -/
theorem visIdx_filter_dirs (d : Disk) (p : Path) (f : Nat → Bool) (l : List Nat) :
    (visIdx d p l).filter (fun i => (d.nodeAt i p).isDir && f i) = (dirsIdx d p l).filter f := by
  cases l with
  | nil => rfl
  | cons i rest =>
    by_cases hd : (d.nodeAt i p).isDir = true
    · rw [visIdx_of_dir hd]
      exact List.filter_congr fun j hj => by simp [dirsIdx_all_dirs d p _ j hj]
    · simp only [Bool.not_eq_true] at hd
      rw [dirsIdx_of_nondir hd, visIdx]
      simp only [hd, Bool.false_eq_true, if_false]
      split <;> simp [hd]

/-- the SPEC stack is the visible part of the stack the code keeps -/
theorem stackIdx_eq_vis (d : Disk) : ∀ p, stackIdx d p = visIdx d p (expIdx d p)
  | [] => by rw [stackIdx, expIdx_nil, cutIdx_eq_vis]
  | n :: pp => by
    rw [stackIdx_cons, cands, stackIdx_eq_vis d pp, expIdx_cons, cutIdx_eq_vis, visIdx_cutW, visIdx_filter_dirs]

theorem dirsIdx_prefix (d : Disk) (p : Path) : ∀ l, dirsIdx d p l <+: l
  | [] => List.prefix_refl _
  | i :: rest => by
    rw [dirsIdx]
    split
    · split
      · exact ⟨rest, rfl⟩
      · exact (List.prefix_cons_inj i).2 (dirsIdx_prefix d p rest)
    · exact List.nil_prefix

theorem dirsIdx_sublist (d : Disk) (p : Path) (l : List Nat) : (dirsIdx d p l).Sublist l :=
  (dirsIdx_prefix d p l).sublist

theorem cutW_sublist (d : Disk) (p : Path) : ∀ l, (cutW d p l).Sublist l
  | [] => List.Sublist.slnil
  | i :: rest => by
    rw [cutW]
    split
    · exact List.Sublist.cons_cons i (dirsIdx_sublist d p rest)
    · exact List.Sublist.cons_cons i (List.nil_sublist _)

theorem expIdx_present (d : Disk) (n : Name) (pp : Path) :
    ∀ i ∈ expIdx d (n :: pp), (d.nodeAt i (n :: pp)).isAbsent = false := by
  intro i hi
  rw [expIdx_cons] at hi
  simpa using (List.mem_filter.1 ((cutW_sublist d _ _).subset hi)).2

/-- of a kept stack, the first entry is the one that shows (a whiteout shows nothing) -/
theorem view_head_visIdx (d : Disk) (p : Path) (l : List Nat) :
    (match visIdx d p l with | [] => VNode.none | i :: _ => (d.nodeAt i p).view) =
      match l with | [] => .none | i :: _ => (d.nodeAt i p).view := by
  cases l with
  | nil => rfl
  | cons i rest =>
    rw [visIdx]
    by_cases hd : (d.nodeAt i p).isDir = true
    · simp only [hd, if_true, dirsIdx]
      by_cases ho : (d.nodeAt i p).isOpaqueDir = true
      · simp [ho]
      · simp [ho]
    · simp only [Bool.not_eq_true] at hd
      simp only [hd, Bool.false_eq_true, if_false]
      cases hn : d.nodeAt i p <;> simp_all [Node.isWhiteout, Node.isAbsent, Node.view, Node.isDir]

theorem merge_cons (d : Disk) (pp : Path) (n : Name) :
    merge d (n :: pp) = match cands d pp n with
      | [] => .none
      | i :: _ => (d.nodeAt i (n :: pp)).view := by
  rw [merge_def, stackIdx_of_cands rfl]
  exact view_head_visIdx d (n :: pp) _

/-- what the SPEC shows at a path is the entry of the first kept layer -/
theorem merge_eq_head (d : Disk) (p : Path) :
    merge d p = match expIdx d p with
      | [] => .none
      | i :: _ => (d.nodeAt i p).view := by
  rw [merge_def, stackIdx_eq_vis]
  exact view_head_visIdx d p _

theorem expIdx_shape_cons {d d' : Disk} {n : Name} {pp : Path} (ih : expIdx d' pp = expIdx d pp)
    (hpp : ∀ i, sameShape (d'.nodeAt i pp) (d.nodeAt i pp))
    (hq : ∀ i, sameShape (d'.nodeAt i (n :: pp)) (d.nodeAt i (n :: pp))) :
    expIdx d' (n :: pp) = expIdx d (n :: pp) := by
  rw [expIdx_cons, expIdx_cons, ih, dirsIdx_shape d d' pp _ (fun i _ => hpp i), cutW_shape d d' (n :: pp) _ (fun i _ => hq i)]
  congr 1
  apply List.filter_congr
  intro i _
  rw [(hq i).1]

/-- what the code keeps at a path reads of the disk only the kinds of the entries at the path and at its
    ancestors -/
theorem expIdx_shape_frame (d d' : Disk) (hidx : d'.indices = d.indices) : ∀ q : Path,
    (∀ i q', q'.isSuffixOf q = true → sameShape (d'.nodeAt i q') (d.nodeAt i q')) → expIdx d' q = expIdx d q
  | [], _ => by rw [expIdx_nil, expIdx_nil, hidx]
  | n :: pp, h =>
    expIdx_shape_cons (expIdx_shape_frame d d' hidx pp fun i q' hq' => h i q' (below_trans hq' (below_child n pp)))
      (fun i => h i pp (below_child n pp)) (fun i => h i (n :: pp) (below_self _))

theorem expIdx_cons_congr {d d' : Disk} {n : Name} {pp : Path} (ih : expIdx d' pp = expIdx d pp)
    (hpp : ∀ i, d'.nodeAt i pp = d.nodeAt i pp) (hq : ∀ i, d'.nodeAt i (n :: pp) = d.nodeAt i (n :: pp)) :
    expIdx d' (n :: pp) = expIdx d (n :: pp) :=
  expIdx_shape_cons ih (fun i => by rw [hpp]; exact sameShape_refl _) fun i => by rw [hq]; exact sameShape_refl _

theorem expIdx_frame (d d' : Disk) (hidx : d'.indices = d.indices) (q : Path)
    (h : ∀ i q', q'.isSuffixOf q = true → d'.nodeAt i q' = d.nodeAt i q') : expIdx d' q = expIdx d q :=
  expIdx_shape_frame d d' hidx q fun i q' hq' => by rw [h i q' hq']; exact sameShape_refl _

end Fbr.Ovl
