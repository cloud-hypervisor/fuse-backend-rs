/-
  The invariant of the lookup/forget small-step system `Fbr.Conc`: definitions, the initial
  state, and the two generic ways a step changes a thread (move the program counter / return
  from the request).
-/
import Fbr.Conc

namespace Fbr.Conc

@[simp, grind =] theorem upd_apply {α : Type} (m : Nat → α) (k : Nat) (v : α) (x : Nat) :
    upd m k v x = if x = k then v else m x := rfl

theorem upd_none_some {α : Type} {m : Nat → Option α} {k j : Nat} {x : α} (h : upd m k none j = some x) :
    j ≠ k ∧ m j = some x := by
  rw [upd_apply] at h
  split at h
  · cases h
  · rename_i ne; exact ⟨ne, h⟩

theorem upd_some_some {α : Type} {m : Nat → Option α} {k j : Nat} {v x : α} (h : upd m k (some v) j = some x) :
    (j = k ∧ v = x) ∨ (j ≠ k ∧ m j = some x) := by
  rw [upd_apply] at h
  split at h
  · rename_i e; cases h; exact .inl ⟨e, rfl⟩
  · rename_i ne; exact .inr ⟨ne, h⟩

/-- program counters inside `forget`'s critical section (the thread holds the write lock) -/
def holds : PC → Bool
  | .F1 _ _ | .F2 _ _ _ _ | .F3 _ _ _ => true
  | _ => false

theorem enabled_of_holds {s : Sys} {t : Tid} (h : holds (s.threads t).pc = true) : enabled s t = true := by
  unfold enabled; revert h; cases (s.threads t).pc <;> simp [holds]

theorem enabled_of_free {s : Sys} {t : Tid} (hl : s.lock = .free) (hd : (s.threads t).pc ≠ .done) :
    enabled s t = true := by
  unfold enabled; revert hd; cases (s.threads t).pc <;> simp [hl]

theorem liveCount_none {st : Store} {f : HostId} (hp : probe st f = none) : liveCount st f = 0 := by
  unfold liveCount; rw [hp]

theorem liveCount_some {st : Store} {f : HostId} {o : ObjId} (hp : probe st f = some o) :
    liveCount st f = st.cells o := by
  unfold liveCount; rw [hp]

theorem liveCount_eq (st : Store) (f : HostId) :
    liveCount st f = match st.byId f with
      | none => 0
      | some i => match st.data i with
        | none => 0
        | some o => st.cells o := by
  unfold liveCount probe
  cases st.byId f <;> simp
  rename_i i
  cases st.data i <;> simp

theorem liveCount_congr {st st' : Store} {f : HostId} (hb : st'.byId f = st.byId f)
    (hd : ∀ j, st.byId f = some j →
      st'.data j = st.data j ∧ ∀ o, st.data j = some o → st'.cells o = st.cells o) :
    liveCount st' f = liveCount st f := by
  rw [liveCount_eq, liveCount_eq, hb]
  cases hbf : st.byId f with
  | none => rfl
  | some j =>
    obtain ⟨h1, h2⟩ := hd j hbf
    simp only [h1]
    cases hdj : st.data j with
    | none => rfl
    | some o => exact h2 o hdj

/-- the part of the invariant that speaks about the store and the ghost counters only -/
structure SInv (c : Cfg) (st : Store) (incs decs : HostId → Nat) : Prop where
  dataObj : ∀ i o, st.data i = some o →
    o < st.nobj ∧ st.objIno o = i ∧ st.byId (st.objHost o) = some i
  byIdInj : ∀ f g i, st.byId f = some i → st.byId g = some i → f = g
  fresh : c.keep = true → (∀ f i, st.byId f = some i → i < st.next)
    ∧ (∀ i o, st.data i = some o → i < st.next)
  packed : c.keep = false → ∀ f i, st.byId f = some i → i = c.pack f
  orphan : ∀ o, o < st.nobj → (∀ i, st.data i ≠ some o) → st.cells o = 0
  ghost : ∀ f, liveCount st f + decs f = incs f

/-- what the client knows about numbers stays true: in `keep` mode the id → number map never
    changes an entry, with `use_host_ino` the number is a function of the host id -/
def NumOk (c : Cfg) (st : Store) (f : HostId) (i : Ino) : Prop :=
  (c.keep = true → st.byId f = some i) ∧ (c.keep = false → i = c.pack f)

theorem NumOk.unique {c : Cfg} {st : Store} {f : HostId} {i j : Ino} (h1 : NumOk c st f i) (h2 : NumOk c st f j) :
    i = j := by
  cases hk : c.keep
  · rw [h1.2 hk, h2.2 hk]
  · exact Option.some.inj ((h1.1 hk).symm.trans (h2.1 hk))

theorem NumOk.of_byId {c : Cfg} {st : Store} {incs decs : HostId → Nat} (h : SInv c st incs decs) {f : HostId}
    {i : Ino} (hb : st.byId f = some i) : NumOk c st f i :=
  ⟨fun _ => hb, fun hk => h.packed hk f i hb⟩

/-- what a program counter promises about the store: the object a lookup found belongs to its
    file (and its loaded count was positive); the entry a forget works on is stored (and at zero
    when it is about to be removed) -/
def PcOk (st : Store) : PC → Prop
  | .L1 f o => o < st.nobj ∧ st.objHost o = f
  | .L2 f o k => o < st.nobj ∧ st.objHost o = f ∧ 0 < k
  | .F2 i _ o _ => st.data i = some o
  | .F3 i _ o => st.data i = some o ∧ st.cells o = 0
  | _ => True

/-- Nothing is said of `s.known`: it only chooses the number a `forgetFile` forgets, and a forget of any number
    keeps the invariant. -/
structure Inv (c : Cfg) (s : Sys) : Prop where
  sinv : SInv c s.store s.incs s.decs
  lockA : ∀ t, s.lock = .w t ↔ holds (s.threads t).pc = true
  zeroF3 : ∀ i o, s.store.data i = some o → s.store.cells o = 0 → ∃ t n, (s.threads t).pc = .F3 i n o
  pcOk : ∀ t, PcOk s.store (s.threads t).pc
  resOk : ∀ t f i, (f, i) ∈ (s.threads t).results → NumOk c s.store f i

/-- the invariant as far as it concerns the threads other than `t`: used while `t` is in the
    middle of a step -/
structure InvBut (c : Cfg) (s : Sys) (t : Tid) : Prop where
  lockA : ∀ t', t' ≠ t → (s.lock = .w t' ↔ holds (s.threads t').pc = true)
  pcOk : ∀ t', t' ≠ t → PcOk s.store (s.threads t').pc
  resOk : ∀ t' f i, (f, i) ∈ (s.threads t').results → NumOk c s.store f i

theorem Inv.but {c : Cfg} {s : Sys} (h : Inv c s) (t : Tid) : InvBut c s t :=
  ⟨fun t' _ => h.lockA t', fun t' _ => h.pcOk t', h.resOk⟩

theorem advance_pc (th : Thread) : holds (advance th).pc = false ∧ ∀ st, PcOk st (advance th).pc := by
  unfold advance
  cases th.prog with
  | nil => exact ⟨rfl, fun _ => trivial⟩
  | cons op r => cases op <;> exact ⟨rfl, fun _ => trivial⟩

theorem advance_results (th : Thread) : (advance th).results = th.results := by
  unfold advance; cases th.prog <;> rfl

theorem InvBut.close {c : Cfg} {s : Sys} {t : Tid} (h : InvBut c s t)
    (hs : SInv c s.store s.incs s.decs) {th : Thread}
    (hl : s.lock = .w t ↔ holds th.pc = true)
    (hzero : ∀ i o, s.store.data i = some o → s.store.cells o = 0 →
      (∃ t' n, t' ≠ t ∧ (s.threads t').pc = .F3 i n o) ∨ ∃ n, th.pc = .F3 i n o)
    (hpc : PcOk s.store th.pc)
    (hres : ∀ f i, (f, i) ∈ th.results → NumOk c s.store f i) :
    Inv c { s with threads := upd s.threads t th } := by
  refine ⟨hs, ?_, ?_, ?_, ?_⟩
  · intro t'
    simp only [upd_apply]
    split
    · rename_i e; subst e; exact hl
    · rename_i ne; exact h.lockA t' ne
  · intro i o hd hc
    rcases hzero i o hd hc with ⟨t0, n, ne, e⟩ | ⟨n, e⟩
    · exact ⟨t0, n, by simp only [upd_apply, ne, if_false]; exact e⟩
    · exact ⟨t, n, by simp only [upd_apply, if_true]; exact e⟩
  · intro t'
    simp only [upd_apply]
    split
    · exact hpc
    · rename_i ne; exact h.pcOk t' ne
  · intro t' f i
    simp only [upd_apply]
    split
    · exact hres f i
    · exact h.resOk t' f i

theorem InvBut.setPc {c : Cfg} {s : Sys} {t : Tid} (h : InvBut c s t)
    (hs : SInv c s.store s.incs s.decs) {pc' : PC} (hl : s.lock = .w t ↔ holds pc' = true)
    (hzero : ∀ i o, s.store.data i = some o → s.store.cells o = 0 →
      (∃ t' n, t' ≠ t ∧ (s.threads t').pc = .F3 i n o) ∨ ∃ n, pc' = .F3 i n o)
    (hpc : PcOk s.store pc') : Inv c (setPc s t pc') :=
  h.close hs (th := { s.threads t with pc := pc' }) hl hzero hpc (h.resOk t)

theorem Inv.zeroF3_other {c : Cfg} {s : Sys} (h : Inv c s) {t : Tid}
    (h3 : ∀ i n o, (s.threads t).pc ≠ .F3 i n o) {i : Ino} {o : ObjId}
    (hd : s.store.data i = some o) (hc : s.store.cells o = 0) :
    ∃ t' n, t' ≠ t ∧ (s.threads t').pc = .F3 i n o := by
  obtain ⟨t0, n, e⟩ := h.zeroF3 i o hd hc
  exact ⟨t0, n, fun x => h3 i n o (x ▸ e), e⟩

theorem InvBut.finish {c : Cfg} {s : Sys} {t : Tid} (h : InvBut c s t) (res : Option (HostId × Ino))
    (hs : SInv c s.store (bump s.incs res) s.decs) (hl : s.lock ≠ .w t)
    (hzero : ∀ i o, s.store.data i = some o → s.store.cells o = 0 →
      ∃ t' n, t' ≠ t ∧ (s.threads t').pc = .F3 i n o)
    (hres : ∀ f i, res = some (f, i) → NumOk c s.store f i) :
    Inv c (finish s t res) := by
  have hadv := advance_pc (pushRes (s.threads t) res)
  have h1 : InvBut c { s with known := learn s.known res, incs := bump s.incs res } t :=
    ⟨h.lockA, h.pcOk, h.resOk⟩
  refine h1.close hs (th := advance (pushRes (s.threads t) res)) ?_ ?_ (hadv.2 _) ?_
  · rw [hadv.1]; exact ⟨fun e => absurd e hl, fun e => by cases e⟩
  · intro i o hd hc; exact .inl (hzero i o hd hc)
  · intro f i
    rw [advance_results]
    cases res with
    | none => exact h.resOk t f i
    | some r =>
      simp only [pushRes, List.mem_cons]
      intro hm
      cases hm with
      | inl e => subst e; exact hres f i rfl
      | inr hm => exact h.resOk t f i hm

theorem inv_init (c : Cfg) (progs : Tid → List Op) : Inv c (Sys.init progs) := by
  have hp : ∀ t, holds ((Sys.init progs).threads t).pc = false
      ∧ ∀ st, PcOk st ((Sys.init progs).threads t).pc :=
    fun t => advance_pc { pc := .done, prog := progs t, results := [] }
  refine ⟨⟨?_, ?_, ?_, ?_, ?_, ?_⟩, ?_, ?_, fun t => (hp t).2 _, ?_⟩
  · intro i o h; simp [Sys.init, Store.empty] at h
  · intro f g i h; simp [Sys.init, Store.empty] at h
  · intro _; constructor <;> intro _ _ h <;> simp [Sys.init, Store.empty] at h
  · intro _ f i h; simp [Sys.init, Store.empty] at h
  · intro o h; simp [Sys.init, Store.empty] at h
  · intro f; simp [liveCount_eq, Sys.init, Store.empty]
  · intro t
    rw [(hp t).1]
    exact ⟨fun h => by simp [Sys.init] at h, fun h => by cases h⟩
  · intro i o h; simp [Sys.init, Store.empty] at h
  · intro t f i h
    have : ((Sys.init progs).threads t).results = [] := advance_results _
    rw [this] at h; cases h

@[simp] theorem setPc_store (s : Sys) (t : Tid) (pc : PC) : (setPc s t pc).store = s.store := rfl
@[simp] theorem setPc_lock (s : Sys) (t : Tid) (pc : PC) : (setPc s t pc).lock = s.lock := rfl
@[simp] theorem setPc_known (s : Sys) (t : Tid) (pc : PC) : (setPc s t pc).known = s.known := rfl
@[simp] theorem setPc_incs (s : Sys) (t : Tid) (pc : PC) : (setPc s t pc).incs = s.incs := rfl
@[simp] theorem setPc_decs (s : Sys) (t : Tid) (pc : PC) : (setPc s t pc).decs = s.decs := rfl

theorem no_holder_of_free {c : Cfg} {s : Sys} (h : Inv c s) (hf : s.lock = .free) (t : Tid) :
    holds (s.threads t).pc = false := by
  cases hh : holds (s.threads t).pc with
  | false => rfl
  | true => have := (h.lockA t).mpr hh; rw [hf] at this; cases this

theorem holder_unique {c : Cfg} {s : Sys} (h : Inv c s) {t t' : Tid}
    (ht : holds (s.threads t).pc = true) (ht' : holds (s.threads t').pc = true) : t' = t := by
  have a := (h.lockA t).mpr ht
  have b := (h.lockA t').mpr ht'
  rw [a] at b; cases b; rfl

end Fbr.Conc
