/-
  What one step of a thread of `Fbr.Conc` can do (`Shape`; `step_shape` is the one walk of `step`),
  and that every step preserves the invariant.
-/
import Fbr.Lemmas.ConcInv
import Fbr.Lemmas.ConcStore

namespace Fbr.Conc

theorem numOk_of_data {c : Cfg} {st : Store} {incs decs : HostId → Nat} (h : SInv c st incs decs)
    {i : Ino} {o : ObjId} (hd : st.data i = some o) : NumOk c st (st.objHost o) (st.objIno o) := by
  obtain ⟨_, b, d⟩ := h.dataObj i o hd
  rw [b]; exact .of_byId h d

theorem in_data_of_pos {c : Cfg} {st : Store} {incs decs : HostId → Nat} (h : SInv c st incs decs)
    {o : ObjId} (ho : o < st.nobj) (hp : 0 < st.cells o) : ∃ i, st.data i = some o := by
  apply Classical.byContradiction
  intro hn
  have : ∀ i, st.data i ≠ some o := fun i e => hn ⟨i, e⟩
  have := h.orphan o ho this
  omega

theorem Inv.others_out {c : Cfg} {s : Sys} (h : Inv c s) {t : Tid} (hh : holds (s.threads t).pc = true)
    {t' : Tid} (ne : t' ≠ t) : holds (s.threads t').pc = false := by
  cases e : holds (s.threads t').pc with
  | false => rfl
  | true => exact absurd (holder_unique h hh e) ne

/-- once the lock holder `t` has released the lock, the lock bookkeeping of the others is in order -/
theorem Inv.free_others {c : Cfg} {s : Sys} (h : Inv c s) {t : Tid} (hh : holds (s.threads t).pc = true)
    (t' : Tid) (ne : t' ≠ t) : Lock.free = .w t' ↔ holds (s.threads t').pc = true :=
  ⟨fun e => (by cases e), fun e => by rw [h.others_out hh ne] at e; cases e⟩

theorem PcOk.cells {st : Store} {pc : PC} (h : PcOk st pc) (o : ObjId) (v : Nat)
    (h3 : ∀ i n, pc = .F3 i n o → v = 0) : PcOk { st with cells := upd st.cells o v } pc := by
  cases pc with
  | F3 i n o' =>
    refine ⟨h.1, ?_⟩
    simp only [upd_apply]; split
    · rename_i e; subst e; exact h3 i n rfl
    · exact h.2
  | _ => exact h

theorem PcOk.insert {st : Store} {pc : PC} (h : PcOk st pc) (hlt : ∀ i o, st.data i = some o → o < st.nobj)
    {ino : Ino} (hd : st.data ino = none) (next0 : Nat) (f : HostId) : PcOk (ins st next0 ino f) pc := by
  have old_data : ∀ {i o}, st.data i = some o →
      (ins st next0 ino f).data i = some o ∧ (ins st next0 ino f).cells o = st.cells o := by
    intro i o hi
    have h1 : i ≠ ino := fun e => by rw [e, hd] at hi; cases hi
    have h2 : o ≠ st.nobj := Nat.ne_of_lt (hlt _ _ hi)
    simp [ins, h1, h2, hi]
  have old_host : ∀ {o}, o < st.nobj → (ins st next0 ino f).objHost o = st.objHost o :=
    fun ho => by simp [ins, Nat.ne_of_lt ho]
  cases pc with
  | L1 g o => exact ⟨Nat.lt_succ_of_lt h.1, (old_host h.1).trans h.2⟩
  | L2 g o k => exact ⟨Nat.lt_succ_of_lt h.1, (old_host h.1).trans h.2.1, h.2.2⟩
  | F2 i n o k => exact (old_data h).1
  | F3 i n o => exact ⟨(old_data h.1).1, (old_data h.1).2.trans h.2⟩
  | _ => trivial

theorem PcOk.out {st st' : Store} {pc : PC} (h : PcOk st pc) (hh : holds pc = false)
    (hn : st'.nobj = st.nobj) (ho : st'.objHost = st.objHost) : PcOk st' pc := by
  cases pc with
  | L1 g o => exact ⟨hn ▸ h.1, ho ▸ h.2⟩
  | L2 g o k => exact ⟨hn ▸ h.1, ho ▸ h.2.1, h.2.2⟩
  | F2 | F3 => cases hh
  | _ => trivial

theorem Inv.pos_of_free {c : Cfg} {s : Sys} (h : Inv c s) (hf : s.lock = .free) {i : Ino} {o : ObjId}
    (hd : s.store.data i = some o) : 0 < s.store.cells o := by
  apply Nat.pos_of_ne_zero
  intro hz
  obtain ⟨t, n, e⟩ := h.zeroF3 i o hd hz
  have := no_holder_of_free h hf t
  rw [e] at this; cases this

theorem step_inc {c : Cfg} {s : Sys} (h : Inv c s) {t : Tid} (hh : holds (s.threads t).pc = false)
    {o : ObjId} (ho : o < s.store.nobj) (hpos : 0 < s.store.cells o) :
    Inv c (finish { s with store := { s.store with cells := upd s.store.cells o (s.store.cells o + 1) } }
      t (some (s.store.objHost o, s.store.objIno o))) := by
  obtain ⟨i, hd⟩ := in_data_of_pos h.sinv ho hpos
  apply InvBut.finish
  · refine ⟨fun t' _ => h.lockA t', fun t' _ => (h.pcOk t').cells o _ (fun i n e => ?_), h.resOk⟩
    have := h.pcOk t'; rw [e] at this; have := this.2; omega
  · exact sinv_inc h.sinv hd
  · intro e; have := (h.lockA t).mp e; rw [hh] at this; cases this
  · intro i' o' hd' hc
    have hne : o' ≠ o := by intro e; subst e; simp at hc
    exact h.zeroF3_other (fun i n o e => by rw [e] at hh; cases hh) hd' (by simpa [hne] using hc)
  · intro f j e; cases e; exact numOk_of_data h.sinv hd

/-- What one step of thread `t` can do, by its effect on the shared store and the lock; the
    premises are the tests the code made.  `move` covers every step that only sets `t`'s program
    counter: `hok` says that the promise of the new counter follows from that of the old one. -/
inductive Shape (c : Cfg) (s : Sys) (t : Tid) : Sys → Prop
  | stay : Shape c s t s
  | move {pc pc' : PC} (hpc : (s.threads t).pc = pc) (hh : holds pc' = holds pc) (h3 : ∀ i n o, pc ≠ .F3 i n o)
      (hok : SInv c s.store s.incs s.decs → PcOk s.store pc → PcOk s.store pc') : Shape c s t (setPc s t pc')
  | cas {f : HostId} {o : ObjId} {k : Nat} (hpc : (s.threads t).pc = .L2 f o k) (hc : s.store.cells o = k) :
      Shape c s t (finish { s with store := { s.store with cells := upd s.store.cells o (k + 1) } }
        t (some (f, s.store.objIno o)))
  | fetchAdd {f : HostId} {o : ObjId} (hpc : (s.threads t).pc = .L3 f) (hf : s.lock = .free)
      (hp : probe s.store f = some o) :
      Shape c s t (finish { s with store := { s.store with cells := upd s.store.cells o (s.store.cells o + 1) } }
        t (some (f, s.store.objIno o)))
  | insert {f : HostId} (hpc : (s.threads t).pc = .L3 f) (hp : probe s.store f = none) :
      Shape c s t (finish { s with store := (insertAt c s.store f).1 } t (some (f, (insertAt c s.store f).2)))
  | lock (ino : Ino) (n : Nat) (hf : s.lock = .free) : Shape c s t (setPc { s with lock := .w t } t (.F1 ino n))
  | unlock {ino : Ino} {n : Nat} (hpc : (s.threads t).pc = .F1 ino n) :
      Shape c s t (finish { s with lock := .free } t none)
  | dec {ino : Ino} {n : Nat} {o : ObjId} {k : Nat} (hpc : (s.threads t).pc = .F2 ino n o k)
      (hc : s.store.cells o = k) :
      Shape c s t (if k - n = 0 then
          setPc { s with store := { s.store with cells := upd s.store.cells o (k - n) },
                         decs := upd s.decs (s.store.objHost o) (s.decs (s.store.objHost o) + (k - (k - n))) }
            t (.F3 ino n o)
        else
          finish { s with store := { s.store with cells := upd s.store.cells o (k - n) },
                          decs := upd s.decs (s.store.objHost o) (s.decs (s.store.objHost o) + (k - (k - n))),
                          lock := .free } t none)
  | remove {ino : Ino} {n : Nat} {o : ObjId} (hpc : (s.threads t).pc = .F3 ino n o) :
      Shape c s t (finish { s with store := removeAt c s.store ino o, lock := .free } t none)

theorem step_disabled (c : Cfg) {s : Sys} {t : Tid} (h : enabled s t = false) : step c s t = s := by
  unfold step; simp [h]

theorem step_shape (c : Cfg) (s : Sys) (t : Tid) : Shape c s t (step c s t) := by
  by_cases hen : enabled s t = true
  case neg => rw [step_disabled c (by simpa using hen)]; exact .stay
  unfold step
  simp only [hen, Bool.not_true, Bool.false_eq_true, if_false]
  cases hpc : (s.threads t).pc with
  | done => exact .stay
  | LS f => exact .move hpc rfl nofun fun _ _ => trivial
  | L0 f =>
    simp only
    split
    · exact .move hpc rfl nofun fun _ _ => trivial
    · rename_i o hp
      refine .move hpc rfl nofun fun hs _ => ?_
      obtain ⟨i, _, hd, hf⟩ := probe_some hs hp
      exact ⟨(hs.dataObj i _ hd).1, hf⟩
  | L1 f o =>
    simp only
    split
    · exact .move hpc rfl nofun fun _ _ => trivial
    · rename_i hne
      exact .move hpc rfl nofun fun _ hok => ⟨hok.1, hok.2, Nat.pos_of_ne_zero hne⟩
  | L2 f o curr =>
    simp only
    split
    · rename_i hc; exact .cas hpc hc
    · exact .move hpc rfl nofun fun _ _ => trivial
  | L3 f =>
    have hfree : s.lock = .free := by simpa [enabled, hpc] using hen
    simp only
    split
    · rename_i o hp; exact .fetchAdd hpc hfree hp
    · rename_i hp; exact .insert hpc hp
  | F0 ino n => exact .lock ino n (by simpa [enabled, hpc] using hen)
  | F0f f n => exact .lock _ n (by simpa [enabled, hpc] using hen)
  | F1 ino n =>
    simp only
    split
    · exact .unlock hpc
    · split
      · exact .unlock hpc
      · rename_i o hd
        exact .move hpc rfl nofun fun _ _ => hd
  | F2 ino n o curr =>
    simp only
    split
    · rename_i hc; exact .dec hpc hc
    · exact .move hpc rfl nofun fun _ hok => hok
  | F3 ino n o => exact .remove hpc

theorem Shape.inv {c : Cfg} (hinj : c.keep = false → ∀ f g, c.pack f = c.pack g → f = g) {s s' : Sys} {t : Tid}
    (hs : Shape c s t s') (h : Inv c s) : Inv c s' := by
  have hpcOk := h.pcOk t
  have out : holds (s.threads t).pc = false → s.lock ≠ .w t := fun hh e => by
    have := (h.lockA t).mp e; rw [hh] at this; cases this
  cases hs with
  | stay => exact h
  | move hpc hh h3 hok =>
    exact (h.but t).setPc h.sinv (by rw [hh, ← hpc]; exact h.lockA t)
      (fun _ _ hd hc => .inl (h.zeroF3_other (by rw [hpc]; exact h3) hd hc)) (hok h.sinv (hpc ▸ hpcOk))
  | cas hpc hc =>
    rw [hpc] at hpcOk
    obtain ⟨a, b, k⟩ := hpcOk
    have := step_inc h (t := t) (by rw [hpc]; rfl) a (by omega)
    rw [b, hc] at this
    exact this
  | fetchAdd hpc hf hp =>
    obtain ⟨i, _, hd, e⟩ := probe_some h.sinv hp
    have := step_inc h (t := t) (by rw [hpc]; rfl) (h.sinv.dataObj i _ hd).1 (h.pos_of_free hf hd)
    rw [e] at this
    exact this
  | @insert f hpc hp =>
    have hh : holds (s.threads t).pc = false := by rw [hpc]; rfl
    obtain ⟨next0, ino, he, hino, hother, hnext, hpack, hbyId⟩ := insertAt_facts hinj h.sinv hp
    rw [he]
    have hnum : ∀ g j, NumOk c s.store g j → NumOk c (ins s.store next0 ino f) g j :=
      fun g j ⟨a, b⟩ => ⟨fun hk => hbyId hk g j (a hk), b⟩
    have hlt : ∀ i o, s.store.data i = some o → o < s.store.nobj := fun i o hi => (h.sinv.dataObj i o hi).1
    apply InvBut.finish
    · exact ⟨fun t' _ => h.lockA t', fun t' _ => (h.pcOk t').insert hlt hino next0 f,
        fun t' g j hm => hnum g j (h.resOk t' g j hm)⟩
    · exact sinv_ins h.sinv hp hino hother hnext hpack
    · exact out hh
    · intro j o' hj hc
      rcases upd_some_some hj with ⟨rfl, rfl⟩ | ⟨_, hj'⟩
      · simp [ins] at hc
      · have hne : o' ≠ s.store.nobj := Nat.ne_of_lt (hlt j o' hj')
        exact h.zeroF3_other (fun i n o e => by rw [e] at hh; cases hh) hj' (by simpa [ins, hne] using hc)
    · intro g j e
      cases e
      exact ⟨fun _ => by simp [ins], hpack⟩
  | lock ino n hf =>
    have nh := no_holder_of_free h hf
    apply InvBut.setPc
    · exact ⟨fun t' ne => ⟨fun e => by cases e; exact absurd rfl ne, fun e => by rw [nh t'] at e; cases e⟩,
        fun t' _ => h.pcOk t', h.resOk⟩
    · exact h.sinv
    · exact ⟨fun _ => rfl, fun _ => rfl⟩
    · intro i o hd hc
      obtain ⟨t0, n0, e⟩ := h.zeroF3 i o hd hc
      have := nh t0; rw [e] at this; cases this
    · trivial
  | unlock hpc =>
    have hh : holds (s.threads t).pc = true := by rw [hpc]; rfl
    apply InvBut.finish
    · exact ⟨h.free_others hh, fun t' _ => h.pcOk t', h.resOk⟩
    · exact h.sinv
    · nofun
    · exact fun _ _ hd hc => h.zeroF3_other (by rw [hpc]; nofun) hd hc
    · nofun
  | @dec ino n o curr hpc hc =>
    have hd : s.store.data ino = some o := by rw [hpc] at hpcOk; exact hpcOk
    have hh : holds (s.threads t).pc = true := by rw [hpc]; rfl
    have hs := sinv_dec h.sinv hd (curr - n) (by omega)
    rw [hc] at hs
    have hn3 : ∀ i n o, (s.threads t).pc ≠ .F3 i n o := by rw [hpc]; nofun
    split
    · -- the count reached zero: the entry waits at `F3` to be removed
      rename_i hnew
      apply InvBut.setPc
      · exact ⟨fun t' _ => h.lockA t', fun t' _ => (h.pcOk t').cells o _ (fun _ _ _ => hnew), h.resOk⟩
      · exact hs
      · have := h.lockA t; rw [hh] at this; exact this
      · intro i' o' hd' hz
        by_cases e : o' = o
        · subst e
          exact .inr ⟨n, by rw [(h.sinv.single hd' hd rfl).1]⟩
        · exact .inl (h.zeroF3_other hn3 hd' (by simpa [e] using hz))
      · exact ⟨hd, by simp [hnew]⟩
    · rename_i hnew
      apply InvBut.finish
      · refine ⟨h.free_others hh, fun t' ne => (h.pcOk t').cells o _ (fun i n' e => ?_), h.resOk⟩
        have := h.others_out hh ne; rw [e] at this; cases this
      · exact hs
      · nofun
      · intro i' o' hd' hz
        have hne : o' ≠ o := by intro e; subst e; exact hnew (by simpa using hz)
        exact h.zeroF3_other hn3 hd' (by simpa [hne] using hz)
      · nofun
  | @remove ino n o hpc =>
    obtain ⟨hd, hz⟩ : s.store.data ino = some o ∧ s.store.cells o = 0 := by rw [hpc] at hpcOk; exact hpcOk
    have hh : holds (s.threads t).pc = true := by rw [hpc]; rfl
    have hnum : ∀ g j, NumOk c s.store g j → NumOk c (removeAt c s.store ino o) g j := by
      intro g j ⟨a, b⟩
      refine ⟨fun hk => ?_, b⟩
      have := a hk
      simp [removeAt, hk, this]
    apply InvBut.finish
    · exact ⟨h.free_others hh, fun t' ne => (h.pcOk t').out (h.others_out hh ne) rfl rfl,
        fun t' g j hm => hnum g j (h.resOk t' g j hm)⟩
    · exact sinv_remove h.sinv hd hz
    · nofun
    · intro i o' hi hc
      obtain ⟨hii, hi'⟩ := upd_none_some hi
      -- the only zero count was the one of the entry just removed
      obtain ⟨t0, n0, e⟩ := h.zeroF3 i o' hi' hc
      have : t0 = t := holder_unique h hh (by rw [e]; rfl)
      subst this
      rw [hpc] at e; cases e; exact absurd rfl hii
    · nofun

theorem step_inv {c : Cfg} (hinj : c.keep = false → ∀ f g, c.pack f = c.pack g → f = g) {s : Sys} (h : Inv c s)
    (t : Tid) : Inv c (step c s t) :=
  (step_shape c s t).inv hinj h

theorem run_inv {c : Cfg} (hinj : c.keep = false → ∀ f g, c.pack f = c.pack g → f = g) {s : Sys} (h : Inv c s)
    (sched : List Tid) : Inv c (run c s sched) :=
  List.foldlRecOn sched _ h fun _ h t _ => step_inv hinj h t

def reach (c : Cfg) (progs : Tid → List Op) (sched : List Tid) : Sys := run c (Sys.init progs) sched

theorem reach_inv {c : Cfg} (hinj : ∀ f g, c.pack f = c.pack g → f = g) (progs : Tid → List Op)
    (sched : List Tid) : Inv c (reach c progs sched) :=
  run_inv (fun _ => hinj) (inv_init c progs) sched

end Fbr.Conc
