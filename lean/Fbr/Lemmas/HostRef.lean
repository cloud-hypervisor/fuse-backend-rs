/-
  Fbr.Lemmas.HostRef — the shape of a call of the reference FS, and `HostLaws`.

  `stepCore` is one `match` over all calls.  `Eff s c r` lists the few forms its result `r` (answer, state)
  can have (unchanged; a new descriptor; an attribute update of a denoted inode; `createIn` under a
  checked directory; link / unlink / rename; a new handle id; a descriptor entry or the credentials
  replaced), each with the facts the call established before it got there.  `stepCore_eff` walks the
  `match` once; every invariant of the reference FS (`Good`, the sentinel frame, `Wf`/`Ext`, creation,
  `readOnly`) and what an answer says about the state (Fbr.Lemmas.HostRefWf) is then a case analysis on
  `Eff`, one primitive update at a time.  `step` is `stepCore` (`step_eq`), so each of them is proved of
  `stepCore` and holds of `step` by `rw [step_eq]`.

  The reference FS satisfies `HostLaws` (so the hypotheses of the C05/C06 theorems are satisfiable).
-/
import Fbr.HostRef

namespace Fbr.Host.Ref

theorem step_creds_other (s : State) (c : HCall) (h : c.isCred = false) : (step s c).2.creds = s.creds := by
  simp [step, h]

theorem step_cred (s : State) (c : HCall) (h : c.isCred = true) : step s c = stepCore s c := by
  simp [step, h]

theorem step_nodes (s : State) (c : HCall) : (step s c).2.nodes = (stepCore s c).2.nodes := by
  unfold step; split <;> rfl

theorem newFd_nodes (s : State) (o : Obj) (fl : Nat) : (newFd s o fl).2.nodes = s.nodes := rfl

theorem openObj_nodes (s : State) (o : Obj) (fl : Nat) (h : has fl O_TRUNC = false) : (openObj s o fl).2.nodes = s.nodes := by
  unfold openObj
  split
  · rfl
  · split
    · rfl
    · simp only [h, Bool.false_and, Bool.false_eq_true, if_false]; rfl

theorem fdObj_of_fds {s : State} {f : Fd} {e : FdEnt} (h : s.fds f = some e) : fdObj s f = some e.obj := by
  unfold fdObj; rw [h]; rfl

theorem fdObj_eq_some {s : State} {f : Fd} {o : Obj} : fdObj s f = some o ↔ ∃ e, s.fds f = some e ∧ e.obj = o := by
  unfold fdObj; cases s.fds f <;> simp

theorem fdObj_newFd (s : State) (o : Obj) (fl : Nat) : fdObj (newFd s o fl).2 s.nextFd = some o := by
  simp [newFd, fdObj]

theorem fdObj_newFd_of_ne (s : State) (o : Obj) (fl : Nat) {f : Fd} (hf : f ≠ s.nextFd) :
    fdObj (newFd s o fl).2 f = fdObj s f := by
  simp [newFd, fdObj, hf]

theorem ok_of_guard {ε α : Type} {p : Prop} [Decidable p] {e : ε} {x : Except ε α} {v : α}
    (h : (if p then .error e else x) = .ok v) : ¬ p ∧ x = .ok v := by
  by_cases hp : p
  · rw [if_pos hp] at h; cases h
  · rw [if_neg hp] at h; exact ⟨hp, h⟩

theorem createCheck_node {s : State} {d : Obj} {name : Name} {dn : Node} (h : createCheck s d name = .ok dn) :
    s.nodes d = some dn := by
  unfold createCheck at h
  split at h
  · cases h
  · rename_i n hn
    iterate 8 replace h := (ok_of_guard h).2  -- the eight `if … then .error _` of `createCheck`
    cases h; exact hn

theorem renameCheck_ok {s : State} {nd : Obj} {odn ndn : Node} {on nn : Name} {fl : Nat} {c : Obj} {cn : Node}
    (h : renameCheck s nd odn ndn on nn fl = .ok (some (c, cn))) :
    odn.entries.lookup on = some c := by
  unfold renameCheck at h
  -- the counts below are the runs of `if … then .error _` in `renameCheck` between its `match`es
  iterate 3 replace h := (ok_of_guard h).2
  split at h
  · cases h
  rename_i c' hc
  split at h
  · cases h
  iterate 3 replace h := (ok_of_guard h).2
  by_cases ht : (ndn.entries.lookup nn == some c') = true
  · rw [if_pos ht] at h; cases h
  rw [if_neg ht] at h
  replace h := (ok_of_guard h).2
  split at h
  · iterate 3 replace h := (ok_of_guard h).2
    cases h; exact hc
  · cases h; exact hc

/-- `renameApply` is up to four `modNode`s: at the replaced target, at the old and the new
    directory, and at the moved inode if it is a directory -/
theorem renameApply_ind {P : State → Prop} {s : State} {od nd : Obj} {on nn : Name} {c : Obj} {cn : Node}
    {tgt : Option Obj} (h0 : P s)
    (h1 : ∀ t, tgt = some t →
      P (modNode s t (fun tn => { tn with nlink := if tn.kind == .dir then 0 else tn.nlink - 1 })))
    (h2 : ∀ st, P st → P (modNode st od (fun n => removeEntry n on)))
    (h3 : ∀ st, P st →
      P (modNode st nd (fun n => { removeEntry n nn with entries := (nn, c) :: (removeEntry n nn).entries })))
    (h4 : ∀ st, P st → P (modNode st c (fun n => { n with parent := nd }))) :
    P (renameApply s od nd on nn c cn tgt) := by
  unfold renameApply
  have e1 : P (match (generalizing := false) tgt with
      | some t => modNode s t (fun tn => { tn with nlink := if tn.kind == .dir then 0 else tn.nlink - 1 })
      | none => s) := by
    cases tgt with
    | none => exact h0
    | some t => exact h1 t rfl
  dsimp only
  split
  · exact h4 _ (h3 _ (h2 _ e1))
  · exact h3 _ (h2 _ e1)

theorem renameApply_ind' {P : State → Prop} {s : State} {od nd : Obj} {on nn : Name} {c : Obj} {cn : Node}
    {tgt : Option Obj} (h0 : P s)
    (hm : ∀ {st o f}, (o = od ∨ o = nd ∨ o = c ∨ tgt = some o) → P st → P (modNode st o f)) :
    P (renameApply s od nd on nn c cn tgt) :=
  renameApply_ind h0 (fun _ ht => hm (.inr (.inr (.inr ht))) h0) (fun _ => hm (.inl rfl))
    (fun _ => hm (.inr (.inl rfl))) (fun _ => hm (.inr (.inr (.inl rfl))))

/-- the three ways a call names an object to open: a descriptor (`/proc/self/fd`), a file handle,
    a path below a directory descriptor — with the flags of the open -/
inductive Opens (s : State) : HCall → Obj → Nat → Prop
  | reopen {f o fl md} : fdObj s f = some o → Opens s (.reopen f fl md) o fl
  | handle {h o fl md} : s.handles h = some o → Opens s (.openByHandle h fl md) o fl
  | path {dfd d name fl m o} : fdObj s dfd = some d → ¬ (has fl O_CREAT && has fl O_EXCL) = true →
      resolve s d name (!has fl O_NOFOLLOW) = .ok o → Opens s (.openat dfd name fl m) o fl

/-- the object a `statx` / `fstatat` reports on: the descriptor's, or the one its path names -/
def Stats (s : State) : HCall → Obj → Prop
  | .statx f name _ _, t | .fstatat f name _, t =>
      ∃ o, fdObj s f = some o ∧ (if name.isEmpty then .ok o else resolve s o name false) = .ok t
  | _, _ => False

/-- answers that name no descriptor, handle or inode -/
def _root_.Fbr.Host.HAns.plain : HAns → Bool
  | .fd .. | .handle .. | .st .. => false
  | _ => true

/-- `Eff s c r`: the forms `stepCore s c` can have — the answer and the state after the call.  An answer
    that names something (`fd`, `handle`, `st`) comes only from the constructors that say what it names:
    the others take any answer that is `plain`, which `.same _`, `.attr _ rfl …`, `.fdent _ rfl …` check by `rfl`. -/
inductive Eff (s : State) : HCall → HAns × State → Prop
  | same {c} (a) (ha : a.plain = true := by rfl) : Eff s c (a, s)
  | opened {c o fl} : Opens s c o fl → Eff s c (.fd s.nextFd o, (newFd s o fl).2)
  | truncated {c o fl n} : Opens s c o fl → has fl O_TRUNC = true → s.nodes o = some n →
      Eff s c (.fd s.nextFd o, (newFd (setNode s o { n with data := [], mtime := none }) o fl).2)
  | stat {c t n} : Stats s c t → Eff s c (.st (statOf t n), s)
  /-- the inode behind a descriptor changes, but neither its type, its entries nor its ".." -/
  | attr {c f o n n'} (a) (ha : a.plain = true := by rfl) : fdObj s f = some o → s.nodes o = some n → n'.kind = n.kind →
      n'.entries = n.entries → n'.parent = n.parent → c.readOnly = false → Eff s c (a, setNode s o n')
  | creat {dfd d name fl m dn} : fdObj s dfd = some d → (has fl O_CREAT && has fl O_EXCL) = true →
      s.nodes d = some dn →
      Eff s (.openat dfd name fl m)
        (.fd s.nextFd s.next, (newFd (createIn s d dn name .reg (m &&& 4095) 0 []).1 s.next fl).2)
  | mkdirat {dfd d name m dn} : fdObj s dfd = some d → s.nodes d = some dn →
      Eff s (.mkdirat dfd name m) (.ok, (createIn s d dn name .dir (m &&& 1023) 0 []).1)
  | mknodat {dfd d name m r dn k p r'} : fdObj s dfd = some d → s.nodes d = some dn →
      Eff s (.mknodat dfd name m r) (.ok, (createIn s d dn name k p r' []).1)
  | symlinkat {t dfd d name dn} : fdObj s dfd = some d → s.nodes d = some dn →
      Eff s (.symlinkat t dfd name) (.ok, (createIn s d dn name .lnk 511 0 t).1)
  | linkat {f on nf name fl o d n dn} : fdObj s f = some o → fdObj s nf = some d → s.nodes o = some n →
      s.nodes d = some dn →
      Eff s (.linkat f on nf name fl)
        (.ok, setNode (setNode s o { n with nlink := n.nlink + 1 }) d { dn with entries := (name, o) :: dn.entries })
  | unlinkat {dfd name fl d dn c cn k k'} : fdObj s dfd = some d → s.nodes d = some dn →
      dn.entries.lookup name = some c → s.nodes c = some cn →
      Eff s (.unlinkat dfd name fl)
        (.ok, setNode (setNode s c { cn with nlink := k }) d { removeEntry dn name with nlink := k' })
  | renameat2 {of on nf nn fl od nd odn ndn c cn} : fdObj s of = some od → fdObj s nf = some nd →
      s.nodes od = some odn → s.nodes nd = some ndn → renameCheck s nd odn ndn on nn fl = .ok (some (c, cn)) →
      Eff s (.renameat2 of on nf nn fl) (.ok, renameApply s od nd on nn c cn (ndn.entries.lookup nn))
  /-- an inode keeps its handle id -/
  | handleOld {f fl sz o h} : fdObj s f = some o →
      (List.range s.nextHandle).find? (fun h => s.handles h == some o) = some h →
      Eff s (.nameToHandle f fl sz) (.handle h, s)
  | handle {f fl sz o} : fdObj s f = some o →
      (List.range s.nextHandle).find? (fun h => s.handles h == some o) = none →
      Eff s (.nameToHandle f fl sz)
        (.handle s.nextHandle,
         { s with handles := fun h => if h = s.nextHandle then some o else s.handles h, nextHandle := s.nextHandle + 1 })
  /-- a descriptor's entry is replaced by one for the same object (lseek, F_SETFL) -/
  | fdent {c f e e'} (a) (ha : a.plain = true := by rfl) : s.fds f = some e → e'.obj = e.obj →
      Eff s c (a, { s with fds := fun x => if x = f then some e' else s.fds x })
  /-- only a credential call changes the credentials -/
  | creds {c cr} : c.isCred = true → Eff s c (.ok, { s with creds := cr })

section
variable {s : State} {c : HCall}

theorem eff_ite {p : Prop} [Decidable p] {a b : HAns × State}
    (ha : p → Eff s c a) (hb : ¬ p → Eff s c b) : Eff s c (if p then a else b) := by
  by_cases hp : p
  · rw [if_pos hp]; exact ha hp
  · rw [if_neg hp]; exact hb hp

theorem eff_guard {p : Prop} [Decidable p] {a : HAns} {r : HAns × State} (h : Eff s c r)
    (ha : a.plain = true := by rfl) : Eff s c (if p then (a, s) else r) :=
  eff_ite (fun _ => .same a ha) fun _ => h

/-- A lookup that fails returns an error and the state as it was: `eff_guard` for a `match`.  Each of the five is
    stated with the `match` of the model at the model's own type (`Option Obj`, `Option FdEnt`, `Option Node`, the
    results of `createCheck` and `resolve`), failing alternative first: one lemma over `Option α` does not unify
    with the goal, since Lean compares the auxiliary matcher constants of the two `match`es and those of the
    model are specific to each type. -/
theorem eff_obj {x : Option Obj} {e : Nat} {k : Obj → HAns × State} (h : ∀ o, x = some o → Eff s c (k o)) :
    Eff s c (match (generalizing := false) x with | none => (.err e, s) | some o => k o) := by
  cases x with
  | none => exact .same _
  | some o => exact h o rfl

theorem eff_ent {x : Option FdEnt} {er : Nat} {k : FdEnt → HAns × State} (h : ∀ e, x = some e → Eff s c (k e)) :
    Eff s c (match (generalizing := false) x with | none => (.err er, s) | some e => k e) := by
  cases x with
  | none => exact .same _
  | some e => exact h e rfl

theorem eff_node {x : Option Node} {e : Nat} {k : Node → HAns × State} (h : ∀ n, x = some n → Eff s c (k n)) :
    Eff s c (match (generalizing := false) x with | none => (.err e, s) | some n => k n) := by
  cases x with
  | none => exact .same _
  | some n => exact h n rfl

theorem eff_check {d : Obj} {name : Name} {k : Node → HAns × State} (h : ∀ dn, s.nodes d = some dn → Eff s c (k dn)) :
    Eff s c (match (generalizing := false) createCheck s d name with | .error e => (.err e, s) | .ok dn => k dn) := by
  cases hk : createCheck s d name with
  | error e => exact .same _
  | ok dn => exact h dn (createCheck_node hk)

theorem eff_path {x : Except Nat Obj} {k : Obj → HAns × State} (h : ∀ o, x = .ok o → Eff s c (k o)) :
    Eff s c (match (generalizing := false) x with | .error e => (.err e, s) | .ok o => k o) := by
  cases x with
  | error e => exact .same _
  | ok o => exact h o rfl

theorem openObj_eff {o : Obj} {fl : Nat} (h : Opens s c o fl) : Eff s c (openObj s o fl) := by
  unfold openObj
  refine eff_node fun n hn => ?_
  split
  · exact .same _
  · exact eff_ite (fun ht => .truncated h (Bool.and_eq_true_iff.mp ht).1 hn) (fun _ => .opened h)

theorem open_eff {o : Obj} {fl : Nat} (h : Opens s c o fl) :
    Eff s c (if has fl O_PATH then newFd s o fl else openObj s o fl) :=
  eff_ite (fun _ => .opened h) (fun _ => openObj_eff h)

theorem setTimes_eff {f : Fd} {o : Obj} (a b x y : Nat) (ho : fdObj s f = some o) (hw : c.readOnly = false) :
    Eff s c (setTimes s o a b x y) := by
  unfold setTimes
  exact eff_node fun n hn => .attr _ rfl ho hn rfl rfl rfl hw

theorem chmodObj_eff {f : Fd} {o : Obj} (m : Nat) (ho : fdObj s f = some o) (hw : c.readOnly = false) :
    Eff s c (chmodObj s o m) := by
  unfold chmodObj
  exact eff_node fun n hn => eff_guard <| .attr _ rfl ho hn rfl rfl rfl hw

end

/-- **The one walk over `stepCore`**, answer and state, each call in the order of its text in the model: a lookup
    that may fail (`eff_obj`: the object of a descriptor or a handle, `eff_ent`: a descriptor's entry, `eff_node`: an
    inode, `eff_check`: `createCheck`, `eff_path`: `resolve`), a guard (`eff_guard`), a two-way `if` (`eff_ite`), at the end
    the form the result has.  `split` is left for the other `match`es: on an `if` inside a term of this size it is
    two orders of magnitude dearer than `eff_ite` / `eff_guard`. -/
theorem stepCore_eff (s : State) (c : HCall) : Eff s c (stepCore s c) := by
  cases c <;> simp only [stepCore]
  case openat dfd name fl m =>
    refine eff_obj fun d hd => eff_ite (fun hx => ?_) (fun hx => ?_)
    · exact eff_check fun dn hk => .creat hd hx hk
    · exact eff_path fun o ho => open_eff (.path hd hx ho)
  case reopen f fl md => exact eff_ent fun e he => open_eff (.reopen (fdObj_of_fds he))
  case openByHandle h fl md =>
    exact eff_guard <| eff_obj fun o ho => eff_node fun n _ => eff_guard <| open_eff (.handle ho)
  case nameToHandle f fl sz =>
    refine eff_obj fun o ho => eff_guard ?_
    split
    · rename_i hf; exact .handleOld ho hf
    · rename_i hn; exact .handle ho hn
  case statx | fstatat =>
    refine eff_obj fun o ho => eff_path fun t ht => ?_
    split
    · exact .stat ⟨o, ho, ht⟩
    · exact .same _
  case mkdirat dfd name m => exact eff_obj fun d hd => eff_check fun dn hk => .mkdirat hd hk
  case mknodat dfd name m r =>
    refine eff_obj fun d hd => ?_
    split
    · exact .same _
    · exact eff_guard <| eff_check fun dn hk => .mknodat hd hk
  case symlinkat t dfd name => exact eff_obj fun d hd => eff_guard <| eff_check fun dn hk => .symlinkat hd hk
  case linkat f on nf name fl =>
    split
    · rename_i o d ho hd
      exact eff_node fun n hn => eff_guard <| eff_check fun dn hk => eff_guard <| .linkat ho hd hn hk
    · exact .same _
  case unlinkat dfd name fl =>
    refine eff_obj fun d hd => eff_node fun dn hdn => ?_
    iterate 6 refine eff_guard ?_  -- the six name checks of `unlinkat` before its entry lookup
    refine eff_obj fun c hl => eff_node fun cn hcn => eff_ite (fun _ => ?_) (fun _ => ?_)
    · exact eff_guard <| eff_guard <| .unlinkat hd hdn hl hcn
    · exact eff_guard <| .unlinkat (k' := dn.nlink) hd hdn hl hcn
  case renameat2 of on nf nn fl =>
    split
    · rename_i od nd hod hnd
      split
      · rename_i odn ndn hodn hndn
        split
        · exact .same _
        · exact .same _
        · rename_i c cn hk; exact .renameat2 hod hnd hodn hndn hk
      · exact .same _
    · exact .same _
  case readlinkat =>
    refine eff_obj fun _ _ => ?_
    split
    · exact eff_guard <| .same _
    · exact .same _
  case fchmod f m => exact eff_ent fun e he => eff_guard <| chmodObj_eff m (fdObj_of_fds he) rfl
  case fchmodatProc f m fl => exact eff_obj fun o ho => chmodObj_eff m ho rfl
  case fchownat f nm u gg fl =>
    refine eff_obj fun o ho => eff_node fun n hn => ?_
    refine .attr _ rfl ho hn ?_ ?_ ?_ rfl <;> (split <;> rfl)
  case ftruncate f sz =>
    exact eff_ent fun e he => eff_guard <| eff_node fun n hn => eff_guard <|
      .attr _ rfl (fdObj_of_fds he) hn rfl rfl rfl rfl
  case futimens f a b x y => exact eff_ent fun e he => eff_guard <| setTimes_eff a b x y (fdObj_of_fds he) rfl
  case utimensatProc f a b x y fl => exact eff_obj fun o ho => setTimes_eff a b x y ho rfl
  case fallocate f m off len =>
    refine eff_ent fun e he => eff_node fun n hn => ?_
    have hw := fun n' h1 h2 h3 => Eff.attr (c := .fallocate f m off len) (n' := n') .ok rfl (fdObj_of_fds he) hn h1 h2 h3 rfl
    iterate 3 refine eff_guard ?_
    refine eff_ite (fun _ => hw _ rfl rfl rfl) fun _ => ?_
    refine eff_guard ?_
    exact eff_ite (fun _ => hw _ rfl rfl rfl) fun _ => .same _
  case lseek f off wh =>
    refine eff_ent fun e he => eff_node fun n _ => ?_
    split
    · exact .same _
    · exact .fdent _ rfl he rfl
  case preadv =>
    exact eff_ent fun _ _ => eff_node fun _ _ => eff_guard <| eff_guard <| eff_guard <| .same _
  case pwritev f data off =>
    exact eff_ent fun e he => eff_node fun n hn => eff_guard <| eff_guard <|
      .attr _ rfl (fdObj_of_fds he) hn rfl rfl rfl rfl
  case fstatvfs => split <;> exact .same _
  case setxattr f nm v fl =>
    refine eff_obj fun o ho => eff_node fun n hn => ?_
    split
    · exact .same _
    · exact eff_guard <| eff_guard <| .attr _ rfl ho hn rfl rfl rfl rfl
  case getxattr =>
    refine eff_obj fun _ _ => eff_node fun _ _ => ?_
    split
    · exact .same _
    split
    · exact .same _
    · exact eff_guard <| eff_guard <| .same _
  case listxattr => exact eff_obj fun _ _ => eff_node fun _ _ => eff_guard <| eff_guard <| .same _
  case removexattr f nm =>
    refine eff_obj fun o ho => eff_node fun n hn => ?_
    split
    · exact .same _
    · exact eff_ite (fun _ => .attr _ rfl ho hn rfl rfl rfl rfl) fun _ => .same _
  case fsync | fdatasync => exact eff_ent fun _ _ => eff_guard <| .same _
  case setfl f fl => exact eff_ent fun e he => .fdent _ rfl he rfl
  case setresgid | setresuid => exact eff_ite (fun _ => .creds rfl) fun _ => .same _
  case capget => exact .same _
  case capset => exact eff_guard <| .creds rfl

theorem Opens.not_readOnly {s : State} {c : HCall} {o : Obj} {fl : Nat} (h : Opens s c o fl)
    (ht : has fl O_TRUNC = true) : c.readOnly = false := by
  cases h <;> simp [HCall.readOnly, ht]

theorem Eff.nodes_readOnly {s : State} {c : HCall} {r : HAns × State} (h : Eff s c r) (hro : c.readOnly = true) :
    r.2.nodes = s.nodes := by
  cases h with
  | same | opened | stat | handleOld | handle | fdent | creds => rfl
  | truncated ho ht => rw [ho.not_readOnly ht] at hro; cases hro
  | attr _ _ _ _ _ _ _ hw => rw [hw] at hro; cases hro
  | creat _ hx =>
    have := (Bool.and_eq_true_iff.mp hx).1
    simp [HCall.readOnly, this] at hro
  | mkdirat | mknodat | symlinkat | linkat | unlinkat | renameat2 => cases hro

theorem stepCore_readOnly (s : State) (c : HCall) (h : c.readOnly = true) : (stepCore s c).2.nodes = s.nodes :=
  (stepCore_eff s c).nodes_readOnly h

theorem modNode_sent (s : State) (o : Obj) (f : Node → Node) : (modNode s o f).sent = s.sent := by
  unfold modNode; split <;> rfl

theorem modNode_exportRoot (s : State) (o : Obj) (f : Node → Node) : (modNode s o f).exportRoot = s.exportRoot := by
  unfold modNode; split <;> rfl

theorem modNode_creds (s : State) (o : Obj) (f : Node → Node) : (modNode s o f).creds = s.creds := by
  unfold modNode; split <;> rfl

theorem Eff.consts {s : State} {c : HCall} {r : HAns × State} (h : Eff s c r) :
    r.2.sent = s.sent ∧ r.2.exportRoot = s.exportRoot ∧ (c.isCred = false → r.2.creds = s.creds) := by
  cases h with
  | renameat2 =>
    exact renameApply_ind' (P := fun st => st.sent = s.sent ∧ st.exportRoot = s.exportRoot ∧ (_ → st.creds = s.creds))
      ⟨rfl, rfl, fun _ => rfl⟩
      fun _ h => ⟨(modNode_sent ..).trans h.1, (modNode_exportRoot ..).trans h.2.1, fun hc => (modNode_creds ..).trans (h.2.2 hc)⟩
  | creds hc => exact ⟨rfl, rfl, fun h => by rw [hc] at h; cases h⟩
  | _ => exact ⟨rfl, rfl, fun _ => rfl⟩

/-- **`step` is `stepCore`**: the credentials `step` puts back after a call that is not a credential call are
    the ones `stepCore` left there -/
theorem step_eq (s : State) (c : HCall) : step s c = stepCore s c := by
  unfold step
  by_cases hc : c.isCred = true
  · rw [if_pos hc]
  · rw [if_neg hc]
    have h := (stepCore_eff s c).consts.2.2 (by simpa using hc)
    show ((stepCore s c).1, { (stepCore s c).2 with creds := s.creds }) = stepCore s c
    rw [← h]

theorem step_sent (s : State) (c : HCall) : (step s c).2.sent = s.sent := by
  rw [step_eq]; exact (stepCore_eff s c).consts.1

theorem step_exportRoot (s : State) (c : HCall) : (step s c).2.exportRoot = s.exportRoot := by
  rw [step_eq]; exact (stepCore_eff s c).consts.2.1

instance hostLaws (sent : Obj → Bool) (root : Obj) : HostLaws (ops sent root) where
  view_readOnly := by
    intro s c h o
    show (step s c).2.nodes o = s.nodes o
    rw [step_nodes, stepCore_readOnly s c h]
  creds_other := fun s c h => step_creds_other s c h
  setresgid_spec := by
    intro s g
    simp only [ops, step_cred s (.setresgid g) rfl, stepCore]
    split
    · exact Or.inl ⟨rfl, rfl⟩
    · exact Or.inr ⟨⟨_, rfl⟩, rfl⟩
  setresgid_zero := by
    intro s
    show (step s (.setresgid 0)).1 = .ok
    rw [step_cred s _ rfl]
    simp [stepCore]
  setresuid_spec := by
    intro s u
    simp only [ops, step_cred s (.setresuid u) rfl, stepCore]
    split
    · exact Or.inl ⟨rfl, rfl⟩
    · exact Or.inr ⟨⟨_, rfl⟩, rfl⟩
  setresuid_zero := by
    intro s
    show (step s (.setresuid 0)).1 = .ok
    rw [step_cred s _ rfl]
    simp [stepCore]
  capset_spec := by
    intro s b
    simp only [ops, step_cred s (.capset b) rfl, stepCore]
    split
    · exact Or.inr ⟨⟨_, rfl⟩, rfl⟩
    · exact Or.inl ⟨rfl, rfl⟩
  capset_raise := by
    intro s hp _
    show (step s (.capset true)).1 = .ok
    rw [step_cred s _ rfl]
    have : s.creds.permFsetid = true := hp
    simp [stepCore, this]
  capget_spec := by
    intro s
    show (step s .capget).1 = .caps s.creds.effFsetid
    simp [step, stepCore, HCall.isCred]

end Fbr.Host.Ref
