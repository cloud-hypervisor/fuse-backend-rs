/-
  The handle table of a virtio-fs request (readers + writers over one descriptor chain, no
  fusedev writer) at address level, under any operation list: `AInv`, what every step keeps
  ("exactly once": addresses read/written + addresses still ahead = the chain, as multisets; the
  dirty log is exactly the pages written; counters add up), `Inv` (accesses and cursors stay
  inside the chain), which is read off `AInv`, and the start state.
-/
import Fbr.Lemmas.XportOps

namespace Fbr.Xport

/-- world part of the invariant: every raw access stays inside the chain (`R0` = addresses of the
    readable descriptors, `W0` = of the writable ones) and the dirty log is exactly the set of
    pages of written addresses -/
structure WInv (R0 W0 : List Addr) (w : World) : Prop where
  p : 0 < w.p
  rd_in : ∀ a ∈ rdAddrs w.log, a ∈ R0
  wr_in : ∀ a ∈ wrAddrs w.log, a ∈ W0
  dirty_sup : ∀ a ∈ wrAddrs w.log, pageOf w.p a ∈ w.dirty
  dirty_sub : ∀ x ∈ w.dirty, ∃ a ∈ wrAddrs w.log, pageOf w.p a = x

/-- what the table invariant asks of one cursor: it holds only addresses of its side `A0` of the
    chain (so whatever it will access is in bounds), and its counter cannot overflow (the
    hypothesis of every per-operation lemma) -/
def HIn (A0 : List Addr) (b : IoBufs) : Prop :=
  (∀ a ∈ addrs b.segs, a ∈ A0) ∧ b.consumed + total b.segs < USIZE

theorem HIn.sub {A0 : List Addr} {b : IoBufs} (h : HIn A0 b) : ∀ a ∈ addrs b.segs, a ∈ A0 := h.1

def IoBufs.size (b : IoBufs) : Nat := b.available + b.consumed

/-- the quantity a side of the table conserves: an operation moves bytes from `available` to
    `consumed`, a split hands the cut-off `available` to a cursor that starts at 0 -/
def sizes (l : List IoBufs) : Nat := (l.map IoBufs.size).sum

theorem AdvBy.size {n : Nat} {wr md : Bool} {b b' : IoBufs} {w w' : World} (h : AdvBy n wr md b w b' w') :
    b'.size = b.size := by
  have := h.inv
  simp only [IoBufs.size, available_eq_total]; omega

theorem forall_set {α : Type} {P : α → Prop} {l : List α} {i : Nat} {x : α}
    (hl : ∀ y ∈ l, P y) (hx : P x) : ∀ y ∈ l.set i x, P y := by
  intro y hy
  rcases List.mem_or_eq_of_mem_set hy with h | h
  · exact hl y h
  · rw [h]; exact hx

theorem forall_set_append {α : Type} {P : α → Prop} {l : List α} {i : Nat} {x o : α}
    (hl : ∀ y ∈ l, P y) (hx : P x) (ho : P o) : ∀ y ∈ l.set i x ++ [o], P y := by
  intro y hy
  rcases List.mem_append.mp hy with hy | hy
  · exact forall_set hl hx y hy
  · rw [List.mem_singleton.mp hy]; exact ho

theorem forall_set_append_others {α : Type} {P : α → Prop} {l : List α} {i : Nat} {x o : α}
    (hl : ∀ y ∈ l.eraseIdx i, P y) (hx : P x) (ho : P o) : ∀ y ∈ l.set i x ++ [o], P y := by
  intro y hy
  rcases List.mem_append.mp hy with hy | hy
  · obtain ⟨j, hj⟩ := List.mem_iff_getElem?.mp hy
    rw [List.getElem?_set] at hj
    split at hj
    · split at hj <;> cases hj
      exact hx
    · next hji => exact hl y (List.mem_eraseIdx_iff_getElem?.mpr ⟨j, Ne.symm hji, hj⟩)
  · rw [List.mem_singleton.mp hy]; exact ho

theorem sum_map_set {α : Type} (f : α → Nat) (l : List α) (i : Nat) (b x : α) (h : l[i]? = some b) :
    ((l.set i x).map f).sum + f b = (l.map f).sum + f x := by
  induction l generalizing i with
  | nil => simp at h
  | cons y rest ih =>
    cases i with
    | zero => simp at h; subst h; simp; omega
    | succ i =>
      simp only [List.getElem?_cons_succ] at h
      have := ih i h
      simp only [List.set, List.map_cons, List.sum_cons]
      omega

theorem sizes_set {l : List IoBufs} {i : Nat} {b x : IoBufs} (h : l[i]? = some b) (hx : x.size = b.size) :
    sizes (l.set i x) = sizes l := by
  have := sum_map_set IoBufs.size l i b x h
  unfold sizes; omega

theorem sizes_split {l : List IoBufs} {i k : Nat} {b a o : IoBufs} (h : l[i]? = some b)
    (hs : b.splitAt k = .ok (a, o)) : sizes (l.set i a ++ [o]) = sizes l := by
  obtain ⟨hk, _, _, ca, co, la, lo⟩ := splitAt_ok hs
  have := sum_map_set IoBufs.size l i b a h
  simp only [sizes, List.map_append, List.sum_append, List.map_cons, List.map_nil, List.sum_cons, List.sum_nil,
    IoBufs.size, available_eq_total] at this ⊢
  omega

/-- the address-level invariant of a virtio-fs table, holding after every operation list (`AInv.inv`, `exec_ainv`):
    `R0`/`W0`, `nr`/`nw` are the addresses and the total size of the readable/writable descriptors
    the request started with; the in-bounds, dirty-log and counter theorems are its fields -/
structure Inv (R0 W0 : List Addr) (nr nw : Nat) (st : St) : Prop where
  w : WInv R0 W0 st.w
  readers : ∀ b ∈ st.readers, HIn R0 b
  writers : ∀ b ∈ st.writers, HIn W0 b
  rsum : sizes st.readers = nr
  wsum : sizes st.writers = nw
  nofuse : st.fws = []

def ahead (l : List IoBufs) : List Addr := l.flatMap fun b => addrs b.segs

theorem mem_ahead {l : List IoBufs} {a : Addr} : a ∈ ahead l ↔ ∃ b ∈ l, a ∈ addrs b.segs := List.mem_flatMap

theorem mem_ahead_of {l : List IoBufs} {i : Nat} {b : IoBufs} {a : Addr} (hg : l[i]? = some b) (ha : a ∈ addrs b.segs) :
    a ∈ ahead l :=
  mem_ahead.mpr ⟨b, List.mem_of_getElem? hg, ha⟩

theorem perm_ahead_set (l : List IoBufs) (i : Nat) (b x : IoBufs) (T : List Addr) (h : l[i]? = some b)
    (hb : (T ++ addrs x.segs).Perm (addrs b.segs)) : (T ++ ahead (l.set i x)).Perm (ahead l) := by
  induction l generalizing i with
  | nil => simp at h
  | cons y rest ih =>
    cases i with
    | zero =>
      simp only [List.getElem?_cons_zero, Option.some.injEq] at h
      subst h
      simp only [ahead, List.set_cons_zero, List.flatMap_cons, ← List.append_assoc]
      exact List.Perm.append_right _ hb
    | succ i =>
      simp only [List.getElem?_cons_succ] at h
      simp only [ahead, List.set_cons_succ, List.flatMap_cons]
      have := ih i h
      simp only [ahead] at this
      exact (List.perm_append_comm_assoc _ _ _).trans (List.Perm.append_left _ this)

theorem perm_ahead_adv {n : Nat} {wr md : Bool} {b b' : IoBufs} {w w' : World} {l : List IoBufs} {i : Nat}
    (h : l[i]? = some b) (hadv : AdvBy n wr md b w b' w') :
    ((addrs b.segs).take n ++ ahead (l.set i b')).Perm (ahead l) :=
  perm_ahead_set l i b b' _ h (by rw [hadv.addrs', List.take_append_drop])

theorem perm_adv {n : Nat} {wr md : Bool} {b b' : IoBufs} {w w' : World} {l : List IoBufs} {i : Nat}
    (h : l[i]? = some b) (hadv : AdvBy n wr md b w b' w') :
    (sel wr w'.log ++ ahead (l.set i b')).Perm (sel wr w.log ++ ahead l) := by
  rw [hadv.log, List.append_assoc]
  exact List.Perm.append_left _ (perm_ahead_adv h hadv)

theorem perm_split (l : List IoBufs) (i : Nat) (b a o : IoBufs) (h : l[i]? = some b)
    (hb : addrs b.segs = addrs a.segs ++ addrs o.segs) : (ahead (l.set i a ++ [o])).Perm (ahead l) := by
  have h1 : ahead (l.set i a ++ [o]) = ahead (l.set i a) ++ addrs o.segs := by simp [ahead]
  rw [h1]
  exact List.perm_append_comm.trans (perm_ahead_set l i b a (addrs o.segs) h (by rw [hb]; exact List.perm_append_comm))

theorem perm_splitAt {l : List IoBufs} {i k : Nat} {b a o : IoBufs} (h : l[i]? = some b)
    (hs : b.splitAt k = .ok (a, o)) : (ahead (l.set i a ++ [o])).Perm (ahead l) :=
  perm_split l i b a o h (splitAt_addrs hs)

/-- at `AInv.ronce`/`wonce`, `VInv.wonce` with distinct chain addresses: nothing is accessed twice, no two
    cursors share an address, and nothing accessed is still ahead of a cursor -/
theorem nodup_of_perm_append {α : Type} {A B C : List α} (h : (A ++ B).Perm C) (hnd : C.Nodup) :
    A.Nodup ∧ B.Nodup ∧ ∀ a ∈ A, a ∉ B := by
  obtain ⟨h1, h2, h3⟩ := List.nodup_append.mp (h.nodup_iff.mpr hnd)
  exact ⟨h1, h2, fun a ha hb => h3 a ha a hb rfl⟩

/-- the address-level invariant of a virtio-fs table in the form every step KEEPS.  "Every byte exactly
    once" as a conserved multiset: on each side, the addresses accessed so far plus those the cursors
    still hold are the chain's, with multiplicity — an operation moves addresses from the second part
    to the first, a split regroups the second; the dirty log is exactly the pages written; no counter
    can overflow and the counters add up.  That accesses and cursors stay inside the chain (`Inv`) is
    read off the two permutations (`AInv.inv`) and needs no induction of its own -/
structure AInv (R0 W0 : List Addr) (nr nw : Nat) (st : St) : Prop where
  p : 0 < st.w.p
  ronce : (rdAddrs st.w.log ++ ahead st.readers).Perm R0
  wonce : (wrAddrs st.w.log ++ ahead st.writers).Perm W0
  dirty : ∀ x, x ∈ st.w.dirty ↔ ∃ a ∈ wrAddrs st.w.log, pageOf st.w.p a = x
  rov : ∀ b ∈ st.readers, b.consumed + total b.segs < USIZE
  wov : ∀ b ∈ st.writers, b.consumed + total b.segs < USIZE
  rsum : sizes st.readers = nr
  wsum : sizes st.writers = nw
  nofuse : st.fws = []

section
variable {R0 W0 : List Addr} {nr nw : Nat} {st : St}

theorem AInv.inv (h : AInv R0 W0 nr nw st) : Inv R0 W0 nr nw st :=
  ⟨⟨h.p, fun _ ha => h.ronce.subset (List.mem_append_left _ ha), fun _ ha => h.wonce.subset (List.mem_append_left _ ha),
      fun a ha => (h.dirty _).mpr ⟨a, ha, rfl⟩, fun x => (h.dirty x).mp⟩,
    fun b hb => ⟨fun _ ha => h.ronce.subset (List.mem_append_right _ (mem_ahead.mpr ⟨b, hb, ha⟩)), h.rov b hb⟩,
    fun b hb => ⟨fun _ ha => h.wonce.subset (List.mem_append_right _ (mem_ahead.mpr ⟨b, hb, ha⟩)), h.wov b hb⟩,
    h.rsum, h.wsum, h.nofuse⟩

theorem step_ainv (h : AInv R0 W0 nr nw st) (op : Op) : AInv R0 W0 nr nw (step st op).1 := by
  rcases step_cases_nofuse st op h.nofuse with ⟨e, _⟩ | ⟨i, b, _, hg, e⟩ | ⟨i, k, b, a, o, _, hg, hs, e⟩ | ⟨i, b, _, hg, e⟩
      | ⟨i, k, b, a, o, _, hg, hs, e⟩
  · rw [e]; exact h
  · rw [e]
    have hov := h.rov b (List.mem_of_getElem? hg)
    obtain ⟨n, hadv⟩ := readerRun_adv b st.w op hov
    refine ⟨hadv.p ▸ h.p, (perm_adv hg hadv).trans h.ronce, hadv.rother ▸ h.wonce, ?_,
      forall_set h.rov (hadv.inv ▸ hov), h.wov, (sizes_set hg hadv.size).trans h.rsum, h.wsum, h.nofuse⟩
    intro x
    simp only [hadv.dirty, hadv.rother, hadv.p, h.dirty, Bool.false_eq_true, false_and, or_false]
  · rw [e]
    obtain ⟨f1, f2⟩ := split_facts hs (h.rov b (List.mem_of_getElem? hg))
    exact ⟨h.p, (List.Perm.append_left _ (perm_splitAt hg hs)).trans h.ronce, h.wonce, h.dirty,
      forall_set_append h.rov f1 f2, h.wov, (sizes_split hg hs).trans h.rsum, h.wsum, h.nofuse⟩
  · rw [e]
    have hov := h.wov b (List.mem_of_getElem? hg)
    obtain ⟨n, hadv⟩ := writerRun_adv b st.w op hov
    refine ⟨hadv.p ▸ h.p, hadv.wother ▸ h.ronce, (perm_adv hg hadv).trans h.wonce, ?_, h.rov,
      forall_set h.wov (hadv.inv ▸ hov), h.rsum, (sizes_set hg hadv.size).trans h.wsum, h.nofuse⟩
    intro x
    simp only [hadv.dirty, hadv.wlog, hadv.p, h.dirty, List.mem_append, true_and, or_and_right, exists_or]
  · rw [e]
    obtain ⟨f1, f2⟩ := split_facts hs (h.wov b (List.mem_of_getElem? hg))
    exact ⟨h.p, h.ronce, (List.Perm.append_left _ (perm_splitAt hg hs)).trans h.wonce, h.dirty, h.rov,
      forall_set_append h.wov f1 f2, h.rsum, (sizes_split hg hs).trans h.wsum, h.nofuse⟩

theorem exec_ainv (ops : List Op) (h : AInv R0 W0 nr nw st) : AInv R0 W0 nr nw (exec st ops) :=
  exec_induct step_ainv ops h

end

/-- a virtio-fs request before the server touched it: nothing logged, nothing dirty, no fusedev
    writer, a positive page size, counters that cannot overflow `usize` (what
    `from_descriptor_chain` / `VirtioFsWriter::new` guarantee by their `checked_add`) -/
def Start (st : St) : Prop :=
  st.w.log = [] ∧ st.w.dirty = [] ∧ st.fws = [] ∧ 0 < st.w.p
    ∧ (∀ b ∈ st.readers, b.consumed + total b.segs < USIZE)
    ∧ (∀ b ∈ st.writers, b.consumed + total b.segs < USIZE)

theorem Start.log {st : St} (h : Start st) : st.w.log = [] := h.1

theorem Start.nofuse {st : St} (h : Start st) : st.fws = [] := h.2.2.1

theorem Start.p {st : St} (h : Start st) : 0 < st.w.p := h.2.2.2.1

theorem Start.rov {st : St} (h : Start st) : ∀ b ∈ st.readers, b.consumed + total b.segs < USIZE := h.2.2.2.2.1

theorem Start.wov {st : St} (h : Start st) : ∀ b ∈ st.writers, b.consumed + total b.segs < USIZE := h.2.2.2.2.2

def readable (st : St) : List Addr := st.readers.flatMap fun b => addrs b.segs
def writable (st : St) : List Addr := st.writers.flatMap fun b => addrs b.segs

theorem readable_eq_ahead (st : St) : readable st = ahead st.readers := rfl

theorem writable_eq_ahead (st : St) : writable st = ahead st.writers := rfl

theorem start_ainv {st : St} (h : Start st) :
    AInv (readable st) (writable st) (sizes st.readers) (sizes st.writers) st := by
  obtain ⟨hl, hd, hf, hp, hr, hw⟩ := h
  refine ⟨hp, ?_, ?_, by simp [hl, hd, wrAddrs], hr, hw, rfl, rfl, hf⟩ <;> rw [hl] <;> exact List.Perm.refl _

/-- a chain with a zero-length buffer, buffers straddling page borders of page size 64, two
    regions; one reader, one writer -/
def exampleStart : St :=
  { w := { p := 64, mem := ⟨[(1, List.replicate 300 0), (2, List.replicate 300 0)]⟩, dirty := [], log := [], fd := [] },
    readers := [{ segs := [⟨1, 10, 8⟩, ⟨1, 20, 0⟩], consumed := 0 }],
    writers := [{ segs := [⟨1, 60, 10⟩, ⟨2, 0, 0⟩, ⟨2, 100, 130⟩], consumed := 0 }],
    fws := [] }

end Fbr.Xport
