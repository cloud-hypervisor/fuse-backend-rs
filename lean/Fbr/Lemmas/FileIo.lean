/-
  The segment-by-segment vectored file operations (`readVec`, `writeVec`) equal one positioned
  operation on the concatenation.
-/
import Fbr.FileIo

namespace Fbr.FileIo

theorem preadAt_length_le (file : Bytes) (off n : Nat) : (preadAt file off n).length ≤ n := by
  unfold preadAt; simp [List.length_take]; omega

theorem preadAt_full (file : Bytes) (off n : Nat) (h : ¬ (preadAt file off n).length < n) :
    (preadAt file off n).length = n ∧ off + n ≤ file.length ∨ n = 0 := by
  unfold preadAt at *
  simp only [List.length_take, List.length_drop] at *
  omega

theorem preadAt_add (file : Bytes) (off a b : Nat) :
    preadAt file off (a + b) = preadAt file off a ++ preadAt file (off + a) b := by
  unfold preadAt
  rw [List.take_add, List.drop_drop]

theorem preadAt_short_rest (file : Bytes) (off a b : Nat) (h : (preadAt file off a).length < a) :
    preadAt file (off + a) b = [] := by
  unfold preadAt at *
  simp only [List.length_take, List.length_drop] at h
  have : file.length ≤ off + a := by omega
  simp [List.drop_eq_nil_of_le this]

theorem readVec_cons_short {file : Bytes} {off c : Nat} (rest : List Nat) (h : (preadAt file off c).length < c) :
    readVec file off (c :: rest) = (preadAt file off c :: rest.map fun _ => [], (preadAt file off c).length) := by
  simp only [readVec, h, if_true]

theorem readVec_cons_full {file : Bytes} {off c : Nat} (rest : List Nat) (h : ¬ (preadAt file off c).length < c) :
    readVec file off (c :: rest)
      = (preadAt file off c :: (readVec file (off + c) rest).1, c + (readVec file (off + c) rest).2) := by
  simp only [readVec, h, if_false]

theorem readVec_flat (file : Bytes) (off : Nat) (caps : List Nat) :
    (readVec file off caps).1.flatten = preadAt file off caps.sum ∧
    (readVec file off caps).2 = (preadAt file off caps.sum).length := by
  induction caps generalizing off with
  | nil => simp [readVec, preadAt]
  | cons c rest ih =>
    rw [List.sum_cons, preadAt_add]
    by_cases hs : (preadAt file off c).length < c
    · -- a short read has reached the end of the file: nothing is left for the buffers behind
      rw [readVec_cons_short rest hs, preadAt_short_rest file off c _ hs]
      simp [List.map_const']
    · have hlen : (preadAt file off c).length = c := by
        have := preadAt_length_le file off c; omega
      obtain ⟨h1, h2⟩ := ih (off + c)
      rw [readVec_cons_full rest hs]
      simp [h1, h2, hlen]

theorem readVec_each_le (file : Bytes) (off : Nat) (caps : List Nat) :
    (readVec file off caps).1.length = caps.length ∧
    ∀ i, ((readVec file off caps).1.getD i []).length ≤ caps.getD i 0 := by
  induction caps generalizing off with
  | nil => simp [readVec]
  | cons c rest ih =>
    by_cases hs : (preadAt file off c).length < c
    · rw [readVec_cons_short rest hs]
      refine ⟨by simp, fun i => ?_⟩
      cases i with
      | zero => simpa using preadAt_length_le file off c
      | succ j =>
        simp only [List.getD_eq_getElem?_getD, List.getElem?_cons_succ, List.map_const', List.getElem?_replicate]
        split <;> simp
    · rw [readVec_cons_full rest hs]
      obtain ⟨h1, h2⟩ := ih (off + c)
      refine ⟨by simp [h1], fun i => ?_⟩
      cases i with
      | zero => simpa using preadAt_length_le file off c
      | succ j => simpa using h2 j

theorem pwriteAt_nil (file : Bytes) (off : Nat) : pwriteAt file off [] = file := by simp [pwriteAt]

theorem pwriteAt_length (file : Bytes) (off : Nat) (d : Bytes) (hd : d ≠ []) :
    (pwriteAt file off d).length = max file.length (off + d.length) := by
  unfold pwriteAt
  simp only [hd, if_false, List.length_append, List.length_take, List.length_drop, List.length_replicate]
  omega

theorem pwriteAt_append (file : Bytes) (off : Nat) (a b : Bytes) :
    pwriteAt (pwriteAt file off a) (off + a.length) b = pwriteAt file off (a ++ b) := by
  by_cases ha : a = []
  · subst ha; simp [pwriteAt_nil]
  by_cases hb : b = []
  · subst hb; simp [pwriteAt_nil]
  have hab : a ++ b ≠ [] := by simp [ha]
  unfold pwriteAt
  simp only [ha, hb, hab, if_false]
  -- `P`: the file padded up to `off`.  The first write leaves `P.take off ++ a ++ P.drop (off + |a|)`,
  -- which reaches `off + |a|`: the second write pads nothing and cuts it right behind `a`
  generalize hP : file ++ List.replicate (off - file.length) 0 = P
  have hPl : off ≤ P.length := by rw [← hP]; simp; omega
  have ht : (P.take off ++ a).length = off + a.length := by simp; omega
  have hpad : List.replicate (off + a.length - (P.take off ++ a ++ P.drop (off + a.length)).length) 0 = [] := by
    simp; omega
  rw [hpad, List.append_nil, List.take_left' ht, ← ht, List.drop_append, List.drop_drop, ht]
  simp [List.append_assoc, Nat.add_assoc]
  omega

theorem writeVec_concat (file : Bytes) (off : Nat) (ds : List Bytes) :
    writeVec file off ds = (pwriteAt file off ds.flatten, ds.flatten.length) := by
  induction ds generalizing file off with
  | nil => simp [writeVec, pwriteAt_nil]
  | cons d rest ih =>
    unfold writeVec
    rw [ih]
    simp only [List.flatten_cons, List.length_append]
    rw [pwriteAt_append]

end Fbr.FileIo
