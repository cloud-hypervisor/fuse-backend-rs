/-
  Lemmas about the association maps of `Fbr.PtRefs` (`mget` / `mput` / `mdel`).
-/
import Fbr.PtRefs

namespace Fbr.PtRefs
variable {κ α : Type} [DecidableEq κ]

@[simp] theorem mget_nil (k : κ) : mget ([] : List (κ × α)) k = none := rfl

theorem mget_cons (k' : κ) (v : α) (r : List (κ × α)) (k : κ) :
    mget ((k', v) :: r) k = if k' = k then some v else mget r k := rfl

theorem mdel_cons (k' : κ) (v : α) (r : List (κ × α)) (k : κ) :
    mdel ((k', v) :: r) k = if k' = k then mdel r k else (k', v) :: mdel r k := by
  by_cases h : k' = k <;> simp [mdel, List.filter, h]

/-- the maps are core's association lists: `mget` is `List.lookup` (the test written the other way round), `mdel` a
    `filter`, so core's lemmas about those apply -/
theorem mget_eq_lookup (m : List (κ × α)) (k : κ) : mget m k = m.lookup k := by
  induction m with
  | nil => rfl
  | cons p r ih =>
    rw [mget_cons, List.lookup_cons, ih]
    by_cases h : p.1 = k
    · rw [if_pos h, h, beq_self_eq_true]
    · rw [if_neg h, beq_false_of_ne (Ne.symm h)]

theorem mdel_eq_filter (m : List (κ × α)) (k : κ) : mdel m k = m.filter (·.1 != k) := rfl

theorem mget_mdel (m : List (κ × α)) (k k' : κ) :
    mget (mdel m k) k' = if k = k' then none else mget m k' := by
  induction m with
  | nil => simp [mdel]
  | cons p r ih =>
    obtain ⟨k2, v⟩ := p
    rw [mdel_cons]
    by_cases h2 : k2 = k
    · rw [if_pos h2, ih, mget_cons]
      subst h2
      by_cases h : k2 = k' <;> simp [h]
    · rw [if_neg h2, mget_cons, mget_cons, ih]
      by_cases h : k = k'
      · subst h; simp [h2]
      · simp [h]

@[simp] theorem mget_mdel_self (m : List (κ × α)) (k : κ) : mget (mdel m k) k = none := by
  rw [mget_mdel, if_pos rfl]

theorem mget_mdel_ne (m : List (κ × α)) {k k' : κ} (h : k ≠ k') :
    mget (mdel m k) k' = mget m k' := by
  rw [mget_mdel, if_neg h]

theorem mget_mput (m : List (κ × α)) (k k' : κ) (v : α) :
    mget (mput m k v) k' = if k = k' then some v else mget m k' := by
  unfold mput
  rw [mget_cons, mget_mdel]
  by_cases h : k = k' <;> simp [h]

@[simp] theorem mget_mput_self (m : List (κ × α)) (k : κ) (v : α) : mget (mput m k v) k = some v := by
  rw [mget_mput, if_pos rfl]

theorem mget_mput_ne (m : List (κ × α)) {k k' : κ} (v : α) (h : k ≠ k') :
    mget (mput m k v) k' = mget m k' := by
  rw [mget_mput, if_neg h]

theorem mget_mdel_some {m : List (κ × α)} {k k' : κ} {x : α} (h : mget (mdel m k) k' = some x) :
    k ≠ k' ∧ mget m k' = some x := by
  rw [mget_mdel] at h
  split at h
  · cases h
  · rename_i ne; exact ⟨ne, h⟩

theorem mget_mput_some {m : List (κ × α)} {k k' : κ} {v x : α} (h : mget (mput m k v) k' = some x) :
    (k = k' ∧ v = x) ∨ (k ≠ k' ∧ mget m k' = some x) := by
  rw [mget_mput] at h
  split at h
  · rename_i e; cases h; exact .inl ⟨e, rfl⟩
  · rename_i ne; exact .inr ⟨ne, h⟩

theorem forall_mget_mput {P : κ → α → Prop} {m : List (κ × α)} {k : κ} {v : α} (hnew : P k v)
    (hold : ∀ k' x, mget m k' = some x → P k' x) : ∀ k' x, mget (mput m k v) k' = some x → P k' x := by
  intro k' x h
  rcases mget_mput_some h with ⟨rfl, rfl⟩ | ⟨_, h⟩
  · exact hnew
  · exact hold k' x h

theorem mget_mput_of_some {m : List (κ × α)} {k k' : κ} {v x : α} (h : mget m k' = some x)
    (hv : k = k' → v = x) : mget (mput m k v) k' = some x := by
  rw [mget_mput]
  split
  · rename_i e; rw [hv e]
  · exact h

theorem mdel_mdel (m : List (κ × α)) (k : κ) : mdel (mdel m k) k = mdel m k := by
  unfold mdel
  rw [List.filter_filter]
  congr 1
  funext p
  cases decide (p.1 = k) <;> rfl

theorem mput_mdel (m : List (κ × α)) (k : κ) (v : α) : mput (mdel m k) k v = mput m k v := by
  unfold mput; rw [mdel_mdel]

end Fbr.PtRefs
