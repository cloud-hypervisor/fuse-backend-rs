/-
  Lemmas about `allocLoop` (the loop of `Vfs::allocate_fs_idx`): specification for every
  position of `next_super` (wrap-around included), for every sufficient fuel.
-/
import Fbr.Vfs

namespace Fbr.Lemmas.VfsAlloc
open Fbr.Vfs

/-- After `k < 256` iterations the loop stands at `(start + k) % 256` with `found = (0 < k)`. -/
theorem allocLoop_step (supers : Nat → Option Bk) {start k : Nat} (hs : start < 256) (hk : k < 256) (fuel : Nat) :
    allocLoop supers (fuel + 1) start ((start + k) % 256) (decide (0 < k)) =
      if (start + k) % 256 = 0 ∨ (supers ((start + k) % 256)).isSome = true then
        allocLoop supers fuel start ((start + (k + 1)) % 256) (decide (0 < k + 1))
      else ((start + (k + 1)) % 256, some ((start + k) % 256)) := by
  have hnext : ((start + k) % 256 + 1) % 256 = (start + (k + 1)) % 256 := by omega
  -- the loop is back at `start` with `found` set only after a full round
  have hnot : ¬ ((start + k) % 256 = start ∧ decide (0 < k) = true) := by
    intro ⟨h1, h2⟩
    have : 0 < k := of_decide_eq_true h2
    omega
  have hfound : (decide (0 < k) || ((start + k) % 256 == start)) = decide (0 < k + 1) := by
    by_cases h0 : k = 0
    · subst h0; simp; omega
    · have : 0 < k := by omega
      simp [this]
  rw [allocLoop, if_neg hnot, hnext, hfound]
  by_cases hz : (start + k) % 256 = 0
  · rw [if_pos hz, if_pos (Or.inl hz)]
  · rw [if_neg hz]
    by_cases ho : (supers ((start + k) % 256)).isSome = true
    · rw [if_pos ho, if_pos (Or.inr ho)]
    · rw [if_neg ho, if_neg (not_or.mpr ⟨hz, ho⟩)]

theorem allocLoop_round (supers : Nat → Option Bk) {start : Nat} (hs : start < 256) (fuel : Nat) :
    allocLoop supers (fuel + 1) start ((start + 256) % 256) (decide (0 < 256)) = ((start + 1) % 256, none) := by
  have h1 : (start + 256) % 256 = start := by omega
  rw [allocLoop, h1, if_pos ⟨rfl, rfl⟩]

/-- Every fuel that covers the `256 - k` iterations left and the final test gives the same result, so
    the clause for exhausted fuel is never reached from `ALLOC_FUEL = 257`. -/
theorem allocLoop_run (supers : Nat → Option Bk) (start : Nat) (hs : start < 256) :
    ∀ (m k : Nat), k + m = 256 → ∃ res : Nat × Option Nat,
      (∀ fuel, m + 1 ≤ fuel → allocLoop supers fuel start ((start + k) % 256) (decide (0 < k)) = res) ∧
      res.1 < 256 ∧ (∀ i, res.2 = some i → i ≠ 0 ∧ i < 256 ∧ supers i = none) ∧
      (res.2 = none → ∀ j, k ≤ j → j < 256 → (start + j) % 256 = 0 ∨ (supers ((start + j) % 256)).isSome = true) := by
  intro m
  induction m with
  | zero =>
    intro k hk
    obtain rfl : k = 256 := by omega
    refine ⟨((start + 1) % 256, none), fun fuel hf => ?_, Nat.mod_lt _ (by omega), fun i hi => (by cases hi),
      fun _ j h1 h2 => by omega⟩
    obtain ⟨f, rfl⟩ : ∃ f, fuel = f + 1 := ⟨fuel - 1, by omega⟩
    exact allocLoop_round supers hs f
  | succ m ih =>
    intro k hk
    obtain ⟨res, hres, a, b, c⟩ := ih (k + 1) (by omega)
    by_cases hskip : (start + k) % 256 = 0 ∨ (supers ((start + k) % 256)).isSome = true
    · refine ⟨res, fun fuel hf => ?_, a, b, fun hn j hj1 hj2 => ?_⟩
      · obtain ⟨f, rfl⟩ : ∃ f, fuel = f + 1 := ⟨fuel - 1, by omega⟩
        rw [allocLoop_step supers hs (by omega), if_pos hskip]
        exact hres f (by omega)
      · by_cases hjk : j = k
        · subst hjk; exact hskip
        · exact c hn j (by omega) hj2
    · refine ⟨((start + (k + 1)) % 256, some ((start + k) % 256)), fun fuel hf => ?_, Nat.mod_lt _ (by omega),
        fun i hi => ?_, fun hn => by cases hn⟩
      · obtain ⟨f, rfl⟩ : ∃ f, fuel = f + 1 := ⟨fuel - 1, by omega⟩
        rw [allocLoop_step supers hs (by omega), if_neg hskip]
      · cases hi
        obtain ⟨hz, ho⟩ := not_or.mp hskip
        refine ⟨hz, Nat.mod_lt _ (by omega), ?_⟩
        cases h : supers ((start + k) % 256) with
        | none => rfl
        | some b => rw [h] at ho; exact absurd rfl ho

theorem allocLoop_congr {sup sup' : Nat → Option Bk} (h : ∀ i, (sup i).isSome = (sup' i).isSome) :
    ∀ (fuel start next : Nat) (found : Bool),
      allocLoop sup fuel start next found = allocLoop sup' fuel start next found := by
  intro fuel
  induction fuel with
  | zero => intro start next found; rfl
  | succ f ih =>
    intro start next found
    unfold allocLoop
    simp only [h, ih]

theorem allocate_spec (s : State) (hn : s.nextSuper < 256) :
    (s.allocateFsIdx).1.nextSuper < 256 ∧
    (s.allocateFsIdx).1.supers = s.supers ∧ (s.allocateFsIdx).1.mnts = s.mnts ∧
    (∀ i, (s.allocateFsIdx).2 = some i → i ≠ 0 ∧ i < 256 ∧ s.supers i = none) ∧
    ((s.allocateFsIdx).2 = none ↔ ∀ i, 0 < i → i < 256 → (s.supers i).isSome = true) := by
  obtain ⟨res, hres, h1, h2, h3⟩ := allocLoop_run s.supers s.nextSuper hn 256 0 rfl
  have hr := hres ALLOC_FUEL (by unfold ALLOC_FUEL; omega)
  simp only [Nat.add_zero, Nat.mod_eq_of_lt hn, Nat.lt_irrefl, decide_false] at hr h3
  unfold State.allocateFsIdx
  rw [hr]
  refine ⟨h1, rfl, rfl, h2, ?_, ?_⟩
  · intro hnone i hi0 hi256
    have := h3 hnone ((i + 256 - s.nextSuper) % 256) (by omega) (by omega)
    have hidx : (s.nextSuper + (i + 256 - s.nextSuper) % 256) % 256 = i := by omega
    rw [hidx] at this
    rcases this with h | h
    · omega
    · exact h
  · intro hall
    cases hr2 : res.2 with
    | none => rfl
    | some i =>
      obtain ⟨a, b, c⟩ := h2 i hr2
      have := hall i (by omega) b
      simp [c] at this

theorem allocate_eq (s : State) : ∃ next r, s.allocateFsIdx = ({ s with nextSuper := next }, r) := by
  unfold State.allocateFsIdx
  exact ⟨_, _, rfl⟩

end Fbr.Lemmas.VfsAlloc
