/-
  Fbr.Lemmas.PtHostLookupRun — the host-call phase of `do_lookup` on the reference FS
  (`getFile`, `open_file_and_handle`), and `do_lookup` as a whole: confined calls, `J` kept
  (`jsafe_doLookup`).  Each call goes through `J.call`, whose answer `Says` what the descriptor, handle
  id or stat it returns denotes; that is what `j_commit` asks for.  The one `openat` of a lookup carries
  `O_NOFOLLOW|O_PATH`, its name has no '/', and it is never ".." on a descriptor of the export root:
  ".." on inode 1 is rewritten to ".", and no other table entry denotes the export root (`J.uniq`).
-/
import Fbr.Lemmas.PtHostLookup

namespace Fbr.PtHost
open Fbr.Host

variable {β : Type}

theorem safe_fdOf_bind {Q : Except Nat β × PtState → Ref.State → Prop} {a : HAns} {rest : Fd → M β} {pt : PtState}
    {h : Ref.State} (hk : ∀ f, Safe Q (rest f pt) h) (he : ∀ e, Q (.error e, pt) h) :
    Safe Q ((fdOf a >>= rest) pt) h := by
  cases a <;> first | exact hk _ | exact he _

theorem safe_statOf_bind {Q : Except Nat β × PtState → Ref.State → Prop} {a : HAns} {rest : Stat → M β} {pt : PtState}
    {h : Ref.State} (hk : ∀ st, a = .st st → Safe Q (rest st pt) h) (he : ∀ e, Q (.error e, pt) h) :
    Safe Q ((statOf a >>= rest) pt) h := by
  cases a <;> first | exact hk _ rfl | exact he _

/-- `InodeHandle::get_file`: the descriptor it yields denotes the entry's object -/
theorem safe_getFile_bind {Q : Except Nat β × PtState → Ref.State → Prop} {d : InodeData} {k : Fd → M β} {pt : PtState}
    {h : Ref.State} (j : J pt h) (hd : Denotes h d.handle d.id)
    (hk : ∀ f h', J pt h' → Ref.fdObj h' f = some d.id → Safe Q (k f pt) h')
    (he : ∀ e h', J pt h' → Q (.error e, pt) h') : Safe Q ((getFile d >>= k) pt) h := by
  unfold getFile
  revert hd
  cases hdh : d.handle with
  | file f => intro hd; exact hk f h j hd
  | handle k0 =>
    intro hd
    refine safe_bindM (j.plainCall fun a h' j' _ hs => ?_)
    cases a with
    | fd f o =>
      obtain ⟨_, ho⟩ := hs.2 nofun
      cases ho with
      | handle hk0 => cases hk0.symm.trans hd; exact hk f h' j' hs.1
    | err e => exact he e _ j'
    | _ => exact he EIO _ j'

theorem safe_fileHandleFromFd_bind {Q : Except Nat β × PtState → Ref.State → Prop} {f : Fd} {k : Option Nat → M β} {pt : PtState}
    {h : Ref.State} (j : J pt h)
    (hk : ∀ ho h', J pt h' → Ref.Ext h h' → (∀ kk, ho = some kk → ∃ o, Ref.fdObj h' f = some o ∧ h'.handles kk = some o) →
      Safe Q (k ho pt) h')
    (he : ∀ e h', J pt h' → Q (.error e, pt) h') : Safe Q ((fileHandleFromFd f >>= k) pt) h := by
  unfold fileHandleFromFd
  -- `FileHandle::from_fd` asks twice: with a buffer of size 0 to learn whether handles exist
  -- (`EOVERFLOW` = yes, `EOPNOTSUPP` = no), then with the size the first answer reported (in the model
  -- 128, the crate's `MAX_HANDLE_SIZE`)
  refine safe_bindM (j.plainCall fun a h1 j1 e1 _ => ?_)
  cases a with
  | err e =>
    simp only []
    split
    · refine j1.plainCall fun a2 h2 j2 e2 hs => ?_
      cases a2 with
      | handle kk =>
        refine hk (some kk) _ j2 (e1.trans e2) ?_
        intro kk' e'
        cases e'
        obtain ⟨o, h1o, h2o⟩ := hs
        exact ⟨o, e2.fds f o h1o, h2o⟩
      | err e2 => exact he e2 _ j2
      | _ => exact he EIO _ j2
    · split
      · exact hk none _ j1 e1 (by intro _ e'; cases e')
      · exact he e _ j1
  | _ => exact he E_KIND_INVALID_DATA _ j1

/-- `open_file_and_handle`: the lookup `openat` is confined by hypothesis; the descriptor and the
    handle it returns denote the object `statx` reports -/
theorem safe_openFileAndHandle_bind {Q : Except Nat β × PtState → Ref.State → Prop} {cfg : Cfg} {dfd : Fd} {name : Name}
    {k : Fd × Option Nat × Stat → M β} {pt : PtState} {h : Ref.State} (j : J pt h)
    (hconf : Ref.ConfinedOpen h (.openat dfd name (O_NOFOLLOW ||| O_CLOEXEC ||| O_PATH) 0))
    (hk : ∀ x h', J pt h' → Ref.fdObj h' x.1 = some x.2.2.obj →
      (∀ kk, x.2.1 = some kk → h'.handles kk = some x.2.2.obj) → Safe Q (k x pt) h')
    (he : ∀ e h', J pt h' → Q (.error e, pt) h') : Safe Q ((openFileAndHandle cfg dfd name >>= k) pt) h := by
  unfold openFileAndHandle
  have ht : TruncOk (.openat dfd name (O_NOFOLLOW ||| O_CLOEXEC ||| O_PATH) 0) := by
    intro d n fl m e; cases e; right; decide
  refine safe_bindM (j.call hconf ht fun a h1 j1 _ _ => ?_)
  refine safe_fdOf_bind ?_ (fun e => he e h1 j1)
  intro f
  refine j1.plainCall fun a2 h2 j2 e2 hs2 => ?_
  refine safe_statOf_bind ?_ (fun e => he e h2 j2)
  intro st est
  subst est
  -- `statx(f, "")` reports the object of `f`
  have hf2 : Ref.fdObj h2 f = some st.obj := by
    obtain ⟨_, ho, ht⟩ := hs2
    cases ht; exact e2.fds f _ ho
  split
  · refine safe_fileHandleFromFd_bind j2 ?_ he
    intro ho h3 j3 e3 hho
    refine hk (f, ho, st) h3 j3 (e3.fds f _ hf2) ?_
    intro kk ekk
    obtain ⟨o', h1o, h2o⟩ := hho kk ekk
    cases (e3.fds f _ hf2).symm.trans h1o
    exact h2o
  · exact hk (f, none, st) h2 j2 hf2 (by intro _ e; cases e)

theorem dotdot_startsWith : startsWith (withNul Ref.dotdot) PARENT_DIR_CSTR = true := by decide

/-- **`do_lookup` on the reference FS**: for a name without '/', every call is confined in the state
    it is issued in and the joint invariant is kept — in particular the table never gets a second
    entry for the export root, and ".." is never sent on a descriptor of the export root. -/
theorem jsafe_doLookup (cfg : Cfg) (parent : Nat) (name : Name) (hn : name.contains Ref.SLASH = false) :
    JSafe (doLookup cfg parent name) := by
  rw [doLookup_eq]
  refine ⟨fun pt h j => ?_⟩
  show Safe _ ((M.ofOption EBADF (pt.get parent) >>= _) pt) h
  cases hg : pt.get parent with
  | none => exact j
  | some dir =>
    obtain ⟨hmem, hino⟩ := get_mem hg
    show Safe _ ((getFile dir >>= _) pt) h
    refine safe_getFile_bind j (j.den dir hmem) ?_ (fun _ _ j' => j')
    intro dirFile h1 j1 hdf
    refine safe_openFileAndHandle_bind j1 ?_ ?_ (fun _ _ j' => j')
    · refine Or.inr ⟨by decide, by decide, ?_, ?_⟩
      · split
        · decide
        · exact hn
      · intro ⟨e1, e2⟩
        rw [hdf] at e1
        have hroot : dir.inode = ROOT_ID := j1.uniq dir hmem (Option.some.inj e1)
        have hp : parent = ROOT_ID := by rw [← hino]; exact hroot
        subst hp
        split at e2
        · cases e2
        · rename_i hs
          rw [e2, dotdot_startsWith] at hs
          exact hs rfl
    · intro x h2 j2 hfd hh
      exact j_commit cfg j2 hfd hh

end Fbr.PtHost
