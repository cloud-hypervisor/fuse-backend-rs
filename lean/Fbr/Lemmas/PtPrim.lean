/-
  C08 / C15: what a request, and a history, is made of.  `Run e nf q b s sp s' sp'` lists the steps
  that lead from `s` to `s'` — a descriptor allocation that failed, a temporary descriptor around
  further steps, a `do_lookup` that got as far as the host file, a `forget_one`, a descriptor that
  became a handle, a handle released, directory-position records changed, the per-request descriptor
  limit set or lifted, the root imported, the tables cleared — next to what the reply lets the client
  conclude (`sp` to `sp'`).  Temporaries are scoped (`temp`, `opened`), so a `Run` is balanced by its
  shape and needs no count of the descriptors in flight.  Every request is a `Run` (`step_run`, the
  one walk over the operations) and so is every history (`run_run`); the refinement (`Run.tr`) and the
  descriptor ledger (`Run.linv`) are each one induction over it.
-/
import Fbr.Lemmas.PtLedger
import Fbr.Lemmas.PtTrace

namespace Fbr.PtRefs

def DEnt.NoFh : DEnt → Prop
  | .dot => True
  | .name a => a.NoFh

/-- no host answer of the request carries a file handle -/
def Op.NoFh : Op → Prop
  | .lookup _ _ a => a.NoFh
  | .mkdir _ _ _ a => a.NoFh
  | .mknod _ _ _ a => a.NoFh
  | .link _ _ _ _ _ a => a.NoFh
  | .create _ _ _ _ a _ => a.NoFh
  | .readdirplus _ _ _ (.ok l) _ _ => ∀ d ∈ l, d.NoFh
  | .destroy root => root.NoFh
  | .init root => root.NoFh
  | _ => True

/-- does the request (re-)import the root / clear the tables? -/
def Op.isDestroy : Op → Bool
  | .destroy _ => true
  | .init _ => true
  | _ => false

def hasDestroy : List (Option Nat × Op) → Bool
  | [] => false
  | (_, op) :: r => op.isDestroy || hasDestroy r

/-- no host answer of the history carries a file handle (`inode_file_handles` off) -/
def NoHandles (h : List (Option Nat × Op)) : Prop := ∀ x ∈ h, x.2.NoFh

/-- `q`: descriptor steps only (`nop`, `allocFail`, `temp`, `cap` and their `seq`), which leave the tables alone.
    `nf` and the second flag as in `Tr`: `importRoot` and `clear` exist under `true` only. -/
inductive Run (e : Env) (nf : Bool) : Bool → Bool → St → Spec → St → Spec → Prop
  | nop {q b : Bool} (s : St) (sp : Spec) : Run e nf q b s sp s sp
  | seq {q b : Bool} {x y z : St} {sx sy sz : Spec} : Run e nf q b x sx y sy → Run e nf q b y sy z sz → Run e nf q b x sx z sz
  | allocFail {q b : Bool} {s s' : St} {sp : Spec} : allocFd e s = (s', false) → Run e nf q b s sp s' sp
  /-- a descriptor that is closed again after the steps it is needed for -/
  | temp {q b : Bool} {s s1 s2 : St} {sp sp' : Spec} : allocFd e s = (s1, true) → Run e nf q b s1 sp s2 sp' →
      Run e nf q b s sp (freeFd s2) sp'
  /-- the `O_PATH` descriptor of the host file `f` is opened and handed to `lookupCore`, which
      closes it or moves it into a new entry -/
  | lookup {b : Bool} {s s1 : St} {sp : Spec} (f : HFile) : allocFd e s = (s1, true) → (nf = true → f.fh = none) →
      Run e nf false b s sp (lookupCore e s1 f).1 (sp.afterLookup (lookupCore e s1 f).2)
  | forget {b : Bool} {s : St} {sp : Spec} (i : Ino) (n : Nat) : Run e nf false b s sp (forgetOne e s i n) (sp.forget i n)
  /-- a descriptor that moves into a new `HandleData` after the steps in between -/
  | opened {b : Bool} {s s1 s2 : St} {sp sp' : Spec} (ino : Ino) : allocFd e s = (s1, true) → Run e nf false b s1 sp s2 sp' →
      Run e nf false b s sp { s2 with handles := mput s2.handles s2.nextHandle ino, nextHandle := s2.nextHandle + 1 }
        { sp' with hnds := mput sp'.hnds s2.nextHandle ino }
  | released {b : Bool} {s : St} {sp : Spec} {h : Hnd} {ino : Ino} : handleGet s h ino = true →
      Run e nf false b s sp { freeFd s with handles := mdel s.handles h, cookies := s.cookies.filter (· ≠ h) }
        { sp with hnds := mdel sp.hnds h }
  | cookies {b : Bool} {s : St} {sp : Spec} (c : List Hnd) : (∀ x ∈ c, x ∈ s.cookies ∨ (mget s.handles x).isSome = true) →
      Run e nf false b s sp { s with cookies := c } sp
  | cap {q b : Bool} {s : St} {sp : Spec} (c : Option Nat) : Run e nf q b s sp { s with cap := c } sp
  | importRoot {s : St} {sp : Spec} (root : HAns) : (nf = true → root.NoFh) →
      Run e nf false true s sp (importRoot e s root).1 sp
  | clear {s : St} {sp : Spec} : Run e nf false true s sp (clearAll s) Spec.init

namespace Run
variable {e : Env} {nf q b : Bool} {s s' : St} {sp sp' : Spec}

theorem linv (r : Run e nf q b s sp s' sp') : ∀ {t m : Nat}, LInv s t m → LInv s' t m := by
  induction r with
  | nop => exact id
  | seq _ _ ih1 ih2 => exact fun h => ih2 (ih1 h)
  | allocFail ha => exact fun h => allocFd_fail h ha
  | temp ha _ ih => exact fun h => freeFd_linv (ih (allocFd_ok h ha))
  | lookup f ha => exact fun h => lookupCore_linv e f (allocFd_ok h ha)
  | forget i n => exact fun h => forgetOne_linv e h i n
  | opened ino ha _ ih => exact fun h => addHandle_linv ino (ih (allocFd_ok h ha))
  | released hg => exact fun h => release_linv h hg
  | cookies c hc => exact fun h => cookies_linv h hc
  | cap c => exact fun h => h.of_eq ⟨rfl, rfl, rfl, rfl, rfl, rfl⟩
  | importRoot root => exact fun h => importRoot_linv e h root
  | clear => exact clearAll_linv

theorem tr (r : Run e nf q b s sp s' sp') : Tr e nf b s sp s' sp' := by
  induction r with
  | nop s sp => exact .of_tables rfl
  | seq _ _ ih1 ih2 => exact ih1.trans ih2
  | allocFail ha => exact .of_tables (tables_of_allocFd ha)
  | temp ha _ ih => exact ((Tr.of_tables (tables_of_allocFd ha)).trans ih).trans (.of_tables (tables_freeFd _))
  | lookup f ha hf => exact (Tr.of_tables (tables_of_allocFd ha)).trans ((lookupCore_eff e _ f).tr hf)
  | forget i n => exact .forget i n
  | opened ino ha _ ih =>
    exact ((Tr.of_tables (tables_of_allocFd ha)).trans ih).trans (.frame (mput · _ ino) (.of_store rfl) rfl)
  | released => exact .frame (mdel · _) (.of_store rfl) rfl
  | cookies => exact .same (.of_store rfl) rfl
  | cap => exact .of_tables rfl
  | importRoot root hf => exact importRoot_tr e _ _ root hf
  | clear => exact clearAll_tr e _ _

/-- an entry that did not reach the client: its reference is released -/
theorem undo {s1 : St} {i : Ino} (r : Run e nf false b s sp s1 (sp'.deliver i)) :
    Run e nf false b s sp (forgetOne e s1 i 1) sp' := by
  have h2 := Run.forget (e := e) (nf := nf) (b := b) (s := s1) (sp := sp'.deliver i) i 1
  rw [deliver_forget_cancel] at h2
  exact r.seq h2

theorem tables (r : Run e nf true b s sp s' sp') : s'.tables = s.tables := by
  generalize hq : true = q at r
  induction r with
  | nop | cap => rfl
  | seq _ _ ih1 ih2 => exact (ih2 hq).trans (ih1 hq)
  | allocFail ha => exact tables_of_allocFd ha
  | temp ha _ ih => exact (ih hq).trans (tables_of_allocFd ha)
  | _ => cases hq

theorem of_getFile_err {d : IData} {st : Bool} {er : Errno} :
    getFile e s d st = (s', some er) → Run e nf q b s sp s' sp := by
  -- the two paths without an error close at `cases h`
  fun_cases getFile e s d st <;> (intro h; cases h)
  -- stale: refused before a descriptor is allocated
  case case1 => exact .nop _ sp
  -- no descriptor left
  case case2 ha => exact .allocFail ha

/-- the steps taken while an inode's file is open (`get_file()` … drop): a temporary descriptor
    when the inode is kept by handle -/
theorem withFile {s1 s2 : St} {d : IData} {st : Bool} :
    getFile e s d st = (s1, none) → Run e nf q b s1 sp s2 sp' → Run e nf q b s sp (closeTemp s2 d.fh.isSome) sp' := by
  fun_cases getFile e s d st <;> (intro h r; cases h)
  -- kept by handle: `open_by_handle_at`
  case case3 hf _ ha => rw [hf]; exact .temp ha r
  -- kept by descriptor: borrowed
  case case4 hf => rw [Bool.eq_false_iff.mpr hf]; exact r

theorem of_openInode_err {ino : Ino} {hr er : Errno} (h : openInode e s ino hr = (s', some er)) :
    Run e nf q b s sp s' sp := by
  rcases openInode_cases h with ⟨rfl, _⟩ | ⟨ha, _⟩ | ⟨s1, ha, ⟨rfl, _⟩ | ⟨_, hn⟩⟩
  · exact .nop _ sp
  · exact .allocFail ha
  · exact .temp ha (.nop _ sp)
  · cases hn

end Run

theorem openInode_alloc {e : Env} {s s' : St} {ino : Ino} {hr : Errno} (h : openInode e s ino hr = (s', none)) :
    allocFd e s = (s', true) := by
  rcases openInode_cases h with ⟨_, _, hn⟩ | ⟨_, hn⟩ | ⟨s1, ha, ⟨_, hn⟩ | ⟨rfl, _⟩⟩
  · cases hn
  · cases hn
  · cases hn
  · exact ha

theorem openInode_ok {e : Env} {s s' : St} {t m : Nat} (ino : Ino) (hr : Errno) (h : LInv s t m)
    (ho : openInode e s ino hr = (s', none)) : LInv s' (t + 1) m :=
  allocFd_ok h (openInode_alloc ho)

theorem openInode_err {e : Env} {s s' : St} {t m : Nat} (ino : Ino) (hr : Errno) (h : LInv s t m)
    {er : Errno} (ho : openInode e s ino hr = (s', some er)) : LInv s' t m :=
  (Run.of_openInode_err (nf := false) (q := true) (b := false) (sp := Spec.init) ho).linv h

variable {nf b : Bool}

theorem doLookup_run {e : Env} {s s' : St} {sp : Spec} {p : Ino} {pst : Bool} {a : HAns} {r : Except Errno Ino} :
    doLookup e s p pst a = (s', r) → (nf = true → a.NoFh) → Run e nf false b s sp s' (sp.afterLookup r) := by
  fun_cases doLookup e s p pst a <;> (intro h hf; cases h)
  -- parent unknown
  case case1 => exact .nop _ sp
  -- the parent's file cannot be opened
  case case2 h1 => exact .of_getFile_err h1
  -- no descriptor for the `O_PATH` open
  case case3 h1 _ h2 => exact .withFile h1 (.allocFail h2)
  -- the host does not resolve the name
  case case4 h1 _ h2 _ => exact .withFile h1 (.temp h2 (.nop _ sp))
  -- the host file `f`
  case case5 h1 _ h2 f _ hl =>
    obtain ⟨rfl, rfl⟩ := Prod.ext_iff.mp hl
    exact .withFile h1 (.lookup f h2 hf)

theorem entryRes_fst (x : St × Except Errno Ino) : (entryRes x).1 = x.1 := by
  obtain ⟨s, r⟩ := x; cases r <;> rfl

/-- the requests that answer with one entry or an error -/
def Op.isEntry : Op → Bool
  | .lookup .. | .mkdir .. | .mknod .. | .link .. => true
  | _ => false

theorem spec_entryRes (sp : Spec) {op : Op} (hop : op.isEntry = true) (x : St × Except Errno Ino) :
    sp.step op (entryRes x).2 = sp.afterLookup x.2 := by
  obtain ⟨s, r⟩ := x
  cases op <;> first | (cases r <;> rfl) | cases hop

theorem entryLookup_run (e : Env) (s : St) (sp : Spec) (p : Ino) (pst : Bool) (a : HAns) {op : Op}
    (hop : op.isEntry = true) (hf : nf = true → a.NoFh) :
    Run e nf false b s sp (entryRes (doLookup e s p pst a)).1 (sp.step op (entryRes (doLookup e s p pst a)).2) := by
  rw [spec_entryRes sp hop, entryRes_fst]
  exact doLookup_run rfl hf

theorem opMknod_run (e : Env) (s : St) (sp : Spec) (p : Ino) (pst : Bool) (hr : Errno) (a : HAns)
    {op : Op} (hop : op.isEntry = true) (hf : nf = true → a.NoFh) :
    Run e nf false b s sp (opMknod e s p pst hr a).1 (sp.step op (opMknod e s p pst hr a).2) := by
  have herr : ∀ er, sp.step op (.err er) = sp := fun er => spec_entryRes sp hop (s, .error er)
  unfold opMknod
  split
  · rw [herr]; exact .nop s sp
  · split
    · rename_i h1; rw [herr]; exact .of_getFile_err h1
    · rename_i s1 h1
      split
      · rw [herr]; exact .withFile h1 (.nop s1 sp)
      · exact .withFile h1 (entryLookup_run e s1 sp p pst a hop hf)

theorem opLink_run (e : Env) (s : St) (sp : Spec) (ino : Ino) (ist : Bool) (p : Ino) (pst : Bool)
    (hr : Errno) (a : HAns) (hf : nf = true → a.NoFh) :
    Run e nf false b s sp (opLink e s ino ist p pst hr a).1
      (sp.step (.link ino ist p pst hr a) (opLink e s ino ist p pst hr a).2) := by
  unfold opLink
  split
  · exact .nop s sp
  · split
    · exact .nop s sp
    · split
      · rename_i h1; exact .of_getFile_err h1
      · rename_i h1
        split
        · rename_i h2; exact .withFile h1 (.of_getFile_err h2)
        · rename_i s2 h2
          split
          · exact .withFile h1 (.withFile h2 (.nop s2 sp))
          · exact .withFile h1 (.withFile h2 (entryLookup_run e s2 sp p pst a rfl hf))

/-- end of `create`: the descriptor of the new file, open since `ha`, becomes a handle or is closed -/
theorem finishCreate_run (e : Env) {s0 s1 s : St} {sp0 sp : Spec} (ino : Ino) (ha : allocFd e s0 = (s1, true))
    (r : Run e nf false b s1 sp0 s (sp.deliver ino)) (p : Ino) (pst x : Bool) (cr : CreateAns) (a : HAns) (ohr : Errno) :
    Run e nf false b s0 sp0 (finishCreate e s ino).1 (sp.step (.create p pst x cr a ohr) (finishCreate e s ino).2) := by
  unfold finishCreate
  split
  · show Run e nf false b s0 sp0 _ ({ sp.deliver ino with hnds := mput sp.hnds s.nextHandle ino } : Spec)
    rw [← deliver_hnds sp ino]
    exact .opened ino ha r
  · exact .temp ha r

/-- `create` after `create_file_excl`: with `haveNew`, the descriptor of the new file is open since `s0` -/
theorem createTail_run (e : Env) (s0 s : St) (sp : Spec) (p : Ino) (pst : Bool) (haveNew : Bool) (a : HAns)
    (ohr : Errno) (x : Bool) (cr : CreateAns) (hf : nf = true → a.NoFh)
    (h0 : if haveNew then allocFd e s0 = (s, true) else s0 = s) :
    Run e nf false b s0 sp (createTail e s p pst haveNew a ohr).1
      (sp.step (.create p pst x cr a ohr) (createTail e s p pst haveNew a ohr).2) := by
  unfold createTail
  split
  · rename_i s1 er heq
    cases haveNew
    · cases h0; exact doLookup_run heq hf
    · exact .temp h0 (doLookup_run heq hf)
  · rename_i s1 ino heq
    have hl : Run e nf false b s sp s1 (sp.deliver ino) := doLookup_run heq hf
    split
    · rename_i hn; rw [if_pos hn] at h0; exact finishCreate_run e ino h0 hl p pst x cr a ohr
    · rename_i hn
      rw [if_neg hn] at h0; cases h0
      split
      · exact .undo hl
      · split
        · rename_i ho; exact .undo (hl.seq (.of_openInode_err ho))
        · rename_i s2 ho
          exact hl.seq (finishCreate_run e ino (openInode_alloc ho) (.nop s2 _) p pst x cr a ohr)

theorem opCreate_run (e : Env) (s : St) (sp : Spec) (p : Ino) (pst : Bool) (excl : Bool) (cr : CreateAns)
    (a : HAns) (ohr : Errno) (hf : nf = true → a.NoFh) :
    Run e nf false b s sp (opCreate e s p pst excl cr a ohr).1
      (sp.step (.create p pst excl cr a ohr) (opCreate e s p pst excl cr a ohr).2) := by
  unfold opCreate
  split
  · exact .nop s sp
  · split
    · rename_i h1; exact .of_getFile_err h1
    · rename_i s1 h1
      split
      · rename_i h2; exact .withFile h1 (.allocFail h2)
      · rename_i s2 h2
        split
        · exact .withFile h1 (.temp h2 (.nop s2 sp))
        · simp only
          split
          · exact .withFile h1 (.temp h2 (.nop s2 sp))
          · exact .withFile h1 (.seq (.temp h2 (.nop s2 sp))
              (createTail_run e _ _ sp p pst false a ohr excl .exists hf rfl))
        · exact .withFile h1 (createTail_run e s1 s2 sp p pst true a ohr excl .created hf h2)

theorem deliverAll_append (sp : Spec) (l1 l2 : List (Ino × Bool)) :
    sp.deliverAll (l1 ++ l2) = (sp.deliverAll l1).deliverAll l2 := by
  induction l1 generalizing sp with
  | nil => rfl
  | cons p r ih =>
    obtain ⟨i, b⟩ := p
    cases b <;> simp [Spec.deliverAll, ih]

theorem rdpLoop_run (e : Env) (dir : Ino) (tl : Tail) (sp0 : Spec) :
    ∀ (ents : List DEnt), (nf = true → ∀ d ∈ ents, d.NoFh) →
      ∀ (s : St) (fit : Nat) (first : Bool) (acc : List (Ino × Bool)),
      Run e nf false b s (sp0.deliverAll acc.reverse) (rdpLoop e s dir fit tl ents first acc).1
        (sp0.deliverAll (rdpLoop e s dir fit tl ents first acc).2.1) := by
  intro ents
  induction ents with
  | nil => intro _ s fit first acc; exact .nop _ _
  | cons d r ih0 =>
    intro hfs s fit first acc
    have ih := ih0 (fun h x hx => hfs h x (List.mem_cons_of_mem _ hx))
    cases d with
    | dot => simp only [rdpLoop]; exact ih s fit false acc
    | name a =>
      simp only [rdpLoop]
      have ha : nf = true → a.NoFh := fun h => hfs h (.name a) List.mem_cons_self
      split
      · rename_i s1 er heq
        exact doLookup_run heq ha
      · rename_i s1 ino heq
        have hl : Run e nf false b s (sp0.deliverAll acc.reverse) s1 ((sp0.deliverAll acc.reverse).deliver ino) :=
          doLookup_run heq ha
        cases fit with
        | succ k =>
          simp only
          have e1 : (sp0.deliverAll acc.reverse).deliver ino
              = sp0.deliverAll ((ino, true) :: acc).reverse := by
            rw [List.reverse_cons, deliverAll_append]; rfl
          rw [e1] at hl
          exact hl.seq (ih s1 k false ((ino, true) :: acc))
        | zero =>
          simp only
          have e1 : sp0.deliverAll ((ino, false) :: acc).reverse = sp0.deliverAll acc.reverse := by
            rw [List.reverse_cons, deliverAll_append]; rfl
          cases tl <;> simp only [e1] <;> exact hl.undo

theorem getDirdata_err {e : Env} {s s1 : St} {sp : Spec} {ino : Ino} {h : Hnd} {dhr er : Errno} {tmp : Bool} :
    getDirdata e s ino h dhr = (s1, some er, tmp) → Run e nf false b s sp s1 sp := by
  fun_cases getDirdata e s ino h dhr <;> (intro hg; cases hg)
  -- not a handle of this directory
  case case2 => exact .nop _ sp
  -- `no_opendir`: the directory cannot be opened
  case case3 ho => exact .of_openInode_err ho

/-- the steps taken between `get_dirdata` and the drop of its directory stream, which is a temporary descriptor under
    `no_opendir` -/
theorem getDirdata_ok {e : Env} {s s1 : St} {ino : Ino} {h : Hnd} {dhr : Errno} {tmp : Bool} :
    getDirdata e s ino h dhr = (s1, none, tmp) →
    (e.noOpendir = false → (mget s1.handles h).isSome = true)
    ∧ ∀ {s2 : St} {sp sp' : Spec}, Run e nf false b s1 sp s2 sp' → Run e nf false b s sp (closeTemp s2 tmp) sp' := by
  fun_cases getDirdata e s ino h dhr <;> (intro hg; cases hg)
  -- the handle's own stream
  case case1 hget => exact ⟨fun _ => by rw [handleGet_some hget]; rfl, id⟩
  -- `no_opendir`: a stream opened for the request
  case case4 hno ho =>
    exact ⟨fun hc => by rw [hc] at hno; exact absurd rfl hno, .temp (openInode_alloc ho)⟩

theorem consumeCookie_run (e : Env) (s : St) (sp : Spec) (h : Hnd) :
    Run e nf false b s sp (consumeCookie e s h) sp := by
  unfold consumeCookie; split
  · exact .cookies _ fun x hx => .inl (List.mem_filter.mp hx).1
  · exact .nop s sp

theorem cacheCookie_run (e : Env) (s : St) (sp : Spec) (h : Hnd) (l : List DEnt)
    (hlive : e.noOpendir = false → (mget s.handles h).isSome = true) :
    Run e nf false b s sp (cacheCookie e s h l) sp := by
  unfold cacheCookie; split
  · rename_i hc
    refine .cookies _ fun x hx => ?_
    rcases List.mem_cons.mp hx with e1 | e1
    · subst e1
      exact .inr (hlive (by cases hn : e.noOpendir <;> simp [hn] at hc ⊢))
    · exact .inl e1
  · exact .nop s sp

theorem opReaddirplus_run (e : Env) (s : St) (sp : Spec) (ino : Ino) (h : Hnd) (dhr : Errno)
    (lst : Except Errno (List DEnt)) (fit : Nat) (tl : Tail)
    (hf : nf = true → Op.NoFh (.readdirplus ino h dhr lst fit tl)) :
    Run e nf false b s sp (opReaddirplus e s ino h dhr lst fit tl).1
      (sp.step (.readdirplus ino h dhr lst fit tl) (opReaddirplus e s ino h dhr lst fit tl).2) := by
  unfold opReaddirplus
  split
  · rename_i hg; exact getDirdata_err hg
  · rename_i s1 tmp hg
    obtain ⟨hlive, close⟩ := getDirdata_ok (nf := nf) (b := b) hg
    have h0 := consumeCookie_run (nf := nf) (b := b) e s1 sp h
    split
    · exact close h0
    · rename_i l
      have hl2 : e.noOpendir = false → (mget (consumeCookie e s1 h).handles h).isSome = true := by
        intro hc
        have : (consumeCookie e s1 h).handles = s1.handles := by unfold consumeCookie; split <;> rfl
        rw [this]; exact hlive hc
      exact close (h0.seq ((cacheCookie_run e _ sp h l hl2).seq (rdpLoop_run e ino tl sp l hf _ fit true [])))

theorem doOpen_run (e : Env) (s : St) (sp : Spec) (i : Ino) (hr : Errno) {op : Op}
    (hop : op = .open i hr ∨ op = .opendir i hr) :
    Run e nf false b s sp (doOpen e s i hr).1 (sp.step op (doOpen e s i hr).2) := by
  unfold doOpen
  split
  · rename_i h1
    rcases hop with x | x <;> subst x <;> exact .of_openInode_err h1
  · rename_i s1 h1
    rcases hop with x | x <;> subst x <;> exact .opened i (openInode_alloc h1) (.nop s1 sp)

theorem doRelease_run (e : Env) (s : St) (sp : Spec) (i : Ino) (h : Hnd) {op : Op}
    (hop : op = .release i h ∨ op = .releasedir i h) :
    Run e nf false b s sp (doRelease s i h).1 (sp.step op (doRelease s i h).2) := by
  unfold doRelease
  split
  · rename_i hg; rcases hop with x | x <;> subst x <;> exact .released hg
  · rcases hop with x | x <;> subst x <;> exact .nop s sp

/-! getattr / rename / unlink only move descriptors around and answer `ok` or an error -/

theorem opGetattr_run (e : Env) {q : Bool} (s : St) (sp : Spec) (i : Ino) (hd : Option Hnd) (hr : Errno) :
    Run e nf q b s sp (opGetattr e s i hd hr).1 (sp.step (.getattr i hd hr) (opGetattr e s i hd hr).2) := by
  fun_cases opGetattr e s i hd hr
  -- kept by handle, no descriptor left for the temporary open
  case case6 h1 => exact .allocFail h1
  -- kept by handle: a temporary descriptor around the stat
  case case7 h1 => split <;> exact .temp h1 (.nop _ sp)
  -- unknown inode, the handle's descriptor, the inode's own descriptor, or `ESTALE` before the open
  all_goals exact .nop s sp

theorem opRename_run (e : Env) {q : Bool} (s : St) (sp : Spec) (p1 : Ino) (st1 : Bool) (p2 : Ino) (st2 : Bool)
    (hr : Errno) :
    Run e nf q b s sp (opRename e s p1 st1 p2 st2 hr).1
      (sp.step (.rename p1 st1 p2 st2 hr) (opRename e s p1 st1 p2 st2 hr).2) := by
  unfold opRename
  split
  · split
    · rename_i h1; exact .of_getFile_err h1
    · rename_i h1
      split
      · rename_i h2; exact .withFile h1 (.of_getFile_err h2)
      · rename_i s2 h2; split <;> exact .withFile h1 (.withFile h2 (.nop s2 sp))
  · exact .nop s sp

theorem opUnlink_run (e : Env) {q : Bool} (s : St) (sp : Spec) (p : Ino) (pst : Bool) (hr : Errno) :
    Run e nf q b s sp (opUnlink e s p pst hr).1 (sp.step (.unlink p pst hr) (opUnlink e s p pst hr).2) := by
  unfold opUnlink
  split
  · exact .nop s sp
  · split
    · rename_i h1; exact .of_getFile_err h1
    · rename_i s1 h1; split <;> exact .withFile h1 (.nop s1 sp)

theorem batchForget_run (e : Env) (l : List (Ino × Nat)) (s : St) (sp : Spec) :
    Run e nf false b s sp (batchForget e s l) (sp.forgetAll l) := by
  induction l generalizing s sp with
  | nil => exact .nop s sp
  | cons p r ih => exact (Run.forget p.1 p.2).seq (ih _ _)

theorem step_run (e : Env) (s : St) (sp : Spec) (op : Op) (hd : op.isDestroy = true → b = true)
    (hf : nf = true → op.NoFh) : Run e nf false b s sp (step e s op).1 (sp.step op (step e s op).2) := by
  cases op with
  | lookup p pst a => exact entryLookup_run e s sp p pst a rfl hf
  | forget i n => exact .forget i n
  | batchForget l => exact batchForget_run e l s sp
  | mkdir p pst hr a => exact opMknod_run e s sp p pst hr a rfl hf
  | mknod p pst hr a => exact opMknod_run e s sp p pst hr a rfl hf
  | link i ist p pst hr a => exact opLink_run e s sp i ist p pst hr a hf
  | create p pst x cr a ohr => exact opCreate_run e s sp p pst x cr a ohr hf
  | «open» i hr =>
    simp only [step, opOpen]
    split
    · exact .nop s sp
    · exact doOpen_run e s sp i hr (.inl rfl)
  | opendir i hr =>
    simp only [step, opOpendir]
    split
    · exact .nop s sp
    · exact doOpen_run e s sp i hr (.inr rfl)
  | release i h =>
    simp only [step, opRelease]
    split
    · exact .nop s sp
    · exact doRelease_run e s sp i h (.inl rfl)
  | releasedir i h =>
    simp only [step, opReleasedir]
    split
    · exact .nop s sp
    · exact doRelease_run e s sp i h (.inr rfl)
  | readdirplus i h dhr lst fit tl => exact opReaddirplus_run e s sp i h dhr lst fit tl hf
  | getattr i h hr => exact opGetattr_run e s sp i h hr
  | rename p1 st1 p2 st2 hr => exact opRename_run e s sp p1 st1 p2 st2 hr
  | unlink p pst hr => exact opUnlink_run e s sp p pst hr
  | destroy root => cases hd rfl; exact .seq .clear (.importRoot root hf)
  | init root =>
    cases hd rfl
    have hi : Run e nf false true s sp (importRoot e s root).1 sp := .importRoot root hf
    simp only [step, opInit]
    split <;> (rename_i heq; rw [heq] at hi; exact hi)

theorem run_run (e : Env) (h : List (Option Nat × Op)) (hd : hasDestroy h = true → b = true)
    (hf : nf = true → NoHandles h) (s : St) (sp : Spec) :
    Run e nf false b s sp (run e s h).1 (sp.run h (run e s h).2) := by
  induction h generalizing s sp with
  | nil => exact .nop s sp
  | cons x r ih =>
    obtain ⟨c, op⟩ := x
    simp only [hasDestroy, Bool.or_eq_true] at hd
    exact .seq (.seq (.cap _) (.seq (step_run e _ sp op (fun x => hd (.inl x)) fun hn => hf hn (c, op) List.mem_cons_self)
        (.cap none)))
      (ih (fun x => hd (.inr x)) (fun hn y hy => hf hn y (List.mem_cons_of_mem _ hy)) _ _)

theorem run_trN (e : Env) (h : List (Option Nat × Op)) (hf : nf = true → NoHandles h) (s : St) (sp : Spec) :
    Tr e nf (hasDestroy h) s sp (run e s h).1 (sp.run h (run e s h).2) :=
  (run_run e h id hf s sp).tr

theorem run_tr (e : Env) (h : List (Option Nat × Op)) (s : St) (sp : Spec) :
    Tr e false (hasDestroy h) s sp (run e s h).1 (sp.run h (run e s h).2) :=
  run_trN e h (fun x => by cases x) s sp

theorem run_hnds (e : Env) (h : List (Option Nat × Op)) (s : St) (sp : Spec) (hh : s.handles = sp.hnds) :
    (run e s h).1.handles = (sp.run h (run e s h).2).hnds :=
  (run_tr e h s sp).hnds_eq hh

theorem good_fresh : Good St.fresh Spec.init :=
  ⟨by intro i _; simp [St.fresh, Spec.init], by intro i d h; simp [St.fresh] at h⟩

theorem run_good_from (e : Env) (h : List (Option Nat × Op)) {s : St} {sp : Spec} (g : Good s sp)
    (ok : OK (run e s h).1) : Good (run e s h).1 (sp.run h (run e s h).2) :=
  (run_tr e h s sp).good g ok

theorem run_good (e : Env) (h : List (Option Nat × Op)) (ok : OK (run e St.fresh h).1) :
    Good (run e St.fresh h).1 (Spec.init.run h (run e St.fresh h).2) :=
  run_good_from e h good_fresh ok

theorem linv_fresh : LInv St.fresh 0 0 := by
  refine ⟨List.nodup_nil, List.nodup_nil, ?_, ?_, ?_, ?_⟩
  · simp [St.fresh, nFile, mfd]
  · simp [St.fresh, nHand]
  · intro h i hm; simp [St.fresh] at hm
  · intro h hc; simp [St.fresh] at hc

theorem run_linv (e : Env) (h : List (Option Nat × Op)) {s : St} {t m : Nat} (hl : LInv s t m) :
    LInv (run e s h).1 t m :=
  (run_run (nf := false) (b := true) e h (fun _ => rfl) nofun s Spec.init).linv hl

end Fbr.PtRefs
