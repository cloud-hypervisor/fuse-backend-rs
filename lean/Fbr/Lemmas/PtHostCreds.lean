/-
  Fbr.Lemmas.PtHostCreds — Hoare triples over the thread's credentials for the guard
  combinators of the model (`set_creds`, `ScopedUid/ScopedGid` drop, `drop_cap_fsetid`,
  `CapFsetid` drop): the `set_creds` scope is `Neutral` when its body leaves the credentials alone, the
  `drop_cap_fsetid` scope whenever its body is.  Postconditions are given by cases on the result
  (`Post A E`), so that a bind hands the continuation its precondition; the rules for a switch and for
  `capget` are corollaries of the one for an action that begins with a call (`hoareM_call_first`).
  A block none of whose calls is a credential call leaves the credentials alone (`InertM`); a request is
  composed of such blocks and of the two balanced scopes (`br_handle`), and neutrality is closed under
  that composition (`Br.neutral`): every request restores the credentials (`neutralM_handle`).
-/
import Fbr.Lemmas.PtHostCalls

namespace Fbr.PtHost
open Fbr.Host

variable {σ : Type} {α β : Type}

/-- `{P} p {Q}` over the credentials of the thread -/
def Hoare (H : HostOps σ) (P : Creds → Prop) (p : Prog α) (Q : α → Creds → Prop) : Prop :=
  ∀ s, P (H.creds s) → Q (val H p s) (H.creds (fin H p s))

theorem hoare_pure (H : HostOps σ) (P : Creds → Prop) (a : α) : Hoare H P (Prog.pure a) (fun x c => x = a ∧ P c) :=
  fun _ h => ⟨rfl, h⟩

variable {H : HostOps σ} {P : Creds → Prop}

theorem hoare_bind {p : Prog α} {Q : α → Creds → Prop} {f : α → Prog β}
    {R : β → Creds → Prop} (hp : Hoare H P p Q) (hf : ∀ a, Hoare H (Q a) (f a) R) : Hoare H P (p.bind f) R := by
  intro s hP
  rw [fin_bind, val_bind]
  exact hf _ _ (hp s hP)

/-- request-monad triples: the postcondition sees the `io::Result` -/
def HoareM (H : HostOps σ) (P : Creds → Prop) (m : M α) (Q : Except Nat α → Creds → Prop) : Prop :=
  ∀ st, Hoare H P (m st) (fun r c => Q r.1 c)

theorem hoareM_bind {m : M α} {Q : Except Nat α → Creds → Prop} {f : α → M β}
    {R : Except Nat β → Creds → Prop} (hm : HoareM H P m Q) (hf : ∀ a, HoareM H (Q (.ok a)) (f a) R)
    (he : ∀ e c, Q (.error e) c → R (.error e) c) : HoareM H P (m >>= f) R := by
  intro st
  show Hoare H P (M.bind' m f st) _
  unfold M.bind'
  refine hoare_bind (hm st) ?_
  intro r
  rcases r with ⟨r1, r2⟩
  cases r1 with
  | ok a => exact hf a r2
  | error e => intro s h; exact he e _ h

theorem hoareM_conseq {m : M α} {Q Q' : Except Nat α → Creds → Prop}
    (h : HoareM H P m Q) (hQ : ∀ a c, Q a c → Q' a c) : HoareM H P m Q' :=
  fun st s hp => hQ _ _ (h st s hp)

theorem HoareM.run {m : M α} {Q : Except Nat α → Creds → Prop} (h : HoareM H P m Q) (pt : PtState) (s : σ)
    (hs : P (H.creds s)) : Q (val H (m pt) s).1 (H.creds (fin H (m pt) s)) := h pt s hs

theorem InertM.hoareM {m : M α} (h : InertM H m) (c0 : Creds) :
    HoareM H (· = c0) m (fun _ c => c = c0) := fun st s hs => by rw [h.h st s]; exact hs

theorem NeutralM.hoareM {m : M α} (h : NeutralM H m) (c0 : Creds) (b : Base c0) :
    HoareM H (· = c0) m (fun _ c => CredsKept c0 c) := fun st s hs => by subst hs; exact h.h st s b

theorem neutralM_of_hoareM {m : M α}
    (h : ∀ c0, Base c0 → HoareM H (· = c0) m (fun _ c => CredsKept c0 c)) : NeutralM H m :=
  ⟨fun st s b => h _ b st s rfl⟩

theorem hoareM_pure {Q : Except Nat α → Creds → Prop} (a : α)
    (h : ∀ c, P c → Q (.ok a) c) : HoareM H P (pure a : M α) Q := fun _ _ hp => h _ hp

theorem hoareM_throw {Q : Except Nat α → Creds → Prop} (e : Nat)
    (h : ∀ c, P c → Q (.error e) c) : HoareM H P (M.throw e : M α) Q := fun _ _ hp => h _ hp

theorem hoareM_ofExcept {Q : Except Nat α → Creds → Prop} (x : Except Nat α)
    (h : ∀ c, P c → Q x c) : HoareM H P (M.ofExcept x) Q := by
  cases x <;> exact fun _ _ hp => h _ hp

/-- a postcondition by cases on the `io::Result`: `A` of the value on success, `E` on failure.  A guard acquisition
    entered from `c0` has `E = (· = c0)` (it fails without a trace), an action that cannot fail `E = fun _ => False`. -/
@[reducible] def Post (A : α → Creds → Prop) (E : Creds → Prop) : Except Nat α → Creds → Prop
  | .ok a, c => A a c
  | .error _, c => E c

theorem hoareM_post {m : M α} {A A' : α → Creds → Prop} {E : Creds → Prop} (h : HoareM H P m (Post A E))
    (hA : ∀ a c, A a c → A' a c) : HoareM H P m (Post A' E) :=
  hoareM_conseq h fun r c => by cases r <;> first | exact id | exact hA _ _

theorem hoareM_try {m : M α} {Q : Except Nat α → Creds → Prop}
    (h : HoareM H P m Q) : HoareM H P (M.try' m) (Post Q fun _ => False) := by
  intro st
  unfold M.try'
  exact hoare_bind (h st) fun r s hq => hq

theorem hoareM_pre_pure {φ : Prop} {m : M α} {Q : Except Nat α → Creds → Prop}
    (h : φ → HoareM H P m Q) : HoareM H (fun c => φ ∧ P c) m Q :=
  fun st s hp => h hp.1 st s hp.2

theorem hoareM_of_points {m : M α} {Q : Except Nat α → Creds → Prop}
    (h : ∀ c1, P c1 → HoareM H (· = c1) m Q) : HoareM H P m Q :=
  fun st s hp => h _ hp st s rfl

/-- the law shared by `setresgid`, `setresuid` and `capset`: the call succeeds and changes the
    credentials by `eff`, or fails and changes nothing -/
def Switches (H : HostOps σ) (c : HCall) (eff : Creds → Creds) : Prop :=
  ∀ s, ((H.step s c).1 = .ok ∧ H.creds (H.step s c).2 = eff (H.creds s)) ∨
       ((∃ e, (H.step s c).1 = .err e) ∧ H.creds (H.step s c).2 = H.creds s)

section calls
variable [L : HostLaws H] {c : HCall} {eff : Creds → Creds}

theorem switches_gid (g : Nat) : Switches H (.setresgid g) (fun c => { c with egid := g }) := fun s => L.setresgid_spec s g
theorem switches_uid (u : Nat) : Switches H (.setresuid u) (·.afterSetuid u) := fun s => L.setresuid_spec s u
theorem switches_cap (b : Bool) : Switches H (.capset b) (fun c => { c with effFsetid := b }) := fun s => L.capset_spec s b

omit L in
/-- an action that begins with the call `c` (a `do` block whose first statement is the call unfolds to this form, so the
    rule applies to it as it stands): what follows runs from the host's answer and state -/
theorem hoareM_call_first (c0 : Creds) {k : HAns → M β} {R : Except Nat β → Creds → Prop}
    (hk : ∀ s, H.creds s = c0 → HoareM H (· = H.creds (H.step s c).2) (k (H.step s c).1) R) :
    HoareM H (· = c0) (fun st => .call c fun a => k a st) R :=
  fun st s hs => hk s hs st _ rfl

omit L in
theorem hoareM_switch_first (h : Switches H c eff) (c0 : Creds) {k : HAns → M β} {R : Except Nat β → Creds → Prop}
    (hok : HoareM H (· = eff c0) (k .ok) R) (herr : ∀ e, HoareM H (· = c0) (k (.err e)) R) :
    HoareM H (· = c0) (fun st => .call c fun a => k a st) R := by
  refine hoareM_call_first c0 fun s hs => ?_
  rcases h s with ⟨h1, h2⟩ | ⟨⟨e, h1⟩, h2⟩ <;> rw [h1, h2, hs]
  · exact hok
  · exact herr e

omit L in
/-- for a switch that cannot fail from `c0` (back to id 0; raising a permitted capability as root) -/
theorem hoareM_switch_first_ok (h : Switches H c eff) (c0 : Creds) (hz : ∀ s, H.creds s = c0 → (H.step s c).1 = .ok)
    {k : HAns → M β} {R : Except Nat β → Creds → Prop}
    (hok : HoareM H (· = eff c0) (k .ok) R) : HoareM H (· = c0) (fun st => .call c fun a => k a st) R := by
  refine hoareM_call_first c0 fun s hs => ?_
  rcases h s with ⟨h1, h2⟩ | ⟨⟨e, h1⟩, _⟩
  · rw [h1, h2, hs]; exact hok
  · rw [hz s hs] at h1; cases h1

omit L in
/-- `ScopedGid::new` / `ScopedUid::new`: no call for id 0; `true` = a guard is alive -/
theorem hoareM_scoped (h : Switches H c eff) (c0 : Creds) (x : Nat) :
    HoareM H (· = c0) (if x = 0 then pure false else do unitCall c; pure true : M Bool)
      (Post (fun g cr => g = decide (x ≠ 0) ∧ cr = (if x = 0 then c0 else eff c0)) (· = c0)) := by
  by_cases hx : x = 0
  · simp only [hx, if_true]
    exact hoareM_pure false fun _ h => ⟨rfl, h⟩
  · simp only [hx, if_false]
    exact hoareM_switch_first h c0 (hoareM_pure true fun _ h => ⟨by simp [hx], h⟩)
      fun e => hoareM_throw e fun _ h => h

omit L in
/-- `impl Drop for ScopedGid / ScopedUid`: the switch back cannot fail -/
theorem hoareM_drop (h : Switches H c eff) (hz : ∀ s, (H.step s c).1 = .ok) (c1 : Creds) (g : Bool) :
    HoareM H (· = c1) (if g then do let _ ← M.sys c; pure () else pure () : M Unit)
      (Post (fun _ cr => cr = (if g then eff c1 else c1)) fun _ => False) := by
  cases g with
  | false => exact hoareM_pure () fun _ h => h
  | true => exact hoareM_switch_first_ok h c1 (fun s _ => hz s) (hoareM_pure () fun _ h => h)

end calls

variable [L : HostLaws H]

omit L in
/-- after an acquisition that yields `a0` and leads to `c1`, or fails without a trace -/
theorem hoareM_bind_or {m : M α} {f : α → M β} {a0 : α} {c0 c1 : Creds} {R : Except Nat β → Creds → Prop}
    (hm : HoareM H P m (Post (fun a c => a = a0 ∧ c = c1) (· = c0)))
    (hf : HoareM H (· = c1) (f a0) R) (he : ∀ e, R (.error e) c0) : HoareM H P (m >>= f) R :=
  hoareM_bind hm (fun a st s hq => by obtain ⟨rfl, h2⟩ := hq; exact hf st s h2) fun e c h => h ▸ he e

omit L in
/-- `let r ← try body; cleanup; r`, the shape of both scopes: `cleanup` runs whatever `body` returned -/
theorem hoareM_finally {P Q R : Creds → Prop} {body : M α} {cleanup : M Unit}
    (hb : HoareM H P body (fun _ => Q)) (hc : HoareM H Q cleanup (Post (fun _ => R) fun _ => False)) :
    HoareM H P (do let r ← M.try' body; cleanup; M.ofExcept r) (fun _ => R) :=
  hoareM_bind (hoareM_try hb) (fun r => hoareM_bind hc (fun _ => hoareM_ofExcept r fun _ h => h) fun _ _ h => h.elim)
    fun _ _ h => h.elim

/-- credentials inside a `set_creds(uid, gid)` scope entered from `c0` -/
def inScope (c0 : Creds) (uid gid : Nat) : Creds :=
  let c1 : Creds := if gid = 0 then c0 else { c0 with egid := gid }
  if uid = 0 then c1 else c1.afterSetuid uid

theorem hoareM_setCreds (c0 : Creds) (b : Base c0) (uid gid : Nat) :
    HoareM H (· = c0) (setCreds uid gid)
      (Post (fun gs c => gs = (decide (uid ≠ 0), decide (gid ≠ 0)) ∧ c = inScope c0 uid gid) (· = c0)) := by
  unfold setCreds
  refine hoareM_bind_or (hoareM_scoped (switches_gid gid) c0 gid) ?_ fun _ => rfl
  -- the gid guard is alive (or gid = 0)
  refine hoareM_bind (hoareM_try (hoareM_scoped (switches_uid uid) _ uid)) ?_ (fun _ _ h => h.elim)
  rintro (e | u)
  · -- the uid switch failed: the gid guard is dropped, the error returned
    refine hoareM_bind (hoareM_drop (switches_gid 0) L.setresgid_zero _ (decide (gid ≠ 0)))
      (fun _ => hoareM_throw e fun c h => ?_) (fun _ _ h => h.elim)
    rw [h]
    obtain ⟨_, b2, _⟩ := b
    by_cases hg : gid = 0 <;> simp [hg]
    cases c0; simp_all
  · exact hoareM_pure (u, decide (gid ≠ 0)) fun c h => ⟨by rw [h.1], h.2⟩

/-- leaving a `set_creds` scope entered from a `Base` state restores it (up to the refresh of the
    effective capability set by the uid round trip) -/
theorem inScope_dropped (c0 : Creds) (b : Base c0) (uid gid : Nat) :
    CredsKept c0
      (let c2 : Creds := if decide (gid ≠ 0) then { inScope c0 uid gid with egid := 0 } else inScope c0 uid gid
       if decide (uid ≠ 0) then c2.afterSetuid 0 else c2) := by
  obtain ⟨b1, b2, b3⟩ := b
  by_cases hu : uid = 0 <;> by_cases hg : gid = 0 <;>
    simp [inScope, Creds.afterSetuid, CredsKept, hu, hg, b1, b2]

theorem hoareM_dropCreds (c0 : Creds) (b : Base c0) (uid gid : Nat) :
    HoareM H (· = inScope c0 uid gid) (dropCreds (decide (uid ≠ 0), decide (gid ≠ 0)))
      (Post (fun _ => CredsKept c0) fun _ => False) := by
  unfold dropCreds
  refine hoareM_bind (hoareM_drop (switches_gid 0) L.setresgid_zero _ _) (fun _ => ?_) (fun _ _ h => h.elim)
  exact hoareM_post (hoareM_drop (switches_uid 0) L.setresuid_zero _ _) fun _ _ h => h ▸ inScope_dropped c0 b uid gid

/-- `{ let (_uid, _gid) = set_creds(uid, gid)?; body }` is balanced when `body` does not touch the
    credentials: every exit path (gid switch fails, uid switch fails after the gid switch, body
    fails, body succeeds) ends with the credentials of the start -/
theorem NeutralM.withCreds {uid gid : Nat} {body : M α} (hb : InertM H body) : NeutralM H (withCreds uid gid body) := by
  refine neutralM_of_hoareM (fun c0 b => ?_)
  unfold Fbr.PtHost.withCreds
  exact hoareM_bind_or (hoareM_setCreds c0 b uid gid) (hoareM_finally (hb.hoareM _) (hoareM_dropCreds c0 b uid gid))
    fun _ => CredsKept.refl _

theorem hoareM_capget_then (c0 : Creds) {k : HAns → M β} {R : Except Nat β → Creds → Prop}
    (hk : HoareM H (· = c0) (k (.caps c0.effFsetid)) R) : HoareM H (· = c0) (M.sys .capget >>= k) R :=
  hoareM_call_first c0 fun s hs => by rw [L.capget_spec s, L.creds_other s .capget rfl, hs]; exact hk

/-- `if cond { drop_cap_fsetid()? } else { None }`: a guard (`true`) only for a thread that had the capability, which is
    then dropped -/
theorem hoareM_dropCap (c0 : Creds) (cond : Bool) :
    HoareM H (· = c0) (if cond then dropCapFsetid else pure false : M Bool)
      (Post (fun g c => bif g then c0.effFsetid = true ∧ c = { c0 with effFsetid := false } else c = c0) (· = c0)) := by
  cases cond with
  | false => exact hoareM_pure false fun _ h => h
  | true =>
    show HoareM H _ dropCapFsetid _
    unfold dropCapFsetid
    -- three `capget`s, as the caps crate makes them: `has_cap`, then `drop` = read + (read, `capset`)
    refine hoareM_capget_then c0 ?_
    cases he : c0.effFsetid with
    | false => exact hoareM_pure false fun _ h => h
    | true =>
      simp only []
      refine hoareM_capget_then c0 ?_
      rw [he]; simp only []
      refine hoareM_capget_then c0 ?_
      rw [he]; simp only []
      exact hoareM_switch_first (switches_cap false) c0 (hoareM_pure true fun _ h => ⟨trivial, h⟩)
        fun e => hoareM_throw E_KIND_PERM fun _ h => h

/-- `impl Drop for CapFsetid` from a root state whose permitted set has the capability: afterwards
    it is effective again -/
theorem hoareM_raiseCap (c1 : Creds) (hp : c1.permFsetid = true) (hu : c1.euid = 0) :
    HoareM H (· = c1) raiseCapFsetid (Post (fun _ c => c = { c1 with effFsetid := true }) fun _ => False) := by
  unfold raiseCapFsetid
  refine hoareM_capget_then c1 ?_
  cases he : c1.effFsetid with
  | true =>
    refine hoareM_pure () ?_
    rintro c rfl
    cases c; simp_all
  | false =>
    simp only []
    refine hoareM_capget_then c1 ?_
    rw [he]; simp only []
    exact hoareM_switch_first_ok (switches_cap true) c1 (fun s hs => L.capset_raise s (hs ▸ hp) (hs ▸ hu))
      (hoareM_pure () fun _ h => h)

/-- `let _killpriv = if cond { drop_cap_fsetid()? } else { None }; body`: balanced when `body` is -/
theorem NeutralM.withKillpriv {cond : Bool} {body : M α} (hb : NeutralM H body) : NeutralM H (withKillpriv cond body) := by
  refine neutralM_of_hoareM (fun c0 b => ?_)
  unfold Fbr.PtHost.withKillpriv
  refine hoareM_bind (hoareM_dropCap c0 cond) (fun g => ?_) fun _ _ h => h ▸ CredsKept.refl _
  cases g with
  | false =>
    -- no guard: the body alone
    exact hoareM_finally (hb.hoareM c0 b) (hoareM_pure () fun _ h => h)
  | true =>
    refine hoareM_pre_pure fun he => ?_
    have b1 : Base ({ c0 with effFsetid := false } : Creds) := ⟨b.1, b.2.1, nofun⟩
    refine hoareM_finally (hb.hoareM _ b1) (hoareM_of_points fun c2 h2 => ?_)
    obtain ⟨k1, k2, k3, _⟩ := h2
    refine hoareM_post (hoareM_raiseCap c2 (k3 ▸ b.2.2 he) (k1 ▸ b.1)) ?_
    rintro _ c rfl
    exact ⟨k1, k2, k3, Or.inl he.symm⟩

def NotCred (c : HCall) : Prop := c.isCred = false

theorem inert_of_only {p : Prog α} (h : p.OnlyCalls NotCred) : Inert H p := by
  induction p with
  | pure a => exact inert_pure H a
  | call c k ih => exact inert_call h.1 fun a => ih a (h.2 a)

theorem InertM.of_only {m : M α} (h : OnlyM NotCred m) : InertM H m := ⟨fun s => inert_of_only (h.h s)⟩

theorem Aux.notCred (c : HCall) (h : Aux c) : NotCred c := by cases h <;> rfl
theorem Look.notCred (c : HCall) (h : Look c) : NotCred c := by cases h <;> rfl

theorem Tame.notCred {r : Req} {c : HCall} (h : Tame r c) : NotCred c := by cases c <;> first | rfl | exact h

theorem Outer.notCred {r : Req} (c : HCall) (h : Outer r c) : NotCred c := by
  cases h with
  | aux h => exact h.notCred
  | own _ h => exact h.2.notCred

theorem Br.neutral {cfg : Cfg} {n : Name} {u g : Nat} {P B : HCall → Prop} {m : M α} (hP : ∀ c, P c → NotCred c)
    (hB : ∀ c, B c → NotCred c) (h : Br cfg n u g P B m) : NeutralM H m := by
  induction h with
  | of_acts h => exact (InertM.of_only (onlyM_mono h.only hP)).neutral
  | lookup p => exact (InertM.of_only (acts_doLookup Aux.notCred Look.notCred cfg p n).only).neutral
  | forget => exact (InertM.of_only (acts_modify_any _).only).neutral
  | bind _ _ ih1 ih2 => exact ih1.bind ih2
  | try' _ ih => exact ih.try'
  | withCreds h => exact .withCreds (.of_only (onlyM_mono h.only hB))
  | withKillpriv _ ih => exact ih.withKillpriv

theorem neutralM_handle (cfg : Cfg) (r : Req) : NeutralM H (handle cfg r) :=
  (br_handle cfg r).neutral Outer.notCred fun _ h => h.2.notCred

end Fbr.PtHost
