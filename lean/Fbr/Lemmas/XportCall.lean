/-
  What is handed to `consume`: the two copy loops and the scripted files, as closures.  The contracts
  (`FOk`: addresses; `FRd`/`FWr`: content of a reading / writing closure; `KeepW`: a reader changes
  neither memory, descriptor nor write log) are stated over `moved r.1`, the count the call reports;
  each copy loop has one lemma per contract, each scripted wrapper ONE lemma for all of them
  (`writeVectored_spec`, `readVectored_spec`).
-/
import Fbr.Lemmas.XportAdv
import Fbr.Lemmas.XportMem

namespace Fbr.Xport

theorem total_le_of_prefix {sub bufs : List Seg} (h : addrs sub <+: addrs bufs) : total sub ≤ total bufs := by
  simpa using h.length_le

theorem take_of_prefix {sub bufs : List Seg} (h : addrs sub <+: addrs bufs) {n : Nat} (hn : n ≤ total sub) :
    (addrs sub).take n = (addrs bufs).take n := by
  obtain ⟨t, ht⟩ := h
  rw [← ht, List.take_append_of_le_length (by simpa using hn)]

theorem pre_head (b : Seg) (rest : List Seg) : addrs [b] <+: addrs (b :: rest) := by
  simp only [addrs, List.append_nil]
  exact List.prefix_append _ _

theorem pre_find (bufs : List Seg) (b : Seg) (h : bufs.find? (fun b => b.len ≠ 0) = some b) :
    addrs [b] <+: addrs bufs := by
  induction bufs with
  | nil => simp at h
  | cons s rest ih =>
    rw [List.find?_cons] at h
    by_cases hs : s.len = 0
    · simp only [hs, ne_eq, not_true_eq_false, decide_false] at h
      simpa only [addrs, segAddrs_zero s hs, List.nil_append] using ih h
    · simp only [hs, ne_eq, not_false_eq_true, decide_true] at h
      cases h
      exact pre_head _ rest

theorem sinkCall_cases (s : Script) (w : World) (bufs : List Seg) :
    (∃ e s', s.sinkCall w bufs = (.error e, w, s') ∧ s'.got = s.got)
    ∨ (∃ k s', s.sinkCall w bufs = (.ok (copyOut w bufs k).2.2, (copyOut w bufs k).1, s')
        ∧ s'.got = s.got ++ (copyOut w bufs k).2.1) := by
  unfold Script.sinkCall Script.pop
  cases s.answers with
  | nil => exact .inr ⟨_, _, rfl, rfl⟩
  | cons a rest =>
    cases a with
    | err => exact .inl ⟨_, _, rfl, rfl⟩
    | intr => exact .inl ⟨_, _, rfl, rfl⟩
    | n k => exact .inr ⟨_, _, rfl, rfl⟩

/-- where the cursor of a source stands after delivering `n` bytes -/
def srcPos (at_ : Option Nat) (pos n : Nat) : Nat :=
  match at_ with
  | some _ => pos
  | none => pos + n

theorem sourceCall_cases (s : Script) (w : World) (bufs : List Seg) (at_ : Option Nat) :
    (∃ e s', (e = .other ∨ e = .interrupted) ∧ s.sourceCall w bufs at_ = (.error e, w, s')
        ∧ s'.seed = s.seed ∧ s'.pos = s.pos)
    ∨ (∃ k s', k ≤ total bufs
        ∧ s.sourceCall w bufs at_
          = (.ok (copyIn w bufs (patBytes s.seed (at_.getD s.pos) k)).2,
             (copyIn w bufs (patBytes s.seed (at_.getD s.pos) k)).1, s')
        ∧ s'.seed = s.seed
        ∧ s'.pos = srcPos at_ s.pos (copyIn w bufs (patBytes s.seed (at_.getD s.pos) k)).2) := by
  unfold Script.sourceCall Script.pop
  cases s.answers with
  | nil => cases at_ <;> exact .inr ⟨_, _, Nat.le_refl _, rfl, rfl, rfl⟩
  | cons a rest =>
    cases a with
    | err => exact .inl ⟨_, _, .inl rfl, rfl, rfl, rfl⟩
    | intr => exact .inl ⟨_, _, .inr rfl, rfl, rfl, rfl⟩
    | n k => cases at_ <;> exact .inr ⟨_, _, Nat.min_le_right _ _, rfl, rfl, rfl⟩

/-- `write_vectored(_at)_volatile` as `read_to(_at)` sees it: nothing to do, or one call of the
    implemented method on a prefix of the buffers (all of them when the method is overridden, the
    first / first non-empty one under the trait default) -/
theorem writeVectored_cases (s : Script) (w : World) (bufs : List Seg) (at_ : Bool) :
    s.writeVectored w bufs at_ = (.ok 0, w, s)
    ∨ ∃ sub, addrs sub <+: addrs bufs ∧ s.writeVectored w bufs at_ = s.sinkCall w sub := by
  unfold Script.writeVectored
  cases s.kind with
  | full => exact .inr ⟨bufs, List.prefix_refl _, rfl⟩
  | dflt =>
    cases at_ with
    | true =>
      cases bufs with
      | nil => exact .inl rfl
      | cons b rest => exact .inr ⟨[b], pre_head b rest, rfl⟩
    | false =>
      simp only [Bool.false_eq_true, if_false]
      cases hf : bufs.find? (fun b => b.len ≠ 0) with
      | none => exact .inl rfl
      | some b => exact .inr ⟨[b], pre_find bufs b hf, rfl⟩

theorem readVectored_cases (s : Script) (w : World) (bufs : List Seg) (at_ : Option Nat) :
    s.readVectored w bufs at_ = (.ok 0, w, s)
    ∨ ∃ sub, addrs sub <+: addrs bufs ∧ s.readVectored w bufs at_ = s.sourceCall w sub at_ := by
  unfold Script.readVectored
  cases s.kind with
  | full => exact .inr ⟨bufs, List.prefix_refl _, rfl⟩
  | dflt =>
    cases at_ with
    | some o =>
      cases bufs with
      | nil => exact .inl rfl
      | cons b rest => exact .inr ⟨[b], pre_head b rest, rfl⟩
    | none =>
      simp only
      cases hf : bufs.find? (fun b => b.len ≠ 0) with
      | none => exact .inl rfl
      | some b => exact .inr ⟨[b], pre_find bufs b hf, rfl⟩

theorem fok_copyOut {β : Type} (w : World) (bufs : List Seg) (n : Nat) (a : β) :
    FOk false w bufs ((.ok (copyOut w bufs n).2.2 : Except IoErr Nat), (copyOut w bufs n).1, a) := by
  obtain ⟨hs, _, hw, hr, ht⟩ := copyOut_spec w bufs n
  refine ⟨?_, hs.p, hs.fd, hs.dirty, ?_, hw⟩ <;> simp only [moved_ok, ht]
  · exact Nat.min_le_right _ _
  · exact hr.trans (by rw [take_min_total]; rfl)

theorem fok_copyIn {β : Type} (w : World) (bufs : List Seg) (data : Bytes) (a : β) :
    FOk true w bufs ((.ok (copyIn w bufs data).2 : Except IoErr Nat), (copyIn w bufs data).1, a) := by
  obtain ⟨hs, hr, hw, ht⟩ := copyIn_spec w bufs data
  refine ⟨?_, hs.p, hs.fd, hs.dirty, ?_, hr⟩ <;> simp only [moved_ok, ht]
  · exact Nat.min_le_right _ _
  · exact hw.trans (by rw [take_min_total]; rfl)

theorem fok_error {β : Type} {wr : Bool} {w : World} {bufs : List Seg} {e : IoErr} {a : β} :
    FOk wr w bufs ((.error e : Except IoErr Nat), w, a) :=
  ⟨Nat.zero_le _, rfl, rfl, rfl, by simp, rfl⟩

theorem FOk.mono {β : Type} {wr : Bool} {w : World} {sub bufs : List Seg} {r : Except IoErr Nat × World × β}
    (h : FOk wr w sub r) (hp : addrs sub <+: addrs bufs) : FOk wr w bufs r := by
  obtain ⟨hn, h1, h2, h3, h4, h5⟩ := h
  exact ⟨Nat.le_trans hn (total_le_of_prefix hp), h1, h2, h3, by rw [h4, take_of_prefix hp hn], h5⟩

/-- what no reader operation does, whatever its cursor: change memory, the descriptor, the write log -/
def KeepW (w w' : World) : Prop := w'.mem = w.mem ∧ w'.fd = w.fd ∧ wrAddrs w'.log = wrAddrs w.log

theorem KeepW.refl (w : World) : KeepW w w := ⟨rfl, rfl, rfl⟩

theorem KeepW.trans {a b c : World} (h1 : KeepW a b) (h2 : KeepW b c) : KeepW a c :=
  ⟨h2.1.trans h1.1, h2.2.1.trans h1.2.1, h2.2.2.trans h1.2.2⟩

theorem copyOut_keep (w : World) (bufs : List Seg) (n : Nat) : KeepW w (copyOut w bufs n).1 :=
  have h := copyOut_spec w bufs n
  ⟨h.2.1, h.1.fd, h.2.2.1⟩

/-- content contract of a *reading* closure run by `consume`; `del` reads what the closure has
    delivered so far off its auxiliary value: the bytes at the addresses it reports to have passed -/
def FRd {β : Type} (del : β → Bytes) (w : World) (bufs : List Seg) (a0 : β)
    (r : Except IoErr Nat × World × β) : Prop :=
  r.2.1.mem = w.mem ∧ del r.2.2 = del a0 ++ ((addrs bufs).take (moved r.1)).map w.mem.byteAt

theorem FRd.mono {β : Type} {del : β → Bytes} {w : World} {sub bufs : List Seg} {a0 : β}
    {r : Except IoErr Nat × World × β} (h : FRd del w sub a0 r) (hn : moved r.1 ≤ total sub)
    (hp : addrs sub <+: addrs bufs) : FRd del w bufs a0 r :=
  ⟨h.1, by rw [h.2, take_of_prefix hp hn]⟩

theorem frd_same {β : Type} {del : β → Bytes} {w : World} {bufs : List Seg} {a0 a : β} (ha : del a = del a0)
    {res : Except IoErr Nat} (hr : moved res = 0) : FRd del w bufs a0 (res, w, a) :=
  ⟨rfl, by simp [hr, ha]⟩

theorem copyOut_frd {β : Type} (del : β → Bytes) (w : World) (bufs : List Seg) (n : Nat) (h : InMem w.mem (addrs bufs))
    (a0 a : β) (ha : del a = del a0 ++ (copyOut w bufs n).2.1) :
    FRd del w bufs a0 ((.ok (copyOut w bufs n).2.2 : Except IoErr Nat), (copyOut w bufs n).1, a) := by
  have hs := copyOut_spec w bufs n
  refine ⟨hs.2.1, ?_⟩
  rw [ha, copyOut_bytes w bufs n h, moved_ok, hs.2.2.2.2, take_min_total]

/-- `Nodup`: a later buffer must not overwrite what an earlier one received -/
theorem copyIn_mem (w : World) (bufs : List Seg) (data : Bytes) (hin : InMem w.mem (addrs bufs)) :
    (∀ x, ((copyIn w bufs data).1.mem.get x).length = (w.mem.get x).length)
    ∧ (∀ a, a ∉ (addrs bufs).take data.length → (copyIn w bufs data).1.mem.byteAt a = w.mem.byteAt a)
    ∧ ((addrs bufs).Nodup →
        ((addrs bufs).take data.length).map (copyIn w bufs data).1.mem.byteAt = data.take (total bufs)) := by
  induction bufs generalizing w data with
  | nil => simp [copyIn, addrs, total]
  | cons s rest ih =>
    simp only [copyIn]
    generalize hc : min data.length s.len = c
    have hclen : (data.take c).length = c := by simp only [List.length_take]; omega
    have hfit : data.take c = [] ∨ s.off + (data.take c).length ≤ (w.mem.get s.region).length := by
      by_cases h0 : c = 0
      · left; exact List.eq_nil_of_length_eq_zero (by rw [hclen]; exact h0)
      · right
        have := hin (s.region, s.off + (s.len - 1)) (by
          simp only [addrs]; exact List.mem_append_left _ (mk_mem_segAddrs s _ (by omega)))
        simp only at this
        rw [hclen]; omega
    let w1 : World := { w with mem := w.mem.write s.region s.off (data.take c),
                               log := w.log ++ [{ region := s.region, off := s.off, len := c, write := true }] }
    have hlen1 : ∀ x, (w1.mem.get x).length = (w.mem.get x).length := fun x => length_get_write _ _ _ _ hfit x
    have hin1 : InMem w1.mem (addrs rest) := by
      intro a ha; rw [hlen1]; exact hin a (by simp [addrs, ha])
    obtain ⟨i1, i2, i3⟩ := ih w1 (data.drop c) hin1
    have htk : (addrs (s :: rest)).take data.length
        = segAddrs { s with len := c } ++ (addrs rest).take (data.drop c).length := by
      rw [← take_cons_addrs, ← take_min_segAddrs, hc, List.length_drop]
    have hsub : ∀ a ∈ segAddrs { s with len := c }, a ∈ segAddrs s := fun a ha => by
      rw [← hc, take_min_segAddrs] at ha; exact List.mem_of_mem_take ha
    rw [htk]
    refine ⟨fun x => by rw [i1, hlen1], ?_, ?_⟩
    · intro a ha
      rw [List.mem_append, not_or, mem_segAddrs] at ha
      rw [i2 a ha.2, byteAt_write _ _ _ _ hfit, hclen, if_neg ha.1]
    · intro hnd
      obtain ⟨_, hndr, hdisj⟩ := List.nodup_append.mp hnd
      -- the first buffer holds what was written to it: the rest of the loop stays clear of it
      have h1 : (segAddrs { s with len := c }).map (copyIn w1 rest (data.drop c)).1.mem.byteAt = data.take c := by
        have hw := map_byteAt_written w.mem s.region s.off (data.take c) hfit
        rw [hclen] at hw
        exact (List.map_congr_left fun a ha => i2 a fun hm => hdisj a (hsub a ha) a (List.mem_of_mem_take hm) rfl).trans hw
      rw [List.map_append, i3 hndr, h1, ← List.take_add]
      exact List.take_eq_take_iff.mpr (by simp only [total]; omega)

/-- content contract of a *writing* closure run by `consume` (the copy loop of `write`, a scripted source filling
    the offered buffers): region sizes are kept, only the offered addresses it reports to have passed change,
    and — when the offered addresses are pairwise distinct — they then hold the first bytes `S n` of the source -/
def FWr {β : Type} (S : Nat → Bytes) (w : World) (bufs : List Seg) (r : Except IoErr Nat × World × β) : Prop :=
  (∀ x, (r.2.1.mem.get x).length = (w.mem.get x).length)
    ∧ (∀ a, a ∉ (addrs bufs).take (moved r.1) → r.2.1.mem.byteAt a = w.mem.byteAt a)
    ∧ ((addrs bufs).Nodup → ((addrs bufs).take (moved r.1)).map r.2.1.mem.byteAt = S (moved r.1))

theorem FWr.mono {β : Type} {S : Nat → Bytes} {w : World} {sub bufs : List Seg}
    {r : Except IoErr Nat × World × β} (h : FWr S w sub r) (hn : moved r.1 ≤ total sub)
    (hp : addrs sub <+: addrs bufs) : FWr S w bufs r := by
  obtain ⟨h1, b, c⟩ := h
  rw [take_of_prefix hp hn] at b c
  exact ⟨h1, b, fun hnd => c (hp.sublist.nodup hnd)⟩

theorem fwr_same {β : Type} (S : Nat → Bytes) (hS : S 0 = []) {w : World} {bufs : List Seg} {a : β}
    {res : Except IoErr Nat} (hr : moved res = 0) : FWr S w bufs (res, w, a) :=
  ⟨fun _ => rfl, fun _ _ => rfl, fun _ => by simp [hr, hS]⟩

theorem copyIn_fwr {β : Type} (w : World) (bufs : List Seg) (data : Bytes) (hin : InMem w.mem (addrs bufs)) (a : β) :
    FWr (fun n => data.take n) w bufs
      ((.ok (copyIn w bufs data).2 : Except IoErr Nat), (copyIn w bufs data).1, a) := by
  obtain ⟨hl, hf, hc⟩ := copyIn_mem w bufs data hin
  simp only [FWr, moved_ok, (copyIn_spec w bufs data).2.2.2, take_min_total]
  exact ⟨hl, hf, fun hnd => by rw [hc hnd]; exact List.take_eq_take_iff.mpr (by omega)⟩

@[simp] theorem length_patBytes (seed start n : Nat) : (patBytes seed start n).length = n := by
  simp [patBytes]

theorem patBytes_zero (seed start : Nat) : patBytes seed start 0 = [] := rfl

theorem patBytes_add (seed start a b : Nat) :
    patBytes seed start (a + b) = patBytes seed start a ++ patBytes seed (start + a) b := by
  simp only [patBytes, map_range_add, Nat.add_assoc]

theorem patBytes_take (seed start n k : Nat) (h : k ≤ n) : (patBytes seed start n).take k = patBytes seed start k := by
  obtain ⟨d, rfl⟩ := Nat.exists_eq_add_of_le h
  rw [patBytes_add, List.take_left' (by simp)]

theorem writeVectored_spec (s : Script) (w : World) (bufs : List Seg) (at_ : Bool) :
    FOk false w bufs (s.writeVectored w bufs at_) ∧ KeepW w (s.writeVectored w bufs at_).2.1
      ∧ (InMem w.mem (addrs bufs) → FRd Script.got w bufs s (s.writeVectored w bufs at_)) := by
  rcases writeVectored_cases s w bufs at_ with e | ⟨sub, hp, e⟩ <;> rw [e]
  · exact ⟨fok_zero, KeepW.refl w, fun _ => frd_same rfl rfl⟩
  · rcases sinkCall_cases s w sub with ⟨e, s', e', hg⟩ | ⟨k, s', e', hg⟩ <;> rw [e']
    · exact ⟨fok_error, KeepW.refl w, fun _ => frd_same hg rfl⟩
    · exact ⟨(fok_copyOut _ _ _ _).mono hp, copyOut_keep _ _ _,
        fun h => (copyOut_frd _ w sub k (h.mono fun _ ha => hp.mem ha) s s' hg).mono (fok_copyOut w sub k s').1 hp⟩

theorem readVectored_spec (s : Script) (w : World) (bufs : List Seg) (at_ : Option Nat) :
    FOk true w bufs (s.readVectored w bufs at_)
      ∧ (s.readVectored w bufs at_).2.2.seed = s.seed
      ∧ (s.readVectored w bufs at_).2.2.pos = srcPos at_ s.pos (moved (s.readVectored w bufs at_).1)
      ∧ (∀ e, (s.readVectored w bufs at_).1 = .error e → e = .other ∨ e = .interrupted)
      ∧ (InMem w.mem (addrs bufs) →
          FWr (fun n => patBytes s.seed (at_.getD s.pos) n) w bufs (s.readVectored w bufs at_)) := by
  rcases readVectored_cases s w bufs at_ with h | ⟨sub, hp, h⟩ <;> rw [h]
  · exact ⟨fok_zero, rfl, by cases at_ <;> rfl, nofun, fun _ => fwr_same _ rfl rfl⟩
  · rcases sourceCall_cases s w sub at_ with ⟨e, s', he, h, hs, hpos⟩ | ⟨k, s', hk, h, hs, hpos⟩ <;> rw [h]
    · exact ⟨fok_error, hs, by rw [hpos]; cases at_ <;> rfl, fun _ h => by cases h; exact he,
        fun _ => fwr_same _ rfl rfl⟩
    · refine ⟨(fok_copyIn _ _ _ _).mono hp, hs, hpos, nofun, fun hin => FWr.mono ?_ (fok_copyIn w sub _ s').1 hp⟩
      -- `k ≤ total sub` bytes of the stream are offered, so all of them are stored
      obtain ⟨h1, h3, h4⟩ := copyIn_fwr w sub (patBytes s.seed (at_.getD s.pos) k) (hin.mono fun _ ha => hp.mem ha) s'
      refine ⟨h1, h3, fun hnd => (h4 hnd).trans ?_⟩
      have hsz := (copyIn_spec w sub (patBytes s.seed (at_.getD s.pos) k)).2.2.2
      simp only [length_patBytes] at hsz
      simp only [moved_ok, hsz, Nat.min_eq_left hk, List.take_of_length_le (Nat.le_of_eq (length_patBytes ..))]

/-- a scripted source asked to fill ONE buffer that lies inside its region, answering `(res, w1, s1)`
    (how `FuseDevWriter::write_from` uses it) -/
theorem readVectored_single (w : World) (src : Script) (r off count : Nat) (at_ : Option Nat)
    (hin : off + count ≤ (w.mem.get r).length) {res : Except IoErr Nat} {w1 : World} {s1 : Script}
    (hr : src.readVectored w [⟨r, off, count⟩] at_ = (res, w1, s1)) :
    w1.fd = w.fd
    ∧ (∀ x, (w1.mem.get x).length = (w.mem.get x).length)
    ∧ rdAddrs w1.log = rdAddrs w.log
    ∧ s1.seed = src.seed
    ∧ moved res ≤ count
    ∧ (∀ a, a ∉ segAddrs ⟨r, off, moved res⟩ → w1.mem.byteAt a = w.mem.byteAt a)
    ∧ (segAddrs ⟨r, off, moved res⟩).map w1.mem.byteAt = patBytes src.seed (at_.getD src.pos) (moved res)
    ∧ wrAddrs w1.log = wrAddrs w.log ++ segAddrs ⟨r, off, moved res⟩
    ∧ s1.pos = srcPos at_ src.pos (moved res) := by
  have hinm : InMem w.mem (addrs [⟨r, off, count⟩]) := by
    rw [addrs_single]; exact inMem_seg hin
  obtain ⟨⟨hn0, _, ffd, _, fsel, fnsel⟩, p1, p2, _, hw⟩ := readVectored_spec src w [⟨r, off, count⟩] at_
  obtain ⟨wl, wfr, wc⟩ := hw hinm
  rw [hr] at hn0 ffd fsel fnsel wl wfr wc p1 p2
  have htot : total [(⟨r, off, count⟩ : Seg)] = count := by simp [total]
  rw [htot] at hn0
  rw [take_addrs_single _ _ hn0] at wfr wc fsel
  exact ⟨ffd, wl, fnsel, p1, hn0, wfr, wc (by rw [addrs_single]; exact nodup_segAddrs _), fsel, p2⟩

end Fbr.Xport
