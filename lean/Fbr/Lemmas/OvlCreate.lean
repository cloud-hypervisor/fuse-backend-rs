/-
  do_mkdir / do_mknod / do_create / do_symlink keep the forest a valid cache of the disk; as whole
  operations: after a success the union shows the new entry at the target and nothing below it
  (`Leaves`), whatever the lower layers have there; success or failure, the union outside the
  subtree at the target is what it was, up to xattrs (of parent directories that had to be copied
  up).
-/
import Fbr.Lemmas.OvlSimRO
import Fbr.Lemmas.OvlCopyUp

namespace Fbr.Ovl

theorem Layer.set_set (L : Layer) (q : Path) (a b : Node) : (L.set q a).set q b = L.set q b := by
  funext p
  simp only [Layer.set]
  split <;> rfl

/-- the statements of `doCreateLike` after `copy_node_up(parent)`, with an arbitrary way of making the
    entry (`do_link`: `link` instead of `mknod`) -/
def createTailG (pp : Path) (n : Name) (isMkdir : Bool) (old : Option MNode) (mk : Real → M Real) : M Unit := do
  let pr ← getUpperReal pp
  whenM (oldInUpper old) (tryDeleteWhiteout pr n)
  let ri ← mk pr
  installChild pp n isMkdir old pr ri

/-- `mk`, called on a real inode of a layer that satisfies `C`, is the `mknodat`-style creation of the entry
    `X` named `n` (`do_link`: `link` to an upper file that shows as `X`) -/
def MkLike (mk : Real → M Real) (meth : Method) (n : Name) (X : Node) (C : Layer → Prop) : Prop :=
  ∀ (r : Real) (s1 : St) (L1 : Layer), s1.disk.layer r.layer = some L1 → C L1 → mk r s1 = r.mkNode meth n X s1

structure NewEntry (isMkdir : Bool) (X : Node) : Prop where
  present : X.isAbsent = false
  notWh : X.isWhiteout = false
  dirCase : isMkdir = true → ∃ mode, X = .dir mode 0 0
  fileCase : isMkdir = false → X.isDir = false

/-- a whiteout node has a first real inode, which is a whiteout: no directory -/
theorem whiteoutNode_no_kids {s : St} (hc : Consistent s) {q : Path} {o : MNode} (hom : s.mem q = some o)
    (how : o.whiteout = true) : o.kids = [] ∧ ∀ c, s.mem (c :: q) = none := by
  cases hr : o.reals with
  | nil => have := hc.wh _ o hom; rw [how, hr] at this; cases this
  | cons r rest =>
    exact nondir_no_kids hc hom hr (Node.not_dir_of_whiteout (by rw [← whiteout_eq_stat hc hom hr]; exact how))

theorem upper_whiteout_entry {s : St} (hc : Consistent s) {L : Layer} (hup : s.disk.upper = some L)
    {q : Path} {cm : MNode} (hcm : s.mem q = some cm) (hu : cm.inUpper = true) (hw : cm.whiteout = true) :
    L q = .whiteout := by
  obtain ⟨r0, _, _, _, _, _, rest0, hr0⟩ := upper_head hc hcm hu
  have := whiteout_eq_stat hc hcm hr0
  rw [hw, statReal_upper hc hup hcm hu hr0] at this
  exact Node.eq_whiteout this.symm

theorem whiteoutNode_upper {s : St} (hc : Consistent s) {L : Layer} (hup : s.disk.upper = some L)
    {n : Name} {pp : Path} {pm o : MNode} (hpm : s.mem pp = some pm) (hpu : pm.inUpper = true)
    (hom : s.mem (n :: pp) = some o) (how : o.whiteout = true) :
    (o.inUpper = true → L (n :: pp) = .whiteout) ∧ (o.inUpper = false → (L (n :: pp)).isAbsent = true) ∧
      (L (n :: pp)).isDir = false := by
  have hw : o.inUpper = true → L (n :: pp) = .whiteout := fun hou => upper_whiteout_entry hc hup hom hou how
  have ha : o.inUpper = false → (L (n :: pp)).isAbsent = true :=
    fun hou => (lowerNode_upper hc hup n pp hpm hom hpu hou).2.1
  refine ⟨hw, ha, ?_⟩
  cases hou : o.inUpper with
  | true => rw [hw hou]; rfl
  | false => exact Node.not_dir_of_absent (ha hou)

theorem createTailG_cons {s : St} (hc : Consistent s) (pp : Path) (n : Name) (isMkdir : Bool)
    (old : Option MNode) (mk : Real → M Real) (meth : Method) (X : Node) (hX : NewEntry isMkdir X)
    {C : Layer → Prop} (hmk : MkLike mk meth n X C)
    (hC : ∀ L, s.disk.upper = some L → C L ∧ C (L.set (n :: pp) .absent))
    {pm : MNode} (hpm : s.mem pp = some pm) (hpu : pm.inUpper = true) (hlo : pm.loaded = true)
    (hold : match old with
      | none => n ∉ pm.kids
      | some o => s.mem (n :: pp) = some o ∧ o.whiteout = true) :
    Outcome (createTailG pp n isMkdir old mk s)
      (fun _ s' => Consistent s' ∧
        (isMkdir = true → old.isSome = true → (s'.disk.nodeAt 0 (n :: pp)).isOpaqueDir = true) ∧
        Leaves X.view (n :: pp) s'.disk ∧
        ∀ q, (n :: pp).isSuffixOf q = false → merge s'.disk q = merge s.disk q)
      (fun s' => Consistent s' ∧ ViewX s s') := by
  obtain ⟨pr, hpr, hprl, hprp, hpru, _⟩ := upper_head hc hpm hpu
  obtain ⟨L, hup⟩ := exists_upper hc hpm hpu
  have hL0 : s.disk.layer pr.layer = some L := by rw [hprl]; exact hup
  have hri := childReal_eq hprl hprp n
  obtain ⟨hCL, hCL'⟩ := hC L hup
  -- Every successful run ends the same way: the upper layer has got the entry `X'` at the path, which hides what
  -- is below it, and in the forest the subtree there is the childless node `mF` whose only real inode is that
  -- entry's.
  have fin : ∀ (sF : St) (X' : Node) (mF : MNode) (kids' : List Name),
      sF.disk = s.disk.setLayer 0 (L.set (n :: pp) X') → sF.mem = graftedMem s.mem n pp pm kids' (some mF) →
      mF.reals = [childReal pr n] → mF.kids = [] → mF.whiteout = false → (mF.loaded = true → X'.isDir = false) →
      (∀ x, x ∈ kids' ↔ x ∈ pm.kids ∨ x = n) → X'.isWhiteout = false → X'.isAbsent = false →
      HidesLower s.disk n pp X' → X'.view = X.view → (L pp).isDir = true →
      (∀ c, (L (c :: n :: pp)).isAbsent = true) → (isMkdir = true → old.isSome = true → X'.isOpaqueDir = true) →
      Consistent sF ∧ (isMkdir = true → old.isSome = true → (sF.disk.nodeAt 0 (n :: pp)).isOpaqueDir = true) ∧
        Leaves X.view (n :: pp) sF.disk ∧
        ∀ q, (n :: pp).isSuffixOf q = false → merge sF.disk q = merge s.disk q := by
    intro sF X' mF kids' hdF hmF hrF hkF hwF hlF hkids hXw hXa hcut hv hpd hleaf hopq
    obtain ⟨hcf, hlv, hfr⟩ := entry_put hc hup n pp X' hpm hpu hlo hpd (fun _ _ => rfl) (hc.trees 0 L hup)
      hleaf hXa hcut hprl hprp (by rw [hrF, hXw]; rfl) hkF (hwF.trans hXw.symm) hlF hkids hdF hmF
    exact ⟨hcf, fun h1 h2 => by rw [hdF, nodeAt_setLayer0, if_pos rfl, L.set_self]; exact hopq h1 h2, hv ▸ hlv, hfr⟩
  unfold createTailG
  rw [bind_ok (getUpperReal_ok hpm hpr)]
  cases old with
  | none =>
    simp only [oldInUpper, whenM_false]
    rw [bind_ok (pure_eval () s)]
    cases hmkL : hMk L pr.path n X with
    | error e =>
      obtain ⟨s1, he, hd1, hm1⟩ := mkNode_err' meth n X hpru hL0 hmkL
      rw [bind_err ((hmk pr s L hL0 hCL).trans he)]
      exact ⟨hc.congr hd1 hm1, ViewX.of_disk hd1⟩
    | ok L' =>
      obtain ⟨s1, hok, hd1, hm1⟩ := mkNode_ok' meth n X hpru hL0 hmkL
      rw [bind_ok ((hmk pr s L hL0 hCL).trans hok)]
      rw [hprp] at hmkL
      obtain ⟨hpd, hpa, hL'⟩ := of_hMk_ok hmkL
      simp only [installChild]
      obtain ⟨s2, hins2, hd2, hm2⟩ := insertChild_ok' (s := s1) n (newNode (childReal pr n)) (by rw [hm1]; exact hpm)
      rw [hins2]
      refine fin s2 X _ _ (by rw [hd2, hd1, hprl, hL']) (by rw [hm2, hm1, insertedMem_eq]) rfl rfl rfl
        (fun h => by cases h) (fun _ => mem_addNames) hX.notWh hX.present ?_ rfl hpd
        (leaf_of_nondir (hc.trees 0 L hup) (Node.not_dir_of_absent hpa)) fun _ h => by cases h
      cases isMkdir with
      | true =>
        exact hidesLower_of_none hc n pp X (by rw [nodeAt_zero hup]; exact hpa) (specStat_unlisted hc hpm hlo hold)
      | false => left; rw [hX.fileCase rfl]; rfl
  | some o =>
    obtain ⟨hom, how⟩ := hold
    have hpd := parent_isDir_of_kid hc hup hpm hpu hom
    obtain ⟨hLw, hLa, hnd⟩ := whiteoutNode_upper hc hup hpm hpu hom how
    have hleaf : ∀ c, (L (c :: n :: pp)).isAbsent = true := leaf_of_nondir (hc.trees 0 L hup) hnd
    -- after the (possible) deletion of the upper whiteout the upper layer has nothing at the path
    have step1 : ∃ s1 L1, (whenM (oldInUpper (some o)) (tryDeleteWhiteout pr n)) s = .ok () s1 ∧
        s1.disk = s.disk.setLayer 0 L1 ∧ s1.mem = s.mem ∧ (L1 (n :: pp)).isAbsent = true ∧
        (∀ X', L1.set (n :: pp) X' = L.set (n :: pp) X') ∧ (L1 pp).isDir = true ∧ C L1 := by
      cases hou : o.inUpper with
      | true =>
        obtain ⟨s1, h1, hd1, hm1⟩ := tryDeleteWhiteout_ok' n hL0 (by rw [hprp]; exact hDeleteWhiteout_ok (hLw hou))
        refine ⟨s1, L.set (n :: pp) .absent, ?_, by rw [hd1, hprl], hm1, by rw [L.set_self]; rfl,
          fun X' => Layer.set_set _ _ _ _, by rw [L.set_ne _ (List.cons_ne_self n pp).symm]; exact hpd, hCL'⟩
        simp only [oldInUpper, hou, whenM_true]; exact h1
      | false =>
        refine ⟨s, L, ?_, setLayer0_self hup, rfl, hLa hou, fun _ => rfl, hpd, hCL⟩
        simp only [oldInUpper, hou, whenM_false]; rfl
    obtain ⟨s1, L1, hs1, hd1, hm1, hL1a, hL1set, hL1p, hCL1⟩ := step1
    rw [bind_ok hs1]
    -- so mknod / mkdir / link succeeds
    have hL10 : s1.disk.layer pr.layer = some L1 := by rw [hprl, hd1]; rfl
    obtain ⟨s2, hok, hd2, hm2⟩ := mkNode_ok' meth n X hpru hL10 (by rw [hprp]; exact hMk_ok X hL1p hL1a)
    rw [bind_ok ((hmk pr s1 L1 hL10 hCL1).trans hok)]
    have hdisk2 : s2.disk = s1.disk.setLayer 0 (L1.set (n :: pp) X) := by rw [hd2, hprl]
    have hmem2 : s2.mem = s.mem := by rw [hm2, hm1]
    simp only [installChild]
    cases isMkdir with
    | true =>
      -- set_opaque, then a fresh node
      obtain ⟨mode, hXd⟩ := hX.dirCase rfl
      rw [if_pos rfl]
      rw [show (childReal pr n).path = n :: pp by rw [hri]]
      obtain ⟨s3, h3, hd3, hm3⟩ := layerCall_ok' (s := s2) (i := pr.layer) (f := fun L => hSetOpaque L (n :: pp))
        Method.setOpaque (L' := (L1.set (n :: pp) X).set (n :: pp) (.dir mode 1 0)) (by rw [hprl, hdisk2]; rfl)
        (by simp [hSetOpaque, Layer.set, hXd])
      rw [bind_ok h3]
      obtain ⟨s4, hins4, hd4, hm4⟩ := insertChild_ok' (s := s3) n (newNode (childReal pr n))
        (by rw [hm3, hmem2]; exact hpm)
      rw [hins4]
      exact fin s4 (.dir mode 1 0) _ _ (by rw [hd4, hd3, hdisk2, hd1, hprl, Layer.set_set, hL1set (.dir mode 1 0)]; rfl)
        (by rw [hm4, hm3, hmem2, insertedMem_eq]) rfl rfl rfl (fun h => by cases h) (fun _ => mem_addNames) rfl rfl
        (Or.inl rfl) (by rw [hXd]; rfl) hpd hleaf fun _ _ => rfl
    | false =>
      -- the whiteout node gets the new real inode in place of its own
      rw [if_neg Bool.false_ne_true]
      obtain ⟨s3, hadd, hd3, hm3⟩ := addUpperInode_ok' (s := s2) (childReal pr n) true (by rw [hmem2]; exact hom)
      rw [hadd]
      have hnk := whiteoutNode_no_kids hc hom how
      exact fin s3 X (addUpperNode o (childReal pr n) true) pm.kids (by rw [hd3, hdisk2, hd1, hL1set X]; rfl)
        (by rw [hm3, hmem2]; exact set_eq_grafted hc hpm hnk.2 _) rfl hnk.1 rfl (fun _ => hX.fileCase rfl)
        (fun x => by by_cases hx : x = n <;> simp [hx, hc.listed hpm hom]) hX.notWh hX.present
        (Or.inl (by rw [hX.fileCase rfl]; rfl)) rfl hpd hleaf fun h => by cases h

/-- `lookup_node(parent, name)` in a loaded parent that is not a whiteout node changes nothing: it answers
    the node of a name the parent lists, ENOENT otherwise -/
theorem lookupNode_loaded {s : St} (hc : Consistent s) {pp : Path} {pm : MNode} (hpm : s.mem pp = some pm)
    (hw : pm.whiteout = false) (hlo : pm.loaded = true) (n : Name) :
    (∃ o, s.mem (n :: pp) = some o ∧ lookupNode pp n s = .ok o s) ∨
      (n ∉ pm.kids ∧ lookupNode pp n s = .err ENOENT s) := by
  have hst := nodeStat_eq hc hpm
  have hls : lookupSelf pp s = match pm.reals with | [] => .err ENOENT s | _ :: _ => .ok pm s := by
    unfold lookupSelf
    rw [bind_ok (getNode_ok hpm)]
    simp only [hw, Bool.false_eq_true, if_false]
    cases hr : pm.reals with
    | nil => rw [hr] at hst; rw [bind_err hst]
    | cons r rest =>
      rw [hr] at hst
      rw [bind_ok hst]
      simp only [hlo, Bool.not_true, Bool.and_false, whenM_false]
      rw [bind_ok (pure_eval () s), getNode_ok hpm]
  unfold lookupNode
  cases hr : pm.reals with
  | nil =>
    rw [hr] at hls
    rw [bind_err hls]
    exact Or.inr ⟨by rw [(no_entries_no_kids hc hpm (by rw [hr]; rfl)).1]; simp, rfl⟩
  | cons r rest =>
    rw [hr] at hls
    rw [bind_ok hls]
    by_cases hn : n ∈ pm.kids
    · obtain ⟨o, ho⟩ := hc.kidsMem pp pm n hpm hn
      exact Or.inl ⟨o, ho, by simp [hn, getNode_ok ho]⟩
    · exact Or.inr ⟨hn, by simp [hn, fail]⟩

/-- `lookup_node_ignore_enoent(parent, name)` and the check "Node with same name exists, let's check if it's
    whiteout" there: nothing changes, and the run goes on only when the name has no node or a whiteout node
    (EEXIST otherwise) -/
theorem Outcome.lookupOld {β : Type} {s : St} (hc : Consistent s) {pp : Path} {pm : MNode} (hpm : s.mem pp = some pm)
    (hw : pm.whiteout = false) (hlo : pm.loaded = true) (n : Name) {k : Option MNode → M β} {Q : β → St → Prop}
    {E : St → Prop} (hE : E s)
    (hk : ∀ old, (match old with
      | none => n ∉ pm.kids
      | some o => s.mem (n :: pp) = some o ∧ o.whiteout = true) → Outcome (k old s) Q E) :
    Outcome ((catchEnoent (lookupNode pp n) >>= fun old => checkOld old >>= fun _ => k old) s) Q E := by
  rcases lookupNode_loaded hc hpm hw hlo n with ⟨o, ho, h⟩ | ⟨hn, h⟩
  · rw [bind_ok (show catchEnoent (lookupNode pp n) s = .ok (some o) s by simp [catchEnoent, h])]
    by_cases how : o.whiteout = true
    · rw [bind_ok (show checkOld (some o) s = .ok () s by simp [checkOld, how, pure_eval])]
      exact hk (some o) ⟨ho, how⟩
    · rw [bind_err (show checkOld (some o) s = .err EEXIST s by simp [checkOld, how, fail])]
      exact hE
  · rw [bind_ok (show catchEnoent (lookupNode pp n) s = .ok none s by simp [catchEnoent, h]),
      bind_ok (show checkOld none s = .ok () s from rfl)]
    exact hk none hn

/-- `do_mkdir` / `do_mknod` / `do_create` / `do_symlink`: the cache stays valid, and a directory made
    where the forest had a (whiteout) node is opaque in the upper layer afterwards -/
theorem doCreateLike_spec (pp : Path) (n : Name) (isMkdir : Bool) (meth : Method) (X : Node)
    (hX : NewEntry isMkdir X) (s : St) (hc : Consistent s) {pm : MNode} (hpm : s.mem pp = some pm)
    (hlo : pm.loaded = true) :
    Outcome (doCreateLike pp n isMkdir (mkChildOf meth n X) s)
      (fun _ s' => Consistent s' ∧
        (isMkdir = true → (∃ o, s.mem (n :: pp) = some o) → (s'.disk.nodeAt 0 (n :: pp)).isOpaqueDir = true) ∧
        Leaves X.view (n :: pp) s'.disk ∧ (DirNode pp s → FrameX (n :: pp) s s'))
      (fun s' => Consistent s' ∧ (DirNode pp s → ViewX s s')) := by
  unfold doCreateLike
  have hE : Consistent s ∧ (DirNode pp s → ViewX s s) := ⟨hc, fun _ => ViewX.refl s⟩
  rw [bind_ok (hasUpper_eval s)]
  refine Outcome.guard hE fun _ => ?_
  rw [bind_ok (getNode_ok hpm)]
  refine Outcome.guard hE fun hw => ?_
  simp only [Bool.not_eq_true] at hw
  refine Outcome.lookupOld hc hpm hw hlo n hE fun old hold => ?_
  refine ((copyNodeUp_spec pp s hc).imp (fun _ _ h => h) fun _ h => ⟨h.1, fun _ => h.2⟩).bind fun _ s2 hcp => ?_
  obtain ⟨pm2, hpm2, hpu2⟩ := hcp.up
  obtain ⟨pm2', hpm2', hlo2, hk2⟩ := hcp.keep pp pm hpm
  rw [hpm2] at hpm2'; cases hpm2'
  have hq2 : s2.mem (n :: pp) = s.mem (n :: pp) := hcp.frame _ (by simp [not_below_parent])
  refine (createTailG_cons hcp.cons pp n isMkdir old _ meth X hX (C := fun _ => True) (fun _ _ _ _ _ => rfl)
    (fun _ _ => ⟨trivial, trivial⟩) hpm2 hpu2 (by rw [hlo2]; exact hlo) ?_).imp (fun _ s3 hct => ?_)
    fun _ hct => ⟨hct.1, fun hdn => (hcp.view hdn).trans hct.2⟩
  · cases old with
    | none => simpa [hk2] using hold
    | some o => exact ⟨by rw [hq2]; exact hold.1, hold.2⟩
  · refine ⟨hct.1, fun hmk ⟨o, ho⟩ => hct.2.1 hmk ?_, hct.2.2.1,
      fun hdn => FrameX.after (hcp.view hdn) fun q hq => by rw [hct.2.2.2 q hq]⟩
    cases old with
    | some o' => rfl
    | none =>
      -- a node exists, so the parent lists the name
      exact absurd (hc.listed hpm ho) hold

theorem freshId_keeps {P : St → Prop} (hP : ∀ s, P s → P { s with nextId := s.nextId + 1 }) {E : St → Prop} :
    Triple P freshId (fun _ => P) E := by
  intro s hs
  refine ⟨fun a s' h => ?_, fun e s' h => ?_⟩ <;> cases h
  exact hP s hs

/-- the four creating operations differ in the entry `X` they make (`withId`: with a fresh inode id
    drawn first) -/
theorem createOp_spec (d : Disk) (p : List Name) (isMkdir : Bool) (meth : Method) (X : Nat → Node)
    (hX : ∀ id, NewEntry isMkdir (X id)) (v : VNode) (hv : ∀ id, (X id).view = v) (withId : Bool) :
    Triple (CD d) (createOp p isMkdir meth X withId)
      (fun _ s => Consistent s ∧ Leaves v p.reverse s.disk ∧ FrameD d s.disk p.reverse)
      (fun s => Consistent s ∧ FrameD d s.disk p.reverse) := by
  have hE : ∀ s, CD d s → Consistent s ∧ FrameD d s.disk p.reverse :=
    fun s h => ⟨h.1, by rw [h.2]; exact FrameD.refl d _⟩
  unfold createOp
  refine Triple.bind ((resolveParent_cd d p).onErr hE) fun r => Triple.pure_pre fun hr => ?_
  obtain ⟨pp, n⟩ := r
  obtain ⟨hpath, hdir⟩ := hr
  simp only at hpath hdir
  obtain ⟨st, hsp, hdir⟩ := hdir
  refine Triple.bind ((lookupSelf_shows_of_spec d hsp).onErr hE) fun pm => ?_
  refine Triple.bind (Q := fun _ s => CD d s ∧ Shows pp st pm s) ?_ fun id => ?_
  · cases withId with
    | true => exact freshId_keeps fun s h => ⟨⟨h.1.1.congr rfl rfl, h.1.2⟩, h.2⟩
    | false => exact Triple.pure' fun _ h => h
  rw [← hpath]
  refine Triple.bind (Q := fun _ s => Consistent s ∧ Leaves v (n :: pp) s.disk ∧ FrameD d s.disk (n :: pp)) ?_ fun _ => ?_
  · apply Triple.ofOutcome
    intro s ⟨⟨hc, hd⟩, hsh⟩
    subst hd
    exact (doCreateLike_spec pp n isMkdir meth (X id) (hX id) s hc hsh.1 (hsh.2.2.1 hdir)).imp
      (fun _ _ h => ⟨h.1, hv id ▸ h.2.2.1, h.2.2.2 (hsh.dirNode hdir)⟩)
      fun _ h => ⟨h.1, (h.2 (hsh.dirNode hdir)).frame _⟩
  · exact thenLookup (fun d' => Leaves v (n :: pp) d' ∧ FrameD d d' (n :: pp)) pp n fun _ h => ⟨h.1, h.2.2⟩

theorem newEntry_nondir {X : Node} (ha : X.isAbsent = false) (hw : X.isWhiteout = false) (hd : X.isDir = false) :
    NewEntry false X :=
  ⟨ha, hw, fun h => (by cases h), fun _ => hd⟩

theorem newEntry_dir (mode : Nat) : NewEntry true (.dir mode 0 0) :=
  ⟨rfl, rfl, fun _ => ⟨mode, rfl⟩, fun h => (by cases h)⟩

end Fbr.Ovl
