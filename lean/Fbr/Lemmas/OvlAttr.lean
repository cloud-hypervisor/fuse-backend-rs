/-
  What the attribute-changing operations (chmod, truncate, open for writing, write, setxattr,
  removexattr) leave at the target path: the node is copied up if need be (type, mode, content,
  target preserved; `user.x` dropped — known finding) and then changed as the host call changes
  an ordinary file — attribute-changing calls on the upper entry of a node that is in the upper
  layer (`upperCall_eff`), whose changes compose (`Applied`); as whole operations, what the union shows there
  afterwards (`ViewChanged`, `runOp_attr_view`).
  For the `*_refines_plain_fs` theorems of these six.
-/
import Fbr.Lemmas.OvlCreate

namespace Fbr.Ovl

def UpNode (p : Path) (N : Node) (s : St) : Prop :=
  Consistent s ∧ UpAt p s ∧ s.disk.nodeAt 0 p = N

theorem specStat_of_upNode {p : Path} {N : Node} {s : St} (h : UpNode p N s) (hw : N.isWhiteout = false) :
    specStat s.disk p = some N := by
  obtain ⟨hc, ⟨m, hm, hmu⟩, hN⟩ := h
  obtain ⟨r, _, hl, hp, _, hwr, rest, hr⟩ := upper_head hc hm hmu
  rw [specStat_of_mem hc hm, hr]
  rw [hN, hw] at hwr
  rw [headStat_visible hwr, Disk.statReal, hl, hp, hN]

/-- one attribute-changing call on layer 0: the upper entry at `p` changes by `g` and stays a whiteout or none, the cache
    stays valid because no entry changes its kind -/
theorem upperCall_eff (p : Path) (N : Node) (meth : Method) {f : Layer → Except Nat Layer} {g : Node → Node}
    (hf : AttrCall f p g) :
    Triple (UpNode p N) (layerCall 0 meth f) (fun _ s => UpNode p (g N) s ∧ (g N).isWhiteout = N.isWhiteout) Consistent := by
  apply Triple.ofOutcome
  intro s ⟨hc, ⟨m, hm, hmu⟩, hN⟩
  obtain ⟨L, hup⟩ := exists_upper hc hm hmu
  cases hfL : f L with
  | error e =>
    rw [layerCall_err meth (show s.disk.layer 0 = some L from hup) hfL]
    exact hc.congr rfl rfl
  | ok L' =>
    rw [layerCall_ok meth (show s.disk.layer 0 = some L from hup) hfL]
    obtain ⟨hsh, hp⟩ := hf L L' hfL
    have hLp : L p = N := by rw [← hN, nodeAt_zero hup]
    refine ⟨⟨consistent_sameShape hc hup hsh _, ⟨m, hm, hmu⟩, ?_⟩, by rw [← hLp, ← hp]; exact (hsh p).2.1⟩
    show (s.disk.setLayer 0 L').nodeAt 0 p = g N
    rw [nodeAt_setLayer0, if_pos rfl, hp, hLp]

theorem firstReal_upNode (p : Path) (N : Node) :
    Triple (UpNode p N) (firstReal p) (fun r s => (r.layer = 0 ∧ r.path = p) ∧ UpNode p N s) Consistent := by
  apply Triple.ofOutcome
  intro s ⟨hc, ⟨m, hm, hmu⟩, hN⟩
  obtain ⟨r, _, hl, hp, _, _, rest, hr⟩ := upper_head hc hm hmu
  unfold firstReal
  rw [bind_ok (getNode_ok hm)]
  simp only [hr]
  exact ⟨⟨hl, hp⟩, hc, ⟨m, hm, hmu⟩, hN⟩

theorem not_whiteout_of_view {N st : Node} (h : N.view.dropX = st.view.dropX) (hw : st.isWhiteout = false)
    (ha : st.isAbsent = false) : N.isWhiteout = false := by
  cases N <;> cases st <;> simp_all [Node.view, VNode.dropX, Node.isWhiteout, Node.isAbsent]

/-- the visible node `st` at `p` is brought into the upper layer (if it is not there yet): the upper
    entry shows the same type, mode, content, target; only the xattr may be gone -/
def Copied (p : Path) (st : Node) (s : St) : Prop :=
  ∃ N, UpNode p N s ∧ N.view.dropX = st.view.dropX ∧ N.isWhiteout = false

theorem copyNodeUp_eff (p : Path) (m : MNode) (st : Node) :
    Triple (fun s => Consistent s ∧ Shows p st m s)
      (copyNodeUp p) (fun _ s => Copied p st s) Consistent := by
  apply Triple.ofOutcome
  intro s ⟨hc, hm, hw, _, r, rest, hr, hst⟩
  refine (copyNodeUp_spec p s hc).imp (fun _ s' h => ?_) fun _ h => h.1
  have himg := h.anc p (below_self p) m r rest hm hr hw
  rw [hst] at himg
  exact ⟨_, ⟨h.cons, h.up, rfl⟩, himg, not_whiteout_of_view himg
    (by rw [← hst, ← whiteout_eq_stat hc hm hr]; exact hw) (hst ▸ head_present hc hm hr)⟩

/-- the result of an attribute change at `p`: the old node `st`, copied up, changed by `g` -/
def Changed (p : Path) (st : Node) (g : Node → Node) (s : St) : Prop :=
  Consistent s ∧ ∃ N, N.view.dropX = st.view.dropX ∧ specStat s.disk p = some (g N)

/-- the upper entry of the node at `p`, which `r` is the real inode of, shows `h` of a copy of the node `st` -/
def Applied (p : Path) (st : Node) (h : Node → Node) (r : Real) (s : St) : Prop :=
  (r.layer = 0 ∧ r.path = p) ∧ ∃ N, UpNode p (h N) s ∧ N.view.dropX = st.view.dropX ∧ (h N).isWhiteout = false

theorem Applied.changed {p : Path} {st : Node} {g : Node → Node} {r : Real} {s : St} (h : Applied p st g r s) :
    Changed p st g s := by
  obtain ⟨_, N, hN, hv, hw⟩ := h
  exact ⟨hN.1, N, hv, specStat_of_upNode hN hw⟩

def chmodV (mode : Nat) : VNode → VNode
  | .file _ c x => .file mode c x
  | .dir _ x => .dir mode x
  | .other _ => .other mode
  | v => v

def truncV (k : Nat) : VNode → VNode
  | .file m c x => .file m (resize c k) x
  | v => v

def openV (trunc : Bool) : VNode → VNode
  | .file m c x => .file m (if trunc then [] else c) x
  | v => v

def writeV (trunc append : Bool) (off : Nat) (data : List Nat) : VNode → VNode
  | .file m c x =>
    .file m (pwrite (if trunc then [] else c) (if append then (if trunc then [] else c).length else off) data) x
  | v => v

def setxV (v : Nat) : VNode → VNode
  | .file m c _ => .file m c v
  | .dir m _ => .dir m v
  | w => w

theorem chmodN_view (mode : Nat) (N : Node) : (chmodN mode N).view = chmodV mode N.view := by cases N <;> rfl
theorem truncN_view (k : Nat) (N : Node) : (truncN k N).view = truncV k N.view := by cases N <;> rfl
theorem openN_view (t : Bool) (N : Node) : (openN t N).view = openV t N.view := by cases N <;> rfl
theorem writeAtN_openN_view (t a : Bool) (off : Nat) (data : List Nat) (N : Node) :
    (writeAtN a off data (openN t N)).view = writeV t a off data N.view := by cases N <;> rfl
theorem setxN_view (v : Nat) (N : Node) : (setxN v N).view = setxV v N.view := by cases N <;> rfl

theorem setxV_of_dropX {w w' : VNode} (v : Nat) (h : w.dropX = w'.dropX) : setxV v w = setxV v w' := by
  cases w <;> cases w' <;> simp_all [VNode.dropX, setxV]

/-- at `q` the union of `d'` shows `gv` of what the union of `d` showed — up to the `user.x` xattr
    of the old entry, which copy-up does not carry over (known finding `C10:copy-up:xattr-lost`) -/
def ViewChanged (d d' : Disk) (q : Path) (gv : VNode → VNode) : Prop :=
  ∃ w, w.dropX = (merge d q).dropX ∧ merge d' q = gv w

theorem attrKeeps_eff (d : Disk) :
    AttrKeeps (At d) (fun p st m s => Consistent s ∧ Shows p st m s) Copied Applied Consistent where
  look p st := Triple.pure_pre fun hsp => (lookupSelf_shows_of_spec d hsp).conseq (fun _ h => h.1) (fun _ _ h => ⟨h.1.1, h.2⟩) fun _ h => h.1
  copy p st m := copyNodeUp_eff p m st
  first p st s := fun ⟨N, hN, hv, hw⟩ => ((firstReal_upNode p N).post fun _ _ h => ⟨h.1, N, h.2, hv, hw⟩) s hN
  call p st h r meth f g hf s := fun ⟨⟨hl, hp⟩, N, hN, hv, hw⟩ => by
    rw [hl, hp]
    exact ((upperCall_eff p (h N) meth hf).post fun _ _ h' => ⟨⟨hl, hp⟩, N, h'.1, hv, h'.2.trans hw⟩) s hN

theorem runOp_attr_eff (d : Disk) (op : Op) {p : List Name} {g : Node → Node} (hop : op.attrChange = some (p, g)) :
    Triple (CD d) (runOp op)
      (fun _ s' => ∃ st, specStat d p.reverse = some st ∧ Changed p.reverse st g s') Consistent := by
  obtain ⟨k, hk, hdo⟩ := runOp_attr_walk (attrKeeps_eff d) (fun _ _ _ h => h.2.1.1) (fun _ _ _ _ h => ⟨h.2.1, h.1⟩) hop
  rw [hk]
  refine Triple.bind ((resolve_spec d p).onErr (fun _ h => h.1.1)) fun ⟨path, st⟩ s ⟨hpath, hat⟩ => ?_
  cases (hpath : path = p.reverse)
  exact ((hdo _ st).post fun _ _ ⟨_, h⟩ => ⟨st, hat.1, h.changed⟩) s hat

/-- a successful attribute-changing operation, in terms of the union: at its path the union shows `gv` of
    what it showed (`gv` = the change `g` on visible nodes), and the cache is valid -/
theorem runOp_attr_view {s : St} (hc : Consistent s) {op : Op} {p : List Name} {g : Node → Node}
    (hop : op.attrChange = some (p, g)) {gv : VNode → VNode} (hgv : ∀ N, (g N).view = gv N.view) {r : Reply} {s' : St}
    (h : runOp op s = .ok r s') : Consistent s' ∧ ViewChanged s.disk s'.disk p.reverse gv := by
  obtain ⟨st, hsp, hc', N, hv, hsp'⟩ := (runOp_attr_eff s.disk op hop s ⟨hc, rfl⟩).1 r s' h
  refine ⟨hc', N.view, ?_, ?_⟩
  · rw [merge_eq_specStat s.disk hc.roots, hsp]; exact hv
  · rw [merge_eq_specStat s'.disk hc'.roots, hsp']; exact hgv N

end Fbr.Ovl
