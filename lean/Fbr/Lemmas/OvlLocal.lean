/-
  Local form of the cache invariant: every node's real inodes are what scanning its PARENT's
  real inodes gives on the present disk (`localExp`); equivalent to the global `Consistent`
  (Fbr.Lemmas.OvlSim), which is the form the operations re-establish; nothing else rests on this file.
-/
import Fbr.Lemmas.OvlSim

namespace Fbr.Ovl

/-- the real inodes `scan_childrens` of the node `pm` computes for the child `n` -/
def localExp (d : Disk) (pm : MNode) (n : Name) : List Real :=
  match newFromReals d ((takeDirs d pm.reals).filterMap (lookupChild d · n)) with
  | some k => k.reals
  | none => []

theorem localExp_of_takeDirs_nil {d : Disk} {pm : MNode} (h : takeDirs d pm.reals = []) (n : Name) :
    localExp d pm n = [] := by
  simp [localExp, h, newFromReals]

/-- `RealsOK` with the expected real inodes as an argument, so that the local invariant can take
    them from the parent node (`localExp`) instead of from the disk's path (`expReals`) -/
def RealsLike (rs es : List Real) : Prop := rs = es ∨ ∃ e, es = [e] ∧ e.inUpper = true ∧ rs = [staleOf e]

theorem realsOK_iff_like {d : Disk} {p : Path} {rs : List Real} : RealsOK d p rs ↔ RealsLike rs (expReals d p) :=
  Iff.rfl

/-- `Consistent` said the way `scan_childrens` works: the real inodes of a node are those that scanning the
    real inodes its parent node holds gives (`localExp`), instead of those the disk dictates for its path
    (`expReals`).  The two say the same (`LConsistent.toConsistent`, `Consistent.toLocal`): under
    `Consistent` the parent's real inodes are the dictated ones, so scanning them is one step of the
    recursion that defines `expReals` (`localExp_eq_exp`). -/
structure LConsistent (s : St) : Prop where
  roots : s.disk.RootsOK
  trees : s.disk.TreesOK
  root : ∃ m, s.mem [] = some m ∧ RealsLike m.reals (s.disk.indices.map (rootReal s.disk))
  child : ∀ pp pm n c, s.mem pp = some pm → s.mem (n :: pp) = some c →
    RealsLike c.reals (localExp s.disk pm n)
  wh : ∀ p m, s.mem p = some m → m.whiteout = headWhiteout m.reals
  kidsLoaded : ∀ p m, s.mem p = some m → m.loaded = true → ∀ n,
    (n ∈ m.kids → localExp s.disk m n ≠ []) ∧ (needsNode (localExp s.disk m n) = true → n ∈ m.kids)
  kidsMem : ∀ p m n, s.mem p = some m → n ∈ m.kids → ∃ c, s.mem (n :: p) = some c
  unloaded : ∀ p m, s.mem p = some m → m.loaded = false → m.kids = []
  reach : ∀ n p c, s.mem (n :: p) = some c → ∃ pm, s.mem p = some pm ∧ n ∈ pm.kids

theorem localExp_eq_exp {d : Disk} {pp : Path} {pm : MNode} (h : RealsOK d pp pm.reals) (n : Name) :
    localExp d pm n = expReals d (n :: pp) :=
  (expReals_child h n).symm

/-- local ⇒ global: by induction along the path -/
theorem LConsistent.reals {s : St} (h : LConsistent s) :
    ∀ p m, s.mem p = some m → RealsOK s.disk p m.reals
  | [], m, hm => by
    obtain ⟨m0, hm0, hr⟩ := h.root
    rw [hm] at hm0; cases hm0
    exact realsOK_iff_like.2 hr
  | n :: pp, c, hc => by
    obtain ⟨pm, hpm, _⟩ := h.reach n pp c hc
    have ih := LConsistent.reals h pp pm hpm
    have := h.child pp pm n c hpm hc
    rw [localExp_eq_exp ih] at this
    exact realsOK_iff_like.2 this

theorem LConsistent.toConsistent {s : St} (h : LConsistent s) : Consistent s := by
  refine ⟨h.roots, h.trees, ?_, h.reals, h.wh, ?_, h.kidsMem, h.unloaded, h.reach⟩
  · obtain ⟨m, hm, _⟩ := h.root; exact ⟨m, hm⟩
  · intro p m hm hl n
    have := h.kidsLoaded p m hm hl n
    rw [localExp_eq_exp (h.reals p m hm)] at this
    exact this

theorem Consistent.toLocal {s : St} (h : Consistent s) : LConsistent s := by
  refine ⟨h.roots, h.trees, ?_, ?_, h.wh, ?_, h.kidsMem, h.unloaded, h.reach⟩
  · obtain ⟨m, hm⟩ := h.root
    exact ⟨m, hm, realsOK_iff_like.1 (h.reals [] m hm)⟩
  · intro pp pm n c hpm hc
    rw [localExp_eq_exp (h.reals pp pm hpm)]
    exact realsOK_iff_like.1 (h.reals (n :: pp) c hc)
  · intro p m hm hl n
    rw [localExp_eq_exp (h.reals p m hm)]
    exact h.kidsLoaded p m hm hl n

end Fbr.Ovl
