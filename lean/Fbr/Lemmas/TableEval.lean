/-
  Kernel evaluation of facts about tables keyed by `String` (the generated tables of `Fbr.Gen`).

  What `decide +kernel` pays for in `l.lookup k`, `l.find? (·.1 == k)`, `k ∈ l` is `String.decEq` on literals:
  the kernel unfolds a literal to `String.ofList`, builds its `ByteArray` one `push` at a time (once per literal
  and declaration), and then compares through `List.decEq` on `UInt8`, byte by byte along the common prefix
  (`FUSE_…`), about n²/2 times for a table of n rows.  The `Decidable` instances around the comparison (`∀ p ∈ l`,
  `∧`, `=` on `Option Nat`) are not what costs.  Hence:
  * `key`: the byte list of a string, injective.  `List.beq` on the byte lists is the same test at half the price,
    so a statement is rewritten with `lookup_key` (for `List.lookup`) and `← key_beq` (for a visible `==`) and the
    rewritten statement is evaluated.
  * `coverB`: a lookup needs all comparisons before the first match, membership does not.  The sweeps
    `∀ c ∈ cs, c ∈ ps ∨ …` run over two tables written in the same order and are decided in one pass.
-/
namespace Fbr.TableEval

def key (s : String) : List UInt8 := s.toByteArray.data.toList

theorem key_inj {s t : String} : key s = key t ↔ s = t := by
  rw [key, key, Array.toList_inj, ← ByteArray.ext_iff, String.toByteArray_inj]

theorem key_beq (s t : String) : (key s == key t) = (s == t) := by
  rw [Bool.eq_iff_iff, beq_iff_eq, beq_iff_eq, key_inj]

theorem lookup_key (l : List (String × α)) (k : String) :
    l.lookup k = (l.map fun e => (key e.1, e.2)).lookup (key k) := by
  induction l with
  | nil => rfl
  | cons e r ih => rw [List.map_cons, List.lookup_cons, List.lookup_cons, key_beq, ih]

/-- One pass over `cs` with a finger into `ps`: an element equal to the one under the finger costs one comparison
    and moves the finger; any other is put to `q`.  With the full search in `q` (`coverB_iff`) the answer is that
    of `cs.all q`, in whatever order the two lists are written; the order decides only how often `q` runs. -/
def coverB [BEq α] (q : α → Bool) : List α → List α → Bool
  | [], _ => true
  | c :: cs, ps => if ps.head? == some c then coverB q cs ps.tail else q c && coverB q cs ps

theorem coverB_iff [BEq α] [LawfulBEq α] {q : α → Bool} :
    ∀ {cs ps : List α}, (∀ c ∈ ps, q c = true) → (coverB q cs ps = true ↔ ∀ c ∈ cs, q c = true)
  | [], _, _ => by simp [coverB]
  | c :: cs, ps, hq => by
    rw [coverB, List.forall_mem_cons]
    split
    · next hc =>
      rw [coverB_iff fun x hx => hq x (List.mem_of_mem_tail hx)]
      exact ⟨fun h => ⟨hq c (List.mem_of_head? (eq_of_beq hc)), h⟩, (·.2)⟩
    · rw [Bool.and_eq_true, coverB_iff hq]

/-- the keys of a table against a list of paired names and a list of excused names -/
theorem covered {ps w : List String} {t : List (String × β)}
    (h : coverB (fun c => (w.map key).contains c || (ps.map key).contains c) (t.map (key ·.1)) (ps.map key) = true) :
    ∀ c ∈ t, c.1 ∈ ps ∨ c.1 ∈ w := fun c hc => by
  have := (coverB_iff fun c hc => by simp [hc]).1 h (key c.1) (List.mem_map.2 ⟨c, hc, rfl⟩)
  simp only [Bool.or_eq_true, List.contains_iff_mem, List.mem_map, key_inj, exists_eq_right] at this
  exact this.symm

end Fbr.TableEval
