/-
  FuseDevWriter operations, shape and content.
  `FwS n f w f' w'`: only `len` of the writer moved (by `n`, staying within `cap` — the Vec never
  reallocates), region sizes are kept, memory changed at most inside `[base+len, base+len+n)`, every
  write access lies there, nothing was read.
  `FwC D f w f' w'` (buffered writers): in addition nothing reached the descriptor and the part of
  the buffer appended holds exactly `D`.
  Proved for `write`, `write_vectored`, `write_from(_at)` and `write_all_from` (a scripted source
  filling the one buffer of `count` bytes at `buf.ptr + len`), buffered and unbuffered (`fuseRun_fws`,
  `fuseRun_fwc`).
-/
import Fbr.Lemmas.XportFuse
import Fbr.Lemmas.XportCall
import Fbr.Lemmas.XportStep

namespace Fbr.Xport

/-- what one operation on ANY FuseDevWriter (buffered or not) does when it appends `n` bytes: all
    that `FInv` needs of a step.  (The field `len` says that the memory regions keep their
    lengths, as in `VInv`/`FInv`; the writer's own `len` moves by `eq`.) -/
structure FwS (n : Nat) (f : FuseW) (w : World) (f' : FuseW) (w' : World) : Prop where
  eq : f' = { f with len := f.len + n }
  fits : f.len + n ≤ f.cap
  len : ∀ x, (w'.mem.get x).length = (w.mem.get x).length
  frame : ∀ a : Addr, a ∉ segAddrs ⟨f.region, f.base + f.len, n⟩ → w'.mem.byteAt a = w.mem.byteAt a
  wr : ∀ a ∈ wrAddrs w'.log, a ∈ wrAddrs w.log ∨ a ∈ segAddrs ⟨f.region, f.base + f.len, n⟩
  rd : rdAddrs w'.log = rdAddrs w.log

/-- an operation on a BUFFERED writer that appended the bytes `D`: what the content statements
    (`FwC.slice`, and from it `fuse_slice_run`, `fuse_commit_after_run`) need on top of `FwS` -/
structure FwC (D : Bytes) (f : FuseW) (w : World) (f' : FuseW) (w' : World) : Prop where
  s : FwS D.length f w f' w'
  fd : w'.fd = w.fd
  content : (segAddrs ⟨f.region, f.base + f.len, D.length⟩).map w'.mem.byteAt = D

/-- `len` moved and neither memory nor the log changed (an unbuffered write: the bytes went to the
    descriptor); the world may differ in fields the predicates do not mention (`fd`) -/
theorem FwS.keep (f : FuseW) (w w' : World) {n : Nat} (hfit : f.len + n ≤ f.cap) (hm : w'.mem = w.mem)
    (hl : w'.log = w.log) : FwS n f w { f with len := f.len + n } w' :=
  ⟨rfl, hfit, fun _ => by rw [hm], fun _ _ => by rw [hm], fun _ h => Or.inl (by rw [← hl]; exact h), by rw [hl]⟩

theorem FwS.refl' (f : FuseW) (w w' : World) (hok : f.ok) (hm : w'.mem = w.mem) (hl : w'.log = w.log) : FwS 0 f w f w' := by
  have h := FwS.keep f w w' (n := 0) hok hm hl
  rwa [f.with_len_self] at h

theorem FwS.refl (f : FuseW) (w : World) (hok : f.ok) : FwS 0 f w f w := FwS.refl' f w w hok rfl rfl

theorem FwC.refl (f : FuseW) (w : World) (hok : f.ok) : FwC [] f w f w :=
  ⟨FwS.refl f w hok, rfl, by simp [segAddrs]⟩

theorem FwS.trans {n1 n2 : Nat} {f f1 f2 : FuseW} {w w1 w2 : World}
    (h1 : FwS n1 f w f1 w1) (h2 : FwS n2 f1 w1 f2 w2) : FwS (n1 + n2) f w f2 w2 := by
  have e1 := h1.eq
  subst e1
  have hsplit := segAddrs_split f.region (f.base + f.len) n1 n2
  refine ⟨by rw [h2.eq]; simp only [Nat.add_assoc], by have := h2.fits; simp only at this; omega,
    fun x => by rw [h2.len, h1.len], ?_, ?_, by rw [h2.rd, h1.rd]⟩
  · intro a ha
    rw [hsplit, List.mem_append, not_or] at ha
    rw [h2.frame a (by simpa [Nat.add_assoc] using ha.2), h1.frame a ha.1]
  · intro a ha
    rw [hsplit, List.mem_append]
    rcases h2.wr a ha with h | h
    · rcases h1.wr a h with h | h
      · exact Or.inl h
      · exact Or.inr (Or.inl h)
    · exact Or.inr (Or.inr (by simpa [Nat.add_assoc] using h))

theorem seg_disjoint (r off a b : Nat) : ∀ x ∈ segAddrs ⟨r, off, a⟩, x ∉ segAddrs ⟨r, off + a, b⟩ := by
  intro x hx hy
  rw [mem_segAddrs] at hx hy
  simp only at hx hy
  omega

theorem FwS.content_append {n1 n2 : Nat} {D1 D2 : Bytes} {f f1 f2 : FuseW} {w w1 w2 : World}
    (h1 : FwS n1 f w f1 w1) (h2 : FwS n2 f1 w1 f2 w2)
    (c1 : (segAddrs ⟨f.region, f.base + f.len, n1⟩).map w1.mem.byteAt = D1)
    (c2 : (segAddrs ⟨f1.region, f1.base + f1.len, n2⟩).map w2.mem.byteAt = D2) :
    (segAddrs ⟨f.region, f.base + f.len, n1 + n2⟩).map w2.mem.byteAt = D1 ++ D2 := by
  have e1 := h1.eq
  subst e1
  rw [segAddrs_split, List.map_append]
  simp only [Nat.add_assoc] at c2 ⊢
  rw [c2]
  congr 1
  refine Eq.trans ?_ c1
  exact List.map_congr_left fun a ha => h2.frame a (by simpa [Nat.add_assoc] using seg_disjoint _ _ _ _ a ha)

theorem FwC.trans {D1 D2 : Bytes} {f f1 f2 : FuseW} {w w1 w2 : World}
    (h1 : FwC D1 f w f1 w1) (h2 : FwC D2 f1 w1 f2 w2) : FwC (D1 ++ D2) f w f2 w2 :=
  ⟨by rw [List.length_append]; exact h1.s.trans h2.s, by rw [h2.fd, h1.fd],
    by rw [List.length_append]; exact h1.s.content_append h2.s h1.content h2.content⟩

theorem FwS.inMem {n : Nat} {f f' : FuseW} {w w' : World} (h : FwS n f w f' w') (hin : f.inMem w.mem) :
    f'.inMem w'.mem := by
  unfold FuseW.inMem at *
  rw [h.eq, h.len]; exact hin

theorem FwS.ok {n : Nat} {f f' : FuseW} {w w' : World} (h : FwS n f w f' w') : f'.ok := by
  unfold FuseW.ok; rw [h.eq]; exact h.fits

theorem slice_congr {f : FuseW} {m m' : Mem} (hin : f.base + f.len ≤ (m.get f.region).length)
    (hlen : ∀ x, (m'.get x).length = (m.get x).length)
    (h : ∀ a ∈ segAddrs ⟨f.region, f.base, f.len⟩, m'.byteAt a = m.byteAt a) : f.slice m' = f.slice m := by
  simp only [FuseW.slice]
  rw [readSeg_eq_map _ _ (inMem_seg (by rw [hlen]; exact hin)), readSeg_eq_map _ _ (inMem_seg hin)]
  exact List.map_congr_left h

theorem FwC.slice {D : Bytes} {f f' : FuseW} {w w' : World} (h : FwC D f w f' w') (hin : f.inMem w.mem) :
    f'.slice w'.mem = f.slice w.mem ++ D := by
  unfold FuseW.inMem at hin
  have hfit := h.s.fits
  -- the part written earlier is outside the window this operation touched
  rw [← slice_congr (m' := w'.mem) (by omega) h.s.len fun a ha => h.s.frame a (seg_disjoint _ _ _ _ a ha)]
  simp only [FuseW.slice, h.s.eq]
  rw [readSeg_eq_map _ _ (inMem_seg (by rw [h.s.len]; omega)), readSeg_eq_map _ _ (inMem_seg (by rw [h.s.len]; omega)),
    segAddrs_split, List.map_append, h.content]

theorem extend_fwc (f : FuseW) (w : World) (data : Bytes) (hin : f.inMem w.mem) (hfit : f.len + data.length ≤ f.cap) :
    ∃ f1 w1, f.extend w data = .ok (f1, w1) ∧ FwC data f w f1 w1 := by
  unfold FuseW.inMem at hin
  have hnot : ¬ (f.len + data.length > f.cap) := by omega
  have hw : f.base + f.len + data.length ≤ (w.mem.get f.region).length := by omega
  unfold FuseW.extend
  simp only [hnot, if_false]
  refine ⟨_, _, rfl, ⟨⟨rfl, hfit, fun x => length_get_write _ _ _ _ (.inr hw) x, ?_, ?_, ?_⟩, rfl, ?_⟩⟩
  · intro a ha
    simp only
    rw [byteAt_write _ _ _ _ (.inr hw)]
    have : ¬ (a.1 = f.region ∧ f.base + f.len ≤ a.2 ∧ a.2 < f.base + f.len + data.length) := by
      intro hc; apply ha; rw [mem_segAddrs]; exact hc
    simp only [this, if_false]
  · intro a ha
    simp only at ha
    rw [wrAddrs_snoc _ _ rfl, List.mem_append] at ha
    exact ha
  · simp only
    exact rdAddrs_snoc_write _ _ rfl
  · simp only
    exact map_byteAt_written _ _ _ _ (.inr hw)

theorem fwrite_fits (f : FuseW) (w : World) (data : Bytes) (hb : f.buffered = true) (hok : f.ok)
    (hfit : data.length ≤ f.cap - f.len) (hin : f.inMem w.mem) :
    (FuseW.write f w data).res = .ok data.length ∧ FwC data f w (FuseW.write f w data).f (FuseW.write f w data).w := by
  have hc := fcheckAvail_fit hok (.inl hb) hfit
  unfold FuseW.ok at hok
  obtain ⟨f1, w1, e, hcw⟩ := extend_fwc f w data hin (by omega)
  rw [fwrite_buffered w hb hc, e]
  exact ⟨rfl, hcw⟩

theorem fwrite_fwc (f : FuseW) (w : World) (data : Bytes) (hb : f.buffered = true) (hok : f.ok) (hin : f.inMem w.mem) :
    FwC (data.take ((FuseW.write f w data).f.len - f.len)) f w (FuseW.write f w data).f (FuseW.write f w data).w
    ∧ (FuseW.write f w data).f.len - f.len = moved (FuseW.write f w data).res
    ∧ (∀ n, (FuseW.write f w data).res = .ok n → n = data.length) := by
  by_cases hfit : data.length ≤ f.cap - f.len
  · obtain ⟨hr, hcw⟩ := fwrite_fits f w data hb hok hfit hin
    have hl : (FuseW.write f w data).f.len - f.len = data.length := by rw [hcw.s.eq]; simp
    rw [hl, List.take_length, hr]
    exact ⟨hcw, rfl, fun n hn => by cases hn; rfl⟩
  · rw [fwrite_of_err w (fcheckAvail_overflow (sz := data.length) hok (.inl hb) (by omega))]
    simp only [Nat.sub_self, List.take_zero]
    exact ⟨FwC.refl f w hok, rfl, nofun⟩

theorem extendAll_fwc (f : FuseW) (w : World) (bufs : List Bytes) (count : Nat) (hok : f.ok) (hin : f.inMem w.mem)
    (hfit : f.len + bufs.flatten.length ≤ f.cap) :
    ∃ f1 w1, FuseW.extendAll f w bufs count = .ok (f1, w1, count + bufs.flatten.length) ∧ FwC bufs.flatten f w f1 w1 := by
  induction bufs generalizing f w count with
  | nil => exact ⟨f, w, by simp [FuseW.extendAll], by simpa using FwC.refl f w hok⟩
  | cons d rest ih =>
    simp only [List.flatten_cons, List.length_append] at hfit ⊢
    unfold FuseW.extendAll
    by_cases hd : d.isEmpty = true
    · rw [if_pos hd]
      have hd' := List.isEmpty_iff.mp hd
      subst hd'
      simp only [List.length_nil, Nat.zero_add, List.nil_append] at hfit ⊢
      exact ih f w count hok hin hfit
    · rw [if_neg hd]
      obtain ⟨f1, w1, e, h1⟩ := extend_fwc f w d hin (by omega)
      rw [e]
      simp only
      have hl : f1.len = f.len + d.length := by rw [h1.s.eq]
      obtain ⟨f2, w2, e2, h2⟩ := ih f1 w1 (count + d.length) h1.s.ok (h1.s.inMem hin)
        (by rw [hl, show f1.cap = f.cap by rw [h1.s.eq]]; omega)
      exact ⟨f2, w2, by rw [e2, Nat.add_assoc], h1.trans h2⟩

theorem fwriteVectored_fwc (f : FuseW) (w : World) (bufs : List Bytes) (hb : f.buffered = true) (hok : f.ok)
    (hin : f.inMem w.mem) :
    FwC (bufs.flatten.take ((FuseW.writeVectored f w bufs).f.len - f.len)) f w
      (FuseW.writeVectored f w bufs).f (FuseW.writeVectored f w bufs).w
    ∧ (FuseW.writeVectored f w bufs).f.len - f.len = moved (FuseW.writeVectored f w bufs).res
    ∧ (∀ n, (FuseW.writeVectored f w bufs).res = .ok n → n = bufs.flatten.length) := by
  have hsz := foldl_len_eq_flatten bufs
  by_cases hfit : bufs.flatten.length ≤ f.cap - f.len
  · have hc := fcheckAvail_fit hok (.inl hb) hfit
    have hok' := hok
    unfold FuseW.ok at hok'
    obtain ⟨f1, w1, e, hcw⟩ := extendAll_fwc f w bufs 0 hok hin (by omega)
    have hl : f1.len - f.len = bufs.flatten.length := by rw [hcw.s.eq]; simp
    unfold FuseW.writeVectored
    simp only [hsz, hc, hb, if_true, e]
    rw [hl, List.take_length]
    exact ⟨hcw, (Nat.zero_add _).symm, fun n hn => by simp only [Nat.zero_add, Except.ok.injEq] at hn; exact hn.symm⟩
  · rw [fwriteVectored_of_err w (fcheckAvail_overflow (sz := bufs.flatten.length) hok (.inl hb) (by omega))]
    simp only [Nat.sub_self, List.take_zero]
    exact ⟨FwC.refl f w hok, rfl, nofun⟩

/-- `o` abbreviates the outcome in the statement: callers pass `rfl`, the loop (`fwriteAllLoop_fws`) the equation of its `generalize` -/
theorem fwriteFrom_fws (f : FuseW) (w : World) (src : Script) (count : Nat) (at_ : Option Nat) (hok : f.ok)
    (hin : f.inMem w.mem) {o : FOut Nat Script} (ho : FuseW.writeFrom f w src count at_ = o) :
    FwS (o.f.len - f.len) f w o.f o.w
    ∧ (segAddrs ⟨f.region, f.base + f.len, o.f.len - f.len⟩).map o.w.mem.byteAt
        = patBytes src.seed (at_.getD src.pos) (o.f.len - f.len)
    ∧ (f.buffered = true → o.w.fd = w.fd)
    ∧ o.aux.seed = src.seed
    ∧ o.aux.pos = srcPos at_ src.pos (o.f.len - f.len)
    ∧ o.f.len - f.len = moved o.res
    ∧ (f.buffered = false → ∀ n, o.res = .ok n → o.w.fd = w.fd ++ [readSeg o.w.mem ⟨f.region, f.base, n⟩]) := by
  subst ho
  unfold FuseW.writeFrom
  cases hc : f.checkAvail count with
  | error e =>
    simp only [Nat.sub_self, patBytes_zero]
    exact ⟨FwS.refl f w hok, by simp [segAddrs], fun _ => trivial, trivial, by cases at_ <;> rfl, rfl, fun _ => nofun⟩
  | ok u =>
    have hfit := fcheckAvail_ok_any hok hc
    simp only
    rcases hr : src.readVectored w [⟨f.region, f.base + f.len, count⟩] at_ with ⟨res, w1, s1⟩
    obtain ⟨cfd, clen, crd, p1, hle, cfr, cc, cl, hpos⟩ := readVectored_single w src f.region (f.base + f.len) count at_
      (by unfold FuseW.inMem at hin; omega) hr
    -- error or not, buffered or not, writer and memory end up the same (`len` grown by what the source reports)
    have hs : FwS (moved res) f w { f with len := f.len + moved res } w1 :=
      ⟨rfl, by omega, clen, cfr, fun a ha => by rw [cl, List.mem_append] at ha; exact ha, crd⟩
    cases res with
    | error e =>
      rw [moved_error, f.with_len_self] at hs
      simp only [Nat.sub_self]
      exact ⟨hs, cc, fun _ => cfd, p1, hpos, rfl, fun _ => nofun⟩
    | ok cnt =>
      simp only []
      by_cases hb : f.buffered = true
      · rw [if_pos hb]
        simp only [show f.len + cnt - f.len = cnt by omega]
        exact ⟨hs, cc, fun _ => cfd, p1, hpos, rfl, fun h => by rw [hb] at h; cases h⟩
      · rw [if_neg hb]
        simp only [show f.len + cnt - f.len = cnt by omega]
        exact ⟨⟨rfl, hs.fits, hs.len, hs.frame, hs.wr, hs.rd⟩, cc, fun h => absurd h hb, p1, hpos, rfl,
          fun _ n hn => by cases hn; simp only [World.fdWrite, cfd]⟩

theorem fwriteFrom_fwc (f : FuseW) (w : World) (src : Script) (count : Nat) (at_ : Option Nat) (hb : f.buffered = true)
    (hok : f.ok) (hin : f.inMem w.mem) :
    FwC (patBytes src.seed (at_.getD src.pos) ((FuseW.writeFrom f w src count at_).f.len - f.len)) f w
      (FuseW.writeFrom f w src count at_).f (FuseW.writeFrom f w src count at_).w := by
  obtain ⟨h1, h2, h3, _⟩ := fwriteFrom_fws f w src count at_ hok hin rfl
  exact ⟨by rw [length_patBytes]; exact h1, h3 hb, by rw [length_patBytes]; exact h2⟩

theorem FwS.len_eq {n : Nat} {f f' : FuseW} {w w' : World} (h : FwS n f w f' w') : f'.len = f.len + n := by
  rw [h.eq]

theorem FwS.delta {n : Nat} {f f' : FuseW} {w w' : World} (h : FwS n f w f' w') : FwS (f'.len - f.len) f w f' w' := by
  have := h.len_eq
  rw [show f'.len - f.len = n by omega]; exact h

theorem fwriteAllLoop_fws (fuel : Nat) (f : FuseW) (w : World) (src : Script) (count : Nat) (hok : f.ok)
    (hin : f.inMem w.mem) :
    ∃ n, FwS n f w (FuseW.writeAllLoop fuel f w src count).f (FuseW.writeAllLoop fuel f w src count).w
      ∧ (segAddrs ⟨f.region, f.base + f.len, n⟩).map (FuseW.writeAllLoop fuel f w src count).w.mem.byteAt
          = patBytes src.seed src.pos n
      ∧ (f.buffered = true → (FuseW.writeAllLoop fuel f w src count).w.fd = w.fd) := by
  induction fuel generalizing f w src count with
  | zero => exact ⟨0, FwS.refl f w hok, by simp [segAddrs, patBytes_zero], fun _ => rfl⟩
  | succ fuel ih =>
    unfold FuseW.writeAllLoop
    by_cases h0 : count = 0
    · rw [if_pos h0]; exact ⟨0, FwS.refl f w hok, by simp [segAddrs, patBytes_zero], fun _ => rfl⟩
    · rw [if_neg h0]
      dsimp only
      generalize ho : FuseW.writeFrom f w src count none = o
      obtain ⟨h1, c1, fd1, hs1, hp1, _⟩ := fwriteFrom_fws f w src count none hok hin ho
      simp only [Option.getD_none, srcPos] at c1 hp1
      -- another round: what it appends comes after what this call appended
      have more : ∀ c', ∃ n, FwS n f w (FuseW.writeAllLoop fuel o.f o.w o.aux c').f (FuseW.writeAllLoop fuel o.f o.w o.aux c').w
          ∧ (segAddrs ⟨f.region, f.base + f.len, n⟩).map (FuseW.writeAllLoop fuel o.f o.w o.aux c').w.mem.byteAt
              = patBytes src.seed src.pos n
          ∧ (f.buffered = true → (FuseW.writeAllLoop fuel o.f o.w o.aux c').w.fd = w.fd) := fun c' => by
        obtain ⟨n, h2, c2, fd2⟩ := ih o.f o.w o.aux c' h1.ok (h1.inMem hin)
        rw [hs1, hp1] at c2
        exact ⟨_, h1.trans h2, by rw [patBytes_add]; exact h1.content_append h2 c1 c2,
          fun hb => by rw [fd2 (by rw [h1.eq]; exact hb), fd1 hb]⟩
      split
      · exact ⟨_, h1, c1, fd1⟩
      · exact more _
      · exact more _
      · exact ⟨_, h1, c1, fd1⟩

theorem fwriteAllFrom_fws (f : FuseW) (w : World) (src : Script) (count : Nat) (hok : f.ok) (hin : f.inMem w.mem) :
    ∃ n, FwS n f w (FuseW.writeAllFrom f w src count).f (FuseW.writeAllFrom f w src count).w
      ∧ (segAddrs ⟨f.region, f.base + f.len, n⟩).map (FuseW.writeAllFrom f w src count).w.mem.byteAt
          = patBytes src.seed src.pos n
      ∧ (f.buffered = true → (FuseW.writeAllFrom f w src count).w.fd = w.fd) := by
  unfold FuseW.writeAllFrom
  split
  · exact ⟨0, FwS.refl f w hok, by simp [segAddrs, patBytes_zero], fun _ => rfl⟩
  · exact fwriteAllLoop_fws _ f w src count hok hin

theorem fwriteAllFrom_fwc (f : FuseW) (w : World) (src : Script) (count : Nat) (hb : f.buffered = true)
    (hok : f.ok) (hin : f.inMem w.mem) :
    FwC (patBytes src.seed src.pos ((FuseW.writeAllFrom f w src count).f.len - f.len)) f w
      (FuseW.writeAllFrom f w src count).f (FuseW.writeAllFrom f w src count).w := by
  obtain ⟨n, h1, h2, h3⟩ := fwriteAllFrom_fws f w src count hok hin
  rw [show (FuseW.writeAllFrom f w src count).f.len - f.len = n by rw [h1.len_eq]; omega]
  exact ⟨by rw [length_patBytes]; exact h1, h3 hb, by rw [length_patBytes]; exact h2⟩

theorem fwrite_fws (f : FuseW) (w : World) (data : Bytes) (hok : f.ok) (hin : f.inMem w.mem) :
    FwS ((FuseW.write f w data).f.len - f.len) f w (FuseW.write f w data).f (FuseW.write f w data).w := by
  cases hb : f.buffered with
  | true => exact (fwrite_fwc f w data hb hok hin).1.s.delta
  | false =>
    cases hc : f.checkAvail data.length with
    | error e => rw [fwrite_of_err w hc]; simp only [Nat.sub_self]; exact FwS.refl f w hok
    | ok u =>
      rw [fwrite_unbuffered w hb hc]
      simp only [Nat.add_sub_cancel_left]
      exact FwS.keep f w _ (fcheckAvail_ok_any hok hc) rfl rfl

theorem fwriteVectored_fws (f : FuseW) (w : World) (bufs : List Bytes) (hok : f.ok) (hin : f.inMem w.mem) :
    FwS ((FuseW.writeVectored f w bufs).f.len - f.len) f w (FuseW.writeVectored f w bufs).f
      (FuseW.writeVectored f w bufs).w := by
  cases hb : f.buffered with
  | true => exact (fwriteVectored_fwc f w bufs hb hok hin).1.s.delta
  | false =>
    cases hc : f.checkAvail bufs.flatten.length with
    | error e => rw [fwriteVectored_of_err w hc]; simp only [Nat.sub_self]; exact FwS.refl f w hok
    | ok u =>
      obtain ⟨km, kl, _⟩ := fdWritev_keep w bufs.flatten
      rw [fwriteVectored_unbuffered w hb hc]
      simp only [Nat.add_sub_cancel_left]
      exact FwS.keep f w _ (fcheckAvail_ok_any hok hc) km kl

/-- a fresh writer split at `k`; data written to the second part, then the header to the first;
    `commit` sends exactly one record `header ++ data` (this one order of two `write`s; any
    operation list on the two halves: `fuse_commit_after_run`, XportFuseThm) -/
theorem fuse_split_commit (f a o : FuseW) (w : World) (k : Nat) (hdr data : Bytes)
    (hnew : f.len = 0) (hin : f.inMem w.mem) (hs : f.splitAt k = .ok (a, o))
    (hh : hdr.length ≤ k) (hd : data.length ≤ f.cap - k) :
    (FuseW.write o w data).res = .ok data.length
    ∧ (FuseW.write a (FuseW.write o w data).w hdr).res = .ok hdr.length
    ∧ (FuseW.commit (FuseW.write a (FuseW.write o w data).w hdr).f (FuseW.write a (FuseW.write o w data).w hdr).w
          (some (FuseW.write o w data).f)).1 = .ok (hdr ++ data).length
    ∧ (FuseW.commit (FuseW.write a (FuseW.write o w data).w hdr).f (FuseW.write a (FuseW.write o w data).w hdr).w
          (some (FuseW.write o w data).f)).2.fd = (if (hdr ++ data).isEmpty then w.fd else w.fd ++ [hdr ++ data]) := by
  have hfok := FuseW.ok_of_empty hnew
  obtain ⟨aok, ook, hcap, hab, hob, hlen, habuf, hobuf, hk, hak⟩ := fsplit_ok hfok hs
  obtain ⟨har, hor⟩ := fsplit_region hs
  unfold FuseW.inMem at hin
  have hal : a.len = 0 := by omega
  have hol : o.len = 0 := by omega
  have hoin : o.inMem w.mem := by unfold FuseW.inMem; rw [hor, hob]; omega
  obtain ⟨r1, c1⟩ := fwrite_fits o w data hobuf ook (by omega) hoin
  generalize FuseW.write o w data = O at r1 c1 ⊢
  have hain : a.inMem O.w.mem := by unfold FuseW.inMem; rw [c1.s.len, har, hab]; omega
  obtain ⟨r2, c2⟩ := fwrite_fits a O.w hdr habuf aok (by omega) hain
  generalize FuseW.write a O.w hdr = A at r2 c2 ⊢
  obtain ⟨r, hr, e1, e2, _⟩ := fcommit_spec A.f A.w (some O.f) (by rw [c2.s.eq]; exact habuf)
  -- the data part is untouched by the header write: the two windows are disjoint
  have hkeep : O.f.slice A.w.mem = O.f.slice O.w.mem := by
    have hoin1 := c1.s.inMem hoin
    have hofit : O.f.len ≤ O.f.cap := c1.s.ok
    unfold FuseW.inMem at hoin1
    refine slice_congr (by omega) c2.s.len (fun x hx => c2.s.frame x (fun hy => ?_))
    rw [c1.s.eq, mem_segAddrs] at hx
    rw [mem_segAddrs] at hy
    simp only at hx hy
    omega
  simp only at hr
  rw [c2.slice hain, slice_len_zero a _ hal, hkeep, c1.slice hoin,
    slice_len_zero o _ hol, List.nil_append, List.nil_append] at hr
  subst hr
  exact ⟨r1, r2, e1, by rw [e2, c2.fd, c1.fd]⟩

theorem fuseRun_fws (f : FuseW) (w : World) (op : Op) (hok : f.ok) (hin : f.inMem w.mem) :
    FwS ((fuseRun f w op).1.len - f.len) f w (fuseRun f w op).1 (fuseRun f w op).2 := by
  cases op with
  | fw _ data => exact fwrite_fws f w data hok hin
  | fv _ datas => exact fwriteVectored_fws f w datas hok hin
  | ff _ count at_ sc => exact (fwriteFrom_fws f w sc count at_ hok hin rfl).1
  | fa _ count sc => exact (fwriteAllFrom_fws f w sc count hok hin).choose_spec.1.delta
  | _ => simp only [fuseRun, Nat.sub_self]; exact FwS.refl f w hok

theorem fuseRun_fwc (f : FuseW) (w : World) (op : Op) (hb : f.buffered = true) (hok : f.ok) (hin : f.inMem w.mem) :
    FwC (fwriterIn f w op) f w (fuseRun f w op).1 (fuseRun f w op).2 := by
  cases op with
  | fw _ data => exact (fwrite_fwc f w data hb hok hin).1
  | fv _ datas => exact (fwriteVectored_fwc f w datas hb hok hin).1
  | ff _ count at_ sc => exact fwriteFrom_fwc f w sc count at_ hb hok hin
  | fa _ count sc => exact fwriteAllFrom_fwc f w sc count hb hok hin
  | _ => exact FwC.refl f w hok

end Fbr.Xport
