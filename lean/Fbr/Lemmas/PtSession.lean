/-
  C08: facts that hold between two (re-)imports of the root, i.e. along `Tr e nf false`:
  the root stays, remembered numbers stay, live entries have distinct host files.
-/
import Fbr.Lemmas.PtFresh

namespace Fbr.PtRefs

variable {nf : Bool}

theorem Tr.rootLive {e : Env} {b : Bool} {s s' : St} {sp sp' : Spec} (h : Tr e nf b s sp s' sp')
    (hb : b = false) (hr : (mget s.data ROOT_ID).isSome = true) :
    (mget s'.data ROOT_ID).isSome = true := by
  induction h with
  | frame _ h => rw [h.data]; exact hr
  | lookup h =>
    cases h with
    | hit _ x | ins _ x => rw [x.data, mget_mput]; split <;> simp [hr]
  | @forget _ s0 _ i n =>
    by_cases e1 : i = ROOT_ID
    · subst e1; rw [forgetOne_root]; exact hr
    · rw [forgetOne_data_other e s0 i n ROOT_ID e1]; exact hr
  | setRoot => cases hb
  | clear => cases hb
  | trans _ _ ih1 ih2 => exact ih2 hb (ih1 hb hr)

theorem Tr.stable {e : Env} (hk : e.useHostIno = false) {b : Bool} {s s' : St} {sp sp' : Spec}
    (h : Tr e nf b s sp s' sp') (hb : b = false) :
    (∀ k i, mget s.byHandle k = some i → mget s'.byHandle k = some i)
    ∧ (s'.byHandle = [] → ∀ k i, mget s.byId k = some i → mget s'.byId k = some i) := by
  induction h with
  | frame _ h => exact ⟨by rw [h.byHandle]; exact fun _ _ => id, fun _ => by rw [h.byId]; exact fun _ _ => id⟩
  | @lookup _ s0 _ _ f0 ino h =>
    cases h with
    | hit _ x => exact ⟨by rw [x.byHandle]; exact fun _ _ => id, fun _ => by rw [x.byId]; exact fun _ _ => id⟩
    | ins _ x _ _ hz =>
      -- a file remembered under a number is inserted under that number (`KForm.same`)
      constructor
      · intro k i hm
        rw [x.byHandle]
        cases hfh : f0.fh with
        | none => exact hm
        | some h' => exact mget_mput_of_some hm fun e1 => (hz hk).same (by rw [hfh, e1]; exact hm)
      · intro hnh k i hm
        have hfh : f0.fh = none := by
          cases hf : f0.fh with
          | none => rfl
          | some h' => have hy := x.byHandle; rw [hf] at hy; rw [hy] at hnh; simp [mput] at hnh
        rw [x.byId]
        exact mget_mput_of_some hm fun (e1 : f0.id = k) => (hz hk).same (by rw [hfh, e1]; exact hm)
  | @forget _ s0 _ i n =>
    obtain ⟨hbi, hy, _⟩ := forgetOne_keep e hk s0 i n
    exact ⟨by rw [hy]; exact fun _ _ => id, fun _ => by rw [hbi]; exact fun _ _ => id⟩
  | setRoot => cases hb
  | clear => cases hb
  | @trans _ _ b0 _ _ _ _ _ _ ih1 ih2 =>
    refine ⟨fun k i hm => (ih2 hb).1 k i ((ih1 hb).1 k i hm),
      fun hnh k i hm => (ih2 hb).2 hnh k i ((ih1 hb).2 ?_ k i hm)⟩
    -- the handle map was empty in between, too
    cases hbh : b0.byHandle with
    | nil => rfl
    | cons p r =>
      obtain ⟨k, i⟩ := p
      have := (ih2 hb).1 k i (by rw [hbh]; simp [mget_cons])
      rw [hnh] at this; simp at this

/-- live entries are reachable through the id / handle maps -/
structure Inj (s : St) : Prop where
  i1 : ∀ i d, mget s.data i = some d → d.fh = none → mget s.byId d.id = some i
  i2 : ∀ i d h, mget s.data i = some d → d.fh = some h → mget s.byHandle h = some i

/-- `Inj` reads the host identity of the entries only -/
theorem Inj.sub {s s' : St} (inj : Inj s) (hb : s'.byId = s.byId) (hy : s'.byHandle = s.byHandle)
    (hsub : ∀ j d, mget s'.data j = some d → ∃ d', mget s.data j = some d' ∧ d'.id = d.id ∧ d'.fh = d.fh) :
    Inj s' := by
  constructor
  · intro j d' hj hf
    obtain ⟨d, hd, e1, e2⟩ := hsub j d' hj
    rw [hb, ← e1]; exact inj.i1 j d hd (by rw [e2]; exact hf)
  · intro j d' h' hj hf
    obtain ⟨d, hd, e1, e2⟩ := hsub j d' hj
    rw [hy]; exact inj.i2 j d h' hd (by rw [e2]; exact hf)

theorem Tr.inj {e : Env} (hk : e.useHostIno = false) {b : Bool} {s s' : St} {sp sp' : Spec}
    (h : Tr e nf b s sp s' sp') (hb : b = false) (inj : Inj s) : Inj s' := by
  induction h with
  | frame _ h => exact inj.sub h.byId h.byHandle (by rw [h.data]; exact fun j d hj => ⟨d, hj, rfl, rfl⟩)
  | @lookup _ _ _ _ f0 ino h =>
    cases h with
    | @hit _ d hg x =>
      exact inj.sub x.byId x.byHandle (by
        rw [x.data]; exact forall_mget_mput ⟨d, getAlt_data hg, rfl, rfl⟩ fun j d hj => ⟨d, hj, rfl, rfl⟩)
    | ins hg x =>
      constructor
      · rw [x.data, x.byId]
        refine forall_mget_mput (fun _ => mget_mput_self _ _ _) fun i d' hi hf => ?_
        have hold := inj.i1 i d' hi hf
        -- the probe missed: no live entry kept by descriptor is stored under the id of `f0`
        rw [mget_mput_ne _ _ fun (e2 : f0.id = d'.id) => getAlt_none_byId hg (by rw [e2]; exact hold) hi hf]
        exact hold
      · intro i d' h' hi hf
        rw [x.data] at hi; rw [x.byHandle]
        rcases mget_mput_some hi with ⟨rfl, rfl⟩ | ⟨_, hi⟩
        · have hf : f0.fh = some h' := hf; rw [hf]; exact mget_mput_self _ _ _
        · have hold := inj.i2 i d' h' hi hf
          cases hfh : f0.fh with
          | none => exact hold
          | some h0 =>
            simp only [mget_mput]
            split
            · rename_i e2; subst e2
              rw [hfh] at hg
              have := not_live_of_mapping hg (ino := i) hold
              rw [hi] at this; cases this
            · exact hold
  | @forget _ s0 _ i n =>
    obtain ⟨hbi, hy, _⟩ := forgetOne_keep e hk s0 i n
    exact inj.sub hbi hy fun j d h =>
      (forgetOne_entries e s0 i n j d h).imp fun _ ⟨a, b, c, _⟩ => ⟨a, b, c⟩
  | setRoot => cases hb
  | clear => cases hb
  | trans _ _ ih1 ih2 => exact ih2 hb (ih1 hb inj)

theorem Inj.injective {s : St} (inj : Inj s) {i j : Ino} {di dj : IData}
    (hi : mget s.data i = some di) (hj : mget s.data j = some dj)
    (hid : di.id = dj.id) (hfh : di.fh = dj.fh) : i = j := by
  cases hf : di.fh with
  | none =>
    have a := inj.i1 i di hi hf
    have b := inj.i1 j dj hj (by rw [← hfh]; exact hf)
    rw [hid, b] at a; exact (Option.some.inj a).symm
  | some h =>
    have a := inj.i2 i di h hi hf
    have b := inj.i2 j dj h hj (by rw [← hfh]; exact hf)
    rw [b] at a; exact (Option.some.inj a).symm

/-- the state a session starts from: a fresh server after INIT (which may have failed) -/
def afterInit (e : Env) (root : HAns) : St := (opInit e St.fresh root).1

theorem afterInit_eq (e : Env) (root : HAns) : afterInit e root = (importRoot e St.fresh root).1 := by
  unfold afterInit opInit
  split <;> (rename_i heq; rw [heq])

theorem inj_afterInit (e : Env) (root : HAns) : Inj (afterInit e root) := by
  rw [afterInit_eq]
  rcases importRoot_tables e St.fresh root with ht | ⟨f, _, ht⟩
  · constructor
    · intro i d h; rw [data_of_tables ht] at h; simp [St.fresh] at h
    · intro i d h' h; rw [data_of_tables ht] at h; simp [St.fresh] at h
  · have x := Inserted.of_tables ht
    generalize (importRoot e St.fresh root).1 = s at x ⊢
    constructor
    · rw [x.data, x.byId]
      exact forall_mget_mput (fun _ => mget_mput_self _ _ _) nofun
    · intro i d h' h hf
      rw [x.data] at h
      rcases mget_mput_some h with ⟨rfl, rfl⟩ | ⟨_, h⟩
      · have hf : f.fh = some h' := hf
        rw [x.byHandle]; simp only [hf]; exact mget_mput_self _ _ _
      · cases h

theorem fresh_afterInit (e : Env) (hk : e.useHostIno = false) (root : HAns) :
    Fresh (afterInit e root) ∧ (afterInit e root).clobbered = false := by
  rw [afterInit_eq]
  exact (importRoot_tr (nf := false) e St.fresh Spec.init root (fun x => by cases x)).fresh hk fresh_fresh rfl

theorem LkEff.records_fd {e : Env} {s s' : St} {f : HFile} {ino : Ino} (h : LkEff e s s' f (.ok ino))
    (hf : f.fh = none) : mget s'.byId f.id = some ino := by
  cases h with
  | hit hg x => rw [x.byId]; rw [hf] at hg; exact getAlt_fd_byId hg
  | ins _ x => rw [x.byId]; simp

theorem LkEff.uses_fd {e : Env} (hk : e.useHostIno = false) {s s' : St} {f : HFile} {ino : Ino}
    (h : LkEff e s s' f (.ok ino)) (hf : f.fh = none) {i : Ino} (hm : mget s.byId f.id = some i) :
    ino = i := by
  cases h with
  | hit hg => rw [hf] at hg; have := getAlt_fd_byId hg; rw [hm] at this; exact (Option.some.inj this).symm
  | ins _ _ _ _ hz => exact (hz hk).same (by rw [hf]; exact hm)

theorem doLookup_records_fd (e : Env) (s : St) (p : Ino) (pst : Bool) (f : HFile) (hf : f.fh = none)
    {ino : Ino} (h : (doLookup e s p pst (.ok f)).2 = .ok ino) :
    mget (doLookup e s p pst (.ok f)).1.byId f.id = some ino := by
  obtain ⟨s1, s2, _, ht, he⟩ := doLookup_core h
  rw [byId_of_tables ht]; exact he.records_fd hf

theorem doLookup_uses_fd (e : Env) (hk : e.useHostIno = false) (s : St) (p : Ino) (pst : Bool)
    (f : HFile) (hf : f.fh = none) {i : Ino} (hm : mget s.byId f.id = some i) {ino : Ino}
    (h : (doLookup e s p pst (.ok f)).2 = .ok ino) : ino = i := by
  obtain ⟨s1, s2, h1, _, he⟩ := doLookup_core h
  exact he.uses_fd hk hf (by rw [byId_of_tables h1]; exact hm)

end Fbr.PtRefs
