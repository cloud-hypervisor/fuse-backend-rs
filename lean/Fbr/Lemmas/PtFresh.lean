/-
  C08, `use_host_ino = false`: inode numbers come from `next_inode` or from the remembered
  id/handle → number maps, all of which stay below `next_inode`; hence an insert never replaces a
  live entry (`clobbered` stays false) — for every history.
-/
import Fbr.Lemmas.PtPrim

namespace Fbr.PtRefs

structure Fresh (s : St) : Prop where
  two : 2 ≤ s.next
  dataLt : ∀ i d, mget s.data i = some d → i < s.next
  byIdLt : ∀ k i, mget s.byId k = some i → i < s.next
  byHLt : ∀ k i, mget s.byHandle k = some i → i < s.next

theorem forgetOne_keep (e : Env) (hk : e.useHostIno = false) (s : St) (i : Ino) (n : Nat) :
    (forgetOne e s i n).byId = s.byId ∧ (forgetOne e s i n).byHandle = s.byHandle
    ∧ (forgetOne e s i n).next = s.next := by
  rcases forgetOne_cases e s i n with h | ⟨d0, _, h | h⟩ <;> rw [h]
  · exact ⟨rfl, rfl, rfl⟩
  · exact ⟨rfl, rfl, rfl⟩
  · have ht := tables_removeInode s i d0 (!e.useHostIno || decide (d0.id.ino > MAX_HOST_INO))
    simp only [hk, Bool.not_false, Bool.true_or] at ht ⊢
    exact ⟨congrArg Tables.byId ht, congrArg Tables.byHandle ht, congrArg Tables.next ht⟩

theorem Fresh.number_free {s : St} (f : Fresh s) {id : InodeId} {fh : Option FhId} {ino : Ino} {next' : Nat}
    (hg : getAlt s id fh = none) (hz : KForm s id fh ino next') :
    ino < next' ∧ mget s.data ino = none ∧ s.next ≤ next' := by
  rcases hz with ⟨hm, hn⟩ | ⟨hm, hi, hn⟩
  · have hlt : ino < s.next := by
      unfold getInodeLocked at hm
      cases fh with
      | some h' => exact f.byHLt _ _ hm
      | none => exact f.byIdLt _ _ hm
    exact ⟨by rw [hn]; exact hlt, not_live_of_mapping hg hm, Nat.le_of_eq hn.symm⟩
  · subst hi
    refine ⟨by rw [hn]; exact Nat.lt_succ_self _, ?_, by rw [hn]; exact Nat.le_succ _⟩
    cases hd' : mget s.data s.next with
    | none => rfl
    | some x => exact absurd (f.dataLt _ _ hd') (Nat.lt_irrefl _)

theorem Fresh.inserted {s s' : St} {ino : Ino} {d : IData} (f : Fresh s) (x : Inserted s s' ino d)
    (hlt : ino < s'.next) (hle : s.next ≤ s'.next) : Fresh s' := by
  have lt : ∀ {i}, i < s.next → i < s'.next := fun h => Nat.lt_of_lt_of_le h hle
  refine ⟨Nat.le_trans f.two hle, ?_, ?_, ?_⟩
  · rw [x.data]; exact forall_mget_mput hlt fun i d h => lt (f.dataLt i d h)
  · rw [x.byId]; exact forall_mget_mput hlt fun k i h => lt (f.byIdLt k i h)
  · rw [x.byHandle]
    split
    · exact forall_mget_mput hlt fun k i h => lt (f.byHLt k i h)
    · exact fun k i h => lt (f.byHLt k i h)

theorem Tr.fresh {e : Env} {nf : Bool} (hk : e.useHostIno = false) {b : Bool} {s s' : St} {sp sp' : Spec}
    (h : Tr e nf b s sp s' sp') (f : Fresh s) (hc : s.clobbered = false) :
    Fresh s' ∧ s'.clobbered = false := by
  induction h with
  | frame _ h =>
    refine ⟨⟨Nat.le_trans f.two h.next, ?_, ?_, ?_⟩, by rw [h.clobbered]; exact hc⟩
    · intro i d hi; rw [h.data] at hi; exact Nat.lt_of_lt_of_le (f.dataLt i d hi) h.next
    · intro k i hi; rw [h.byId] at hi; exact Nat.lt_of_lt_of_le (f.byIdLt k i hi) h.next
    · intro k i hi; rw [h.byHandle] at hi; exact Nat.lt_of_lt_of_le (f.byHLt k i hi) h.next
  | @lookup _ s0 s1 _ f0 ino h =>
    cases h with
    | @hit _ d hg x =>
      refine ⟨⟨by rw [x.next]; exact f.two, ?_, by rw [x.byId, x.next]; exact f.byIdLt,
        by rw [x.byHandle, x.next]; exact f.byHLt⟩, by rw [x.clobbered]; exact hc⟩
      rw [x.data, x.next]
      exact forall_mget_mput (f.dataLt _ d (getAlt_data hg)) f.dataLt
    | ins hg x _ _ hz =>
      obtain ⟨hlt, hnone, hle⟩ := f.number_free hg (hz hk)
      exact ⟨f.inserted x hlt hle, by rw [x.clobbered, hc, hnone]; simp⟩
  | @forget _ s0 _ i n =>
    obtain ⟨hb, hy, hn⟩ := forgetOne_keep e hk s0 i n
    refine ⟨⟨by rw [hn]; exact f.two, ?_, by rw [hb, hn]; exact f.byIdLt, by rw [hy, hn]; exact f.byHLt⟩,
      by rw [(forgetOne_ghost e s0 i n).1]; exact hc⟩
    intro j d h
    obtain ⟨d', h', _⟩ := forgetOne_entries e s0 i n j d h
    rw [hn]; exact f.dataLt j d' h'
  | setRoot x _ _ hn =>
    exact ⟨f.inserted x (by rw [hn]; exact f.two) (Nat.le_of_eq hn.symm), by rw [x.clobbered_root]; exact hc⟩
  | clear x =>
    refine ⟨⟨by rw [x.next]; exact f.two, ?_, ?_, ?_⟩, by rw [x.clobbered]; exact hc⟩
    · intro i d h; simp [x.data] at h
    · intro k i h; simp [x.byId] at h
    · intro k i h; simp [x.byHandle] at h
  | trans _ _ ih1 ih2 =>
    obtain ⟨f1, c1⟩ := ih1 f hc
    exact ih2 f1 c1

theorem fresh_fresh : Fresh St.fresh :=
  ⟨by simp [St.fresh, ROOT_ID], by intro i d h; simp [St.fresh] at h,
   by intro k i h; simp [St.fresh] at h, by intro k i h; simp [St.fresh] at h⟩

/-- without `use_host_ino`, no history ever makes `InodeStore::insert` replace a live entry -/
theorem never_clobbers_keep (e : Env) (hk : e.useHostIno = false) (h : List (Option Nat × Op)) :
    (run e St.fresh h).1.clobbered = false :=
  ((run_tr e h St.fresh Spec.init).fresh hk fresh_fresh rfl).2

end Fbr.PtRefs
