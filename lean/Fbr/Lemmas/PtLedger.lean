/-
  C15: the descriptor ledger.  `Led s a b`: the process holds exactly 2 descriptors of its own
  (/proc/self/fd, mountinfo), one for the mount fd while any reference to it exists, one per handle,
  and `a` more; the mount fd's reference count is `b`.  `Led` reads nothing of the inode store, so the
  primitives that give back a descriptor or a mount-fd reference (the `_led` lemmas) are stated for any
  `a`, `b`, and a change of the store only changes how `a` and `b` are made up: `LInv s t m` splits them into one descriptor per inode kept by
  descriptor plus `t` temporaries of the request in progress, and one reference per inode kept by
  handle plus `m` temporaries.
-/
import Fbr.PtRefs
import Fbr.Lemmas.PtMap
import Fbr.Lemmas.PtProj
import Fbr.Lemmas.PtCount
import Fbr.Lemmas.PtEffect

namespace Fbr.PtRefs

def nFile (s : St) : Nat := cnt (fun d : IData => d.fh.isNone) s.data
def nHand (s : St) : Nat := cnt (fun d : IData => d.fh.isSome) s.data
def mfd (s : St) : Nat := if s.mountRefs > 0 then 1 else 0

structure Led (s : St) (a b : Nat) : Prop where
  nh : KeysNodup s.handles
  fds : s.fds = 2 + a + mfd s + s.handles.length
  mr : s.mountRefs = b
  hk : ∀ h i, mget s.handles h = some i → h < s.nextHandle
  /-- a directory-position record exists only for a live handle -/
  ck : ∀ h, h ∈ s.cookies → (mget s.handles h).isSome = true

structure LInv (s : St) (t m : Nat) : Prop where
  nd : KeysNodup s.data
  led : Led s (nFile s + t) (nHand s + m)

/-- states that agree on everything the ledger invariant reads -/
structure LEq (s s' : St) : Prop where
  data : s'.data = s.data
  handles : s'.handles = s.handles
  fds : s'.fds = s.fds
  mr : s'.mountRefs = s.mountRefs
  cookies : s'.cookies = s.cookies
  nextHandle : s'.nextHandle = s.nextHandle

theorem Led.cast {s : St} {a b a' b' : Nat} (h : Led s a b) (ha : a = a') (hb : b = b') : Led s a' b' :=
  ha ▸ hb ▸ h

theorem LInv.of_eq {s s' : St} {t m : Nat} (h : LInv s t m) (e : LEq s s') : LInv s' t m := by
  have l := h.led
  refine ⟨by rw [e.data]; exact h.nd, ?_, ?_, ?_, ?_, ?_⟩
  · rw [e.handles]; exact l.nh
  · unfold nFile mfd; rw [e.fds, e.data, e.mr, e.handles]; exact l.fds
  · unfold nHand; rw [e.mr, e.data]; exact l.mr
  · rw [e.handles, e.nextHandle]; exact l.hk
  · rw [e.handles, e.cookies]; exact l.ck

theorem nFile_add_nHand (s : St) : nFile s + nHand s = s.data.length :=
  cnt_add_cnt (fun d => by cases d.fh <;> rfl) s.data

/-- what a state holds once every handle is released and nothing but the root is stored: no
    directory-position record, and its 2 own descriptors plus one for the root (the root's `O_PATH`
    descriptor, or the mount fd the root refers to) -/
theorem LInv.drained {s : St} (h : LInv s 0 0) (hh : s.handles = [])
    (hroot : ∀ k v, mget s.data k = some v → k = ROOT_ID) :
    (s.data = [] ∨ ∃ d, s.data = [(ROOT_ID, d)]) ∧ s.cookies = [] ∧ s.fds = 2 + s.data.length := by
  have hdata := single_entry h.nd ROOT_ID hroot
  refine ⟨hdata, ?_, ?_⟩
  · cases hc : s.cookies with
    | nil => rfl
    | cons x r =>
      have := h.led.ck x (by rw [hc]; exact List.mem_cons_self)
      rw [hh] at this; cases this
  · -- at most one entry, so the mount fd is open iff that entry is kept by handle
    have hlen : s.data.length ≤ 1 := by
      rcases hdata with hd | ⟨d, hd⟩ <;> rw [hd] <;> simp
    have hf := h.led.fds
    have hm := h.led.mr
    have hsum := nFile_add_nHand s
    rw [hh] at hf
    unfold mfd at hf
    split at hf <;> simp only [List.length_nil] at hf <;> omega

theorem Led.nextHandle_free {s : St} {a b : Nat} (h : Led s a b) : mget s.handles s.nextHandle = none := by
  cases hm : mget s.handles s.nextHandle with
  | none => rfl
  | some i => exact absurd (h.hk _ _ hm) (Nat.lt_irrefl _)

theorem allocFd_ok {e : Env} {s s' : St} {t m : Nat} (h : LInv s t m) : allocFd e s = (s', true) →
    LInv s' (t + 1) m := by
  -- only the path that succeeds survives `cases`
  fun_cases allocFd e s <;> (intro ha; cases ha)
  have l := h.led
  exact ⟨h.nd, l.nh, by have := l.fds; simp only [nFile, mfd] at this ⊢; omega, l.mr, l.hk, l.ck⟩

theorem allocFd_fail {e : Env} {s s' : St} {t m : Nat} (h : LInv s t m) : allocFd e s = (s', false) →
    LInv s' t m := by
  fun_cases allocFd e s <;> (intro ha; cases ha)
  exact ⟨h.nd, h.led.nh, h.led.fds, h.led.mr, h.led.hk, h.led.ck⟩

theorem freeFd_led {s : St} {a b : Nat} (h : Led s (a + 1) b) : Led (freeFd s) a b := by
  refine ⟨h.nh, ?_, h.mr, h.hk, h.ck⟩
  show s.fds - 1 = 2 + a + mfd s + s.handles.length
  have := h.fds; omega

theorem freeFd_linv {s : St} {t m : Nat} (h : LInv s (t + 1) m) : LInv (freeFd s) t m :=
  ⟨h.nd, freeFd_led h.led⟩

theorem allocFd_mr {e : Env} {s s' : St} {b : Bool} (h : allocFd e s = (s', b)) :
    s'.mountRefs = s.mountRefs := by
  unfold allocFd at h; split at h <;> cases h <;> rfl

theorem mountGet_ok {e : Env} {s s' : St} {t m : Nat} (h : LInv s t m) : mountGet e s = (s', none) →
    LInv s' t (m + 1) := by
  fun_cases mountGet e s <;> (intro hg; cases hg)
  -- the live `MountFd` is reused
  case case1 hpos =>
    have l := h.led
    refine ⟨h.nd, l.nh, ?_, ?_, l.hk, l.ck⟩
    · show s.fds = 2 + (nFile s + t) + (if s.mountRefs + 1 > 0 then 1 else 0) + s.handles.length
      rw [if_pos (Nat.succ_pos _), l.fds, mfd, if_pos hpos]
    · show s.mountRefs + 1 = nHand s + (m + 1)
      rw [l.mr]; rfl
  -- the mount fd is opened: probe, reopen, close the probe
  case case4 hz _ heq1 s2 heq2 =>
    have l2 := allocFd_ok (allocFd_ok h heq1) heq2
    have hz2 : s2.mountRefs = 0 := by rw [allocFd_mr heq2, allocFd_mr heq1]; omega
    have hm := l2.led.mr
    have hf := l2.led.fds
    refine ⟨l2.nd, l2.led.nh, ?_, ?_, l2.led.hk, l2.led.ck⟩
    · have hmf : mfd s2 = 0 := by simp [mfd, hz2]
      show s2.fds - 1 = 2 + (nFile s2 + t) + 1 + s2.handles.length
      omega
    · show 1 = nHand s2 + (m + 1)
      omega

theorem mountGet_err {e : Env} {s s' : St} {t m : Nat} (h : LInv s t m) {er : Errno} :
    mountGet e s = (s', some er) → LInv s' t m := by
  fun_cases mountGet e s <;> (intro hg; cases hg)
  -- the probe cannot be opened
  case case2 heq1 => exact allocFd_fail h heq1
  -- the reopen fails: the probe is closed
  case case3 heq1 _ heq2 => exact freeFd_linv (allocFd_fail (allocFd_ok h heq1) heq2)

theorem mountPut_led {s : St} {a b : Nat} (h : Led s a (b + 1)) : Led (mountPut s) a b := by
  have hm := h.mr
  have hf := h.fds
  have h1 : mfd s = 1 := if_pos (by omega)
  unfold mountPut
  split
  · refine ⟨h.nh, ?_, ?_, h.hk, h.ck⟩
    · show s.fds - 1 = 2 + a + 0 + s.handles.length
      omega
    · show 0 = b
      omega
  · refine ⟨h.nh, ?_, ?_, h.hk, h.ck⟩
    · show s.fds = 2 + a + (if s.mountRefs - 1 > 0 then 1 else 0) + s.handles.length
      rw [if_pos (by omega)]; omega
    · show s.mountRefs - 1 = b
      omega

theorem isNone_or_isSome (o : Option FhId) :
    (o.isNone = true ∧ o.isSome = false) ∨ (o.isNone = false ∧ o.isSome = true) := by
  cases o <;> simp

/-- dropping an `InodeData` gives back what it owned -/
theorem dropIData_led {s : St} {a b : Nat} (d : IData)
    (h : Led s (a + (if d.fh.isNone then 1 else 0)) (b + (if d.fh.isSome then 1 else 0))) :
    Led (dropIData s d) a b := by
  unfold dropIData
  cases hf : d.fh with
  | none => simp only [hf, Option.isNone_none, Option.isSome_none, if_true] at h ⊢
            exact freeFd_led (by simpa using h)
  | some x => simp only [hf, Option.isNone_some, Option.isSome_some, if_true] at h ⊢
              exact mountPut_led (by simpa using h)

def withData (s : St) (data : List (Ino × IData)) : St := { s with data := data }

theorem dropIData_withData (s : St) (x : List (Ino × IData)) (d : IData) :
    dropIData (withData s x) d = withData (dropIData s d) x := by
  unfold dropIData
  cases d.fh with
  | none => rfl
  | some _ =>
    simp only
    unfold mountPut
    show (if s.mountRefs = 1 then _ else _) = withData (if s.mountRefs = 1 then _ else _) x
    split <;> rfl

theorem dropAll_withData (l : List (Ino × IData)) (x : St) (y : List (Ino × IData)) :
    dropAll (withData x y) l = withData (dropAll x l) y := by
  induction l generalizing x with
  | nil => rfl
  | cons p r ih => obtain ⟨i, d⟩ := p; simp only [dropAll]; rw [dropIData_withData, ih]

/-! ### the inode store: what an entry owns moves between the store and the request in progress,
    i.e. between `nFile s` and `t`, `nHand s` and `m`; `Led` does not see the difference -/

theorem setRefs_linv {s : St} {t m : Nat} (h : LInv s t m) {ino : Ino} {d : IData}
    (hm : mget s.data ino = some d) (r : Nat) : LInv (setRefs s ino d r) t m := by
  have c1 := cnt_mput (fun d : IData => d.fh.isNone) h.nd ino { d with refs := r }
  have c2 := cnt_mput (fun d : IData => d.fh.isSome) h.nd ino { d with refs := r }
  have l := h.led
  refine ⟨h.nd.mput ino _, (show Led (setRefs s ino d r) _ _ from ⟨l.nh, l.fds, l.mr, l.hk, l.ck⟩).cast ?_ ?_⟩ <;>
    simp only [nFile, nHand, setRefs_data, hm, cnt1] at c1 c2 ⊢ <;> omega

/-- `InodeStore::insert` drops the entry it replaces -/
theorem insertInode_led {s : St} {a b : Nat} (ino : Ino) (d : IData)
    (h : Led s (a + cnt1 (·.fh.isNone) (mget s.data ino)) (b + cnt1 (·.fh.isSome) (mget s.data ino))) :
    Led (insertInode s ino d) a b := by
  unfold insertInode
  cases hm : mget s.data ino with
  | none => rw [hm] at h; exact ⟨h.nh, h.fds, h.mr, h.hk, h.ck⟩
  | some old =>
    rw [hm] at h
    have l := dropIData_led old h
    exact ⟨l.nh, l.fds, l.mr, l.hk, l.ck⟩

/-- … and the new entry takes over one temporary: the file's `O_PATH` descriptor, or its mount-fd reference (the
    `O_PATH` descriptor then stays a temporary, for `settlePath` to close) -/
theorem insertInode_linv {s : St} {t m : Nat} (ino : Ino) (d : IData)
    (h : LInv s (t + 1) (m + (if d.fh.isSome then 1 else 0))) :
    LInv (insertInode s ino d) (t + (if d.fh.isSome then 1 else 0)) m := by
  have c1 := cnt_mput (fun d : IData => d.fh.isNone) h.nd ino d
  have c2 := cnt_mput (fun d : IData => d.fh.isSome) h.nd ino d
  have hd : (insertInode s ino d).data = mput s.data ino d := congrArg Tables.data (tables_insertInode s ino d)
  have one : (if d.fh.isNone then 1 else 0) + (if d.fh.isSome then 1 else 0) = 1 := by cases d.fh <;> rfl
  refine ⟨by rw [hd]; exact h.nd.mput ino d, insertInode_led ino d (h.led.cast ?_ ?_)⟩ <;>
    simp only [nFile, nHand, hd] at c1 c2 ⊢ <;> omega

theorem removeInode_led {s : St} {a b : Nat} (ino : Ino) (d : IData) (keep : Bool)
    (h : Led s (a + (if d.fh.isNone then 1 else 0)) (b + (if d.fh.isSome then 1 else 0))) :
    Led (removeInode s ino d keep) a b := by
  unfold removeInode
  cases keep <;> exact dropIData_led d ⟨h.nh, h.fds, h.mr, h.hk, h.ck⟩

theorem removeInode_linv {s : St} {t m : Nat} (h : LInv s t m) {ino : Ino} {d : IData}
    (hm : mget s.data ino = some d) (keep : Bool) : LInv (removeInode s ino d keep) t m := by
  have c1 := cnt_mdel (fun d : IData => d.fh.isNone) h.nd ino
  have c2 := cnt_mdel (fun d : IData => d.fh.isSome) h.nd ino
  refine ⟨by rw [removeInode_data]; exact h.nd.mdel ino, removeInode_led ino d keep (h.led.cast ?_ ?_)⟩ <;>
    simp only [nFile, nHand, removeInode_data, hm, cnt1] at c1 c2 ⊢ <;> omega

theorem LEq.of_alloc {s s' : St} (h : AllocFrame s s') : LEq s s' :=
  ⟨h.data, h.handles, h.fds, h.mountRefs, h.cookies, h.nextHandle⟩

theorem forgetOne_linv (e : Env) {s : St} {t m : Nat} (h : LInv s t m) (i : Ino) (n : Nat) :
    LInv (forgetOne e s i n) t m := by
  rcases forgetOne_cases e s i n with e1 | ⟨d, hd, e1 | e1⟩ <;> rw [e1]
  · exact h
  · exact setRefs_linv h hd _
  · exact removeInode_linv h hd _

theorem toOpenable_ok {e : Env} {s s' : St} {t m : Nat} (fh : Option FhId) (h : LInv s t m) :
    toOpenable e s fh = (s', none) → LInv s' t (m + (if fh.isSome then 1 else 0)) := by
  fun_cases toOpenable e s fh
  -- kept by handle: a reference to the mount fd
  case case1 => intro hg; simpa using mountGet_ok h hg
  -- kept by descriptor: nothing to do
  case case2 => intro hg; cases hg; simpa using h

theorem toOpenable_err {e : Env} {s s' : St} {t m : Nat} (fh : Option FhId) (h : LInv s t m) {er : Errno} :
    toOpenable e s fh = (s', some er) → LInv s' t m := by
  fun_cases toOpenable e s fh
  -- kept by handle: the mount fd cannot be opened
  case case1 => exact mountGet_err h
  -- kept by descriptor: never fails
  case case2 => nofun

theorem mountPut_linv {s : St} {t m : Nat} (h : LInv s t (m + 1)) : LInv (mountPut s) t m := by
  have hd := data_of_tables (tables_mountPut s)
  exact ⟨by rw [hd]; exact h.nd, by unfold nFile nHand; rw [hd]; exact mountPut_led h.led⟩

theorem dropPending_linv {s : St} {t m : Nat} (fh : Option FhId)
    (h : LInv s (t + 1) (m + (if fh.isSome then 1 else 0))) : LInv (dropPending s fh) t m := by
  unfold dropPending
  cases fh with
  | none => simp only; exact freeFd_linv (by simpa using h)
  | some x => simp only; exact freeFd_linv (mountPut_linv (by simpa using h))

theorem settlePath_linv {s : St} {t m : Nat} (fh : Option FhId)
    (h : LInv s (t + (if fh.isSome then 1 else 0)) m) : LInv (settlePath s fh) t m := by
  unfold settlePath
  cases fh with
  | none => simpa using h
  | some x => simp only; exact freeFd_linv (by simpa using h)

/-- the insert path of `do_lookup`, entered with the file's `O_PATH` descriptor open -/
theorem lookupInsert_linv (e : Env) {s : St} {t m : Nat} (f : HFile) (h : LInv s (t + 1) m) :
    LInv (lookupInsert e s f).1 t m := by
  unfold lookupInsert
  split
  · rename_i s1 er heq
    exact freeFd_linv (toOpenable_err f.fh h heq)
  · rename_i s1 heq
    have h1 := toOpenable_ok f.fh h heq
    split
    · rename_i s2 er heq2
      exact dropPending_linv f.fh (h1.of_eq (LEq.of_alloc (allocateInode_alloc heq2).1))
    · rename_i s2 ino heq2
      have h2 := h1.of_eq (LEq.of_alloc (allocateInode_alloc heq2).1)
      split
      · exact dropPending_linv f.fh h2
      · exact settlePath_linv f.fh
          ((insertInode_linv ino { id := f.id, fh := f.fh, refs := 1, safe := f.safe } h2).of_eq ⟨rfl, rfl, rfl, rfl, rfl, rfl⟩)

theorem lookupCore_linv (e : Env) {s : St} {t m : Nat} (f : HFile) (h : LInv s (t + 1) m) :
    LInv (lookupCore e s f).1 t m := by
  unfold lookupCore
  split
  · rename_i ino d hg
    have h1 := setRefs_linv h (getAlt_data hg) (satAdd d.refs 1)
    exact freeFd_linv (h1.of_eq ⟨rfl, rfl, rfl, rfl, rfl, rfl⟩)
  · exact lookupInsert_linv e f h

/-- a descriptor opened by the request becomes a new handle -/
theorem addHandle_linv {s : St} {t m : Nat} (ino : Ino) (h : LInv s (t + 1) m) :
    LInv { s with handles := mput s.handles s.nextHandle ino, nextHandle := s.nextHandle + 1 } t m := by
  have l := h.led
  refine ⟨h.nd, l.nh.mput _ _, ?_, l.mr, ?_, ?_⟩
  · show s.fds = 2 + (nFile s + t) + mfd s + (mput s.handles s.nextHandle ino).length
    rw [length_mput l.nh ino l.nextHandle_free]
    have := l.fds; omega
  · exact forall_mget_mput (P := fun h' _ => h' < s.nextHandle + 1) (Nat.lt_succ_self _)
      fun h' i hm => Nat.lt_succ_of_lt (l.hk h' i hm)
  · intro h' hc
    show (mget (mput s.handles s.nextHandle ino) h').isSome = true
    simp only [mget_mput]
    split
    · rfl
    · exact l.ck h' hc

theorem handleGet_some {s : St} {h : Hnd} {ino : Ino} : handleGet s h ino = true →
    mget s.handles h = some ino := by
  fun_cases handleGet s h ino
  -- an entry under `h`, compared with `ino`
  case case1 hm => exact fun hg => of_decide_eq_true hg ▸ hm
  -- no entry
  case case2 => nofun

theorem release_linv {s : St} {t m : Nat} (h : LInv s t m) {ino : Ino} {hd : Hnd} (hg : handleGet s hd ino = true) :
    LInv { freeFd s with handles := mdel s.handles hd, cookies := s.cookies.filter (· ≠ hd) } t m := by
  have l := h.led
  have hl := length_mdel l.nh (handleGet_some hg)
  refine ⟨h.nd, l.nh.mdel hd, ?_, l.mr, ?_, ?_⟩
  · show s.fds - 1 = 2 + (nFile s + t) + mfd s + (mdel s.handles hd).length
    have := l.fds; omega
  · exact fun h' i hm' => l.hk h' i (mget_mdel_some hm').2
  · intro h' hc
    show (mget (mdel s.handles hd) h').isSome = true
    have hc' : h' ∈ s.cookies.filter (· ≠ hd) := hc
    simp only [List.mem_filter, decide_eq_true_eq] at hc'
    rw [mget_mdel_ne _ (fun e => hc'.2 e.symm)]
    exact l.ck h' hc'.1

theorem cookies_linv {s : St} {t m : Nat} (h : LInv s t m) {c : List Hnd}
    (hc : ∀ x ∈ c, x ∈ s.cookies ∨ (mget s.handles x).isSome = true) : LInv { s with cookies := c } t m :=
  ⟨h.nd, h.led.nh, h.led.fds, h.led.mr, h.led.hk, fun x hx => (hc x hx).elim (h.led.ck x) id⟩

theorem dropAll_led {a b : Nat} (l : List (Ino × IData)) (s : St)
    (h : Led s (a + cnt (·.fh.isNone) l) (b + cnt (·.fh.isSome) l)) : Led (dropAll s l) a b := by
  induction l generalizing s with
  | nil => exact h
  | cons p r ih =>
    obtain ⟨i, d⟩ := p
    exact ih _ (dropIData_led d (h.cast (by rw [cnt_cons]; omega) (by rw [cnt_cons]; omega)))

theorem clearAll_linv {s : St} {t m : Nat} (h : LInv s t m) : LInv (clearAll s) t m := by
  have l := h.led
  have hd : (clearAll s).data = [] := data_of_tables (dropAll_tables _ _)
  refine ⟨by rw [hd]; exact List.nodup_nil, ?_⟩
  unfold nFile nHand
  rw [hd]
  -- the store is emptied first: what its entries owned counts in `a`, `b` until `dropAll` has given it back
  refine dropAll_led s.data _ ⟨List.nodup_nil, ?_, ?_, ?_, ?_⟩
  · show s.fds - s.handles.length = 2 + (0 + t + nFile s) + mfd s + 0
    have := l.fds; omega
  · show s.mountRefs = 0 + m + nHand s
    have := l.mr; omega
  · intro hd i hm; cases hm
  · intro hd hc; cases hc

theorem importRoot_linv (e : Env) {s : St} {t m : Nat} (h : LInv s t m) (root : HAns) :
    LInv (importRoot e s root).1 t m := by
  unfold importRoot
  split
  · rename_i s1 heq; exact allocFd_fail h heq
  · rename_i s1 heq
    have h1 := allocFd_ok h heq
    split
    · exact freeFd_linv h1
    · rename_i f
      split
      · rename_i s2 er heq2; exact freeFd_linv (toOpenable_err f.fh h1 heq2)
      · rename_i s2 heq2
        exact settlePath_linv f.fh (insertInode_linv ROOT_ID _ (toOpenable_ok f.fh h1 heq2))

end Fbr.PtRefs
