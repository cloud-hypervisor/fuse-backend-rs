/-
  Frame lemmas for the SPEC union on the level of disks:
  the union at a path only depends on the layers' entries at that path and its ancestors
  (`merge_frame`, from `expIdx_frame` of Fbr.Lemmas.OvlMerge; `merge_of_upper`: a change of the upper layer
  confined to a subtree leaves the union outside it exactly as it was);
  the law of a point update of the upper layer below a directory that is in the upper layer: what the
  node at the changed entry keeps is `stackWith` of the new entry and the lower candidates
  (`expIdx_child_on`, with `expIdx_setUpper_self` its instance; at the disk as it is, `expIdx_below_upper`);
  putting an empty, non-opaque directory into the upper layer where lower directories merge
  (what `create_upper_dir` does) changes the union nowhere, except that the merged directory
  then shows the new directory's mode and xattr (`merge_upperDir`).
-/
import Fbr.Lemmas.OvlForest

namespace Fbr.Ovl

/-- a visible node without its `user.x` xattr (which copy-up does not copy: known finding) -/
def VNode.dropX : VNode → VNode
  | .file m c _ => .file m c 0
  | .dir m _ => .dir m 0
  | v => v

theorem dirs_upper_first {d : Disk} {pp : Path} {t0 : List Nat} (h : expIdx d pp = 0 :: t0)
    (hd : (d.nodeAt 0 pp).isDir = true) : ∃ tl, dirsIdx d pp (expIdx d pp) = 0 :: tl ∧ ∀ i ∈ tl, i ≠ 0 := by
  obtain ⟨tl, htl⟩ := dirsIdx_head t0 hd
  rw [← h] at htl
  exact ⟨tl, htl, tail_pos ((expIdx_sorted d pp).sublist (dirsIdx_sublist _ _ _)) htl⟩

theorem map_realOf_setUpper (d : Disk) (q : Path) (X : Node) (hu : d.upper.isSome) (p : Path) (l : List Nat)
    (h : p ≠ q ∨ ∀ i ∈ l, i ≠ 0) : l.map (realOf (d.setUpper q X) p) = l.map (realOf d p) := by
  apply List.map_congr_left
  intro i hi
  apply realOf_setUpper_ne d q X hu
  rintro ⟨h0, hp⟩
  rcases h with h | h
  · exact h hp
  · exact h i hi h0

theorem dir_mode_view {N : Node} (h : N.isDir = true) : (Node.dir N.mode 0 0).view.dropX = N.view.dropX := by
  cases N <;> first | rfl | cases h

theorem merge_frame (d d' : Disk) (hidx : d'.indices = d.indices) (q : Path)
    (h : ∀ i q', q'.isSuffixOf q = true → d'.nodeAt i q' = d.nodeAt i q') : merge d' q = merge d q := by
  rw [merge_eq_head, merge_eq_head, expIdx_frame d d' hidx q h]
  cases expIdx d q with
  | nil => rfl
  | cons i rest => simp only []; rw [h i q (below_self q)]

theorem expIdx_setUpper_outside {d : Disk} (hu : d.upper.isSome) (q : Path) (X : Node) (p : Path)
    (hp : q.isSuffixOf p = false) : expIdx (d.setUpper q X) p = expIdx d p :=
  expIdx_frame d _ (indices_setUpper _ _ _) p fun i q' hq' => by
    rw [nodeAt_setUpper_ne _ _ _ hu]
    intro h
    rw [h.2, hp] at hq'
    cases hq'

/-- the lower layers that offer the name `n` in the merged directory `pp`, of whose kept directories `tl`
    are the lower ones -/
def lowerCands (d : Disk) (n : Name) (pp : Path) (tl : List Nat) : List Nat :=
  tl.filter fun i => !(d.nodeAt i (n :: pp)).isAbsent

/-- what the overlay node `n :: pp` keeps when the upper layer has `X` there and `F` are the lower
    candidates: `X` absent, the lower candidates alone; a plain directory, the directories among them
    merged under it; anything else (file, whiteout, opaque directory), `X` alone -/
def stackWith (d : Disk) (n : Name) (pp : Path) (X : Node) (F : List Nat) : List Nat :=
  if X.isAbsent then cutW d (n :: pp) F
  else if X.isDir && !X.isOpaqueDir then 0 :: dirsIdx d (n :: pp) F else [0]

theorem stackWith_absent {d : Disk} {n : Name} {pp : Path} {X : Node} (F : List Nat) (h : X.isAbsent = true) :
    stackWith d n pp X F = cutW d (n :: pp) F := if_pos h

theorem stackWith_plainDir {d : Disk} {n : Name} {pp : Path} {X : Node} (F : List Nat) (ha : X.isAbsent = false)
    (h : (X.isDir && !X.isOpaqueDir) = true) : stackWith d n pp X F = 0 :: dirsIdx d (n :: pp) F := by
  rw [stackWith, ha, h]; rfl

theorem stackWith_alone {d : Disk} {n : Name} {pp : Path} {X : Node} (F : List Nat) (ha : X.isAbsent = false)
    (h : (X.isDir && !X.isOpaqueDir) = false) : stackWith d n pp X F = [0] := by
  rw [stackWith, ha, h]; rfl

theorem stackWith_present {d : Disk} {n : Name} {pp : Path} {X : Node} (F : List Nat) (ha : X.isAbsent = false) :
    ∃ t, stackWith d n pp X F = 0 :: t := by
  cases h : (X.isDir && !X.isOpaqueDir) with
  | true => exact ⟨_, stackWith_plainDir F ha h⟩
  | false => exact ⟨_, stackWith_alone F ha h⟩

/-- Below a directory whose kept directories are `0 :: tl`, the kept stack of a child is decided by the
    upper entry and the lower candidates. -/
theorem expIdx_below_upper {d : Disk} (n : Name) (pp : Path) {tl : List Nat}
    (hpd : dirsIdx d pp (expIdx d pp) = 0 :: tl) :
    expIdx d (n :: pp) = stackWith d n pp (d.nodeAt 0 (n :: pp)) (lowerCands d n pp tl) := by
  rw [expIdx_cons, hpd, List.filter_cons, stackWith]
  cases (d.nodeAt 0 (n :: pp)).isAbsent with
  | true => rfl
  | false => rfl

/-- The law of a point update of the upper layer: on a disk `d'` that keeps at `pp` what `d` keeps and has the
    lower entries of `d` at `n :: pp`, the stack at `n :: pp` is given by the upper entry of `d'` there and the
    lower candidates of `d`. -/
theorem expIdx_child_on {d d' : Disk} (n : Name) (pp : Path) {tl : List Nat}
    (hpd : dirsIdx d pp (expIdx d pp) = 0 :: tl) (htl : ∀ i ∈ tl, i ≠ 0)
    (hpar : expIdx d' pp = expIdx d pp) (hpp : ∀ i, d'.nodeAt i pp = d.nodeAt i pp)
    (hlow : ∀ i, i ≠ 0 → d'.nodeAt i (n :: pp) = d.nodeAt i (n :: pp)) :
    expIdx d' (n :: pp) = stackWith d n pp (d'.nodeAt 0 (n :: pp)) (lowerCands d n pp tl) := by
  have hpd' : dirsIdx d' pp (expIdx d' pp) = 0 :: tl := by
    rw [hpar, dirsIdx_congr d d' pp _ fun i _ => hpp i]; exact hpd
  have hin : ∀ i ∈ tl, d'.nodeAt i (n :: pp) = d.nodeAt i (n :: pp) := fun i hi => hlow i (htl i hi)
  have hF : lowerCands d' n pp tl = lowerCands d n pp tl := List.filter_congr fun i hi => by rw [hin i hi]
  have hl : ∀ i ∈ lowerCands d n pp tl, d'.nodeAt i (n :: pp) = d.nodeAt i (n :: pp) :=
    fun i hi => hin i (List.mem_filter.1 hi).1
  rw [expIdx_below_upper n pp hpd', hF, stackWith, stackWith, cutW_congr d d' _ _ hl, dirsIdx_congr d d' _ _ hl]

theorem expIdx_setUpper_self {d : Disk} (hu : d.upper.isSome) (n : Name) (pp : Path) (X : Node) {tl : List Nat}
    (hpd : dirsIdx d pp (expIdx d pp) = 0 :: tl) (htl : ∀ i ∈ tl, i ≠ 0) :
    expIdx (d.setUpper (n :: pp) X) (n :: pp) = stackWith d n pp X (lowerCands d n pp tl) := by
  rw [expIdx_child_on n pp hpd htl (expIdx_setUpper_outside hu (n :: pp) X pp (not_below_parent n pp))
      (fun i => nodeAt_setUpper_ne _ _ _ hu _ _ fun h => (List.cons_ne_self n pp).symm h.2)
      (fun i hi => nodeAt_setUpper_ne _ _ _ hu _ _ fun h => hi h.1),
    nodeAt_setUpper _ _ _ hu, if_pos ⟨rfl, rfl⟩]

theorem expIdx_upperDir_self {d : Disk} (hu : d.upper.isSome) {n : Name} {pp : Path} (mode : Nat)
    {tl : List Nat} (hpd : dirsIdx d pp (expIdx d pp) = 0 :: tl) (htl : ∀ i ∈ tl, i ≠ 0)
    (habs : (d.nodeAt 0 (n :: pp)).isAbsent = true)
    {j : Nat} {t : List Nat} (hst : expIdx d (n :: pp) = j :: t) (hjd : (d.nodeAt j (n :: pp)).isDir = true) :
    expIdx (d.setUpper (n :: pp) (.dir mode 0 0)) (n :: pp) = 0 :: expIdx d (n :: pp) := by
  -- the lower candidates start with the directory `j`, so cutting them keeps exactly the directories
  have hold := expIdx_below_upper n pp hpd
  rw [stackWith_absent _ habs] at hold
  rw [expIdx_setUpper_self hu n pp _ hpd htl, stackWith_plainDir _ rfl rfl, hold]
  rw [hold] at hst
  obtain ⟨c', hc'⟩ := cutW_head hst
  rw [hc', cutW_of_dir hjd]

theorem expIdx_upperDir_below {d : Disk} (hu : d.upper.isSome) {n : Name} {pp : Path} (mode : Nat)
    (hself : expIdx (d.setUpper (n :: pp) (.dir mode 0 0)) (n :: pp) = 0 :: expIdx d (n :: pp))
    (hpos : ∀ i ∈ expIdx d (n :: pp), i ≠ 0)
    (hbelow : ∀ c, (d.nodeAt 0 (c :: n :: pp)).isAbsent = true) :
    ∀ (l : List Name), l ≠ [] →
      expIdx (d.setUpper (n :: pp) (.dir mode 0 0)) (l ++ n :: pp) = expIdx d (l ++ n :: pp)
  | [], h => absurd rfl h
  | [c], _ => by
    have hnode := nodeAt_setUpper d (n :: pp) (.dir mode 0 0) hu
    generalize hd' : d.setUpper (n :: pp) (.dir mode 0 0) = d' at hself hnode ⊢
    have hq0 : d'.nodeAt 0 (n :: pp) = .dir mode 0 0 := by rw [hnode]; simp
    have hne : ∀ i, d'.nodeAt i (c :: n :: pp) = d.nodeAt i (c :: n :: pp) := fun i => by
      rw [hnode, if_neg (fun h => List.cons_ne_self c (n :: pp) h.2)]
    show expIdx d' (c :: n :: pp) = expIdx d (c :: n :: pp)
    rw [expIdx_cons d' c (n :: pp), expIdx_cons d c (n :: pp), hself,
      dirsIdx_of_plain (by rw [hq0]; rfl) (by rw [hq0]; rfl)]
    rw [dirsIdx_congr d d' (n :: pp) _ (fun i hi => by rw [hnode, if_neg (fun h => hpos i hi h.1)]),
      List.filter_cons]
    have : (!(d'.nodeAt 0 (c :: n :: pp)).isAbsent) = false := by rw [hne, hbelow c]; rfl
    rw [this]
    simp only [Bool.false_eq_true, if_false]
    rw [cutW_congr d d' (c :: n :: pp) _ (fun i _ => hne i)]
    congr 1
    apply List.filter_congr
    intro i _
    rw [hne]
  | c :: c' :: l, _ => by
    have hne : ∀ (l' : List Name) i, l' ≠ [] → (d.setUpper (n :: pp) (.dir mode 0 0)).nodeAt i (l' ++ n :: pp) =
        d.nodeAt i (l' ++ n :: pp) := fun l' i hl' =>
      nodeAt_setUpper_ne _ _ _ hu _ _ fun h => hl' (by simpa using h.2)
    exact expIdx_cons_congr (expIdx_upperDir_below hu mode hself hpos hbelow (c' :: l) (by simp))
      (fun i => hne (c' :: l) i (by simp)) (fun i => hne (c :: c' :: l) i (by simp))

theorem merge_upperDir {d : Disk} (hu : d.upper.isSome) {n : Name} {pp : Path} (mode : Nat)
    {tl : List Nat} (hpd : dirsIdx d pp (expIdx d pp) = 0 :: tl) (htl : ∀ i ∈ tl, i ≠ 0)
    (habs : (d.nodeAt 0 (n :: pp)).isAbsent = true)
    (hbelow : ∀ c, (d.nodeAt 0 (c :: n :: pp)).isAbsent = true)
    {j : Nat} {t : List Nat} (hst : expIdx d (n :: pp) = j :: t) (hjd : (d.nodeAt j (n :: pp)).isDir = true)
    (hmode : mode = (d.nodeAt j (n :: pp)).mode) (q : Path) :
    (merge (d.setUpper (n :: pp) (.dir mode 0 0)) q).dropX = (merge d q).dropX := by
  have hself := expIdx_upperDir_self hu mode hpd htl habs hst hjd
  have hpos : ∀ i ∈ expIdx d (n :: pp), i ≠ 0 := by
    intro i hi h0
    rw [h0] at hi
    have := expIdx_present d n pp 0 hi
    rw [habs] at this; cases this
  by_cases hq : (n :: pp).isSuffixOf q = true
  · obtain ⟨l, hl⟩ := List.isSuffixOf_iff_suffix.1 hq
    subst hl
    cases l with
    | nil =>
      simp only [List.nil_append]
      rw [merge_eq_head, merge_eq_head, hself, hst]
      simp only []
      rw [nodeAt_setUpper _ _ _ hu, if_pos ⟨rfl, rfl⟩, hmode]
      exact dir_mode_view hjd
    | cons c l' =>
      have hb := expIdx_upperDir_below hu mode hself hpos hbelow (c :: l') (by simp)
      rw [merge_eq_head, merge_eq_head, hb]
      cases expIdx d (c :: l' ++ n :: pp) with
      | nil => rfl
      | cons i rest =>
        simp only []
        rw [nodeAt_setUpper_ne _ _ _ hu]
        intro h
        exact List.cons_ne_nil c l' (List.append_left_eq_self.1 h.2)
  · simp only [Bool.not_eq_true] at hq
    have : merge (d.setUpper (n :: pp) (.dir mode 0 0)) q = merge d q := by
      apply merge_frame d _ (indices_setUpper _ _ _)
      intro i q' hq'
      rw [nodeAt_setUpper_ne _ _ _ hu]
      intro h
      rw [h.2] at hq'
      rw [hq'] at hq; cases hq
    rw [this]

/-- the upper layer changed only inside the subtree at `q0`: outside it the union is what it was, exactly -/
theorem merge_of_upper {s s' : St} {L L' : Layer} (hup : s.disk.upper = some L) (hd : s'.disk = s.disk.setLayer 0 L')
    {q0 : Path} (hout : ∀ q, q0.isSuffixOf q = false → L' q = L q) (q : Path) (hq : q0.isSuffixOf q = false) :
    merge s'.disk q = merge s.disk q := by
  rw [hd, merge_frame _ _ (indices_setLayer0 hup) q (nodeAt_outside hup hout hq)]

end Fbr.Ovl
