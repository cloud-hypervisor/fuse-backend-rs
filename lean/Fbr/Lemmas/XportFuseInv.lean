/-
  The handle table of the /dev/fuse transport — FuseDevWriters created by `new` and `split_at` (plus
  readers; no virtio-fs writer) — under ANY operation list.  `step_fws` sorts the steps into four
  shapes as seen from the writers; `FInv` is the invariant: every writer keeps `len ≤ cap` inside
  its window, the windows of all writers partition the original buffer, every write access lies
  in it, and outside it memory is as at the start of the request.
-/
import Fbr.Lemmas.XportFuseC
import Fbr.Lemmas.XportCInv

namespace Fbr.Xport

theorem fdWrite_keep (w : World) (r : Bytes) : (w.fdWrite r).mem = w.mem ∧ (w.fdWrite r).log = w.log := ⟨rfl, rfl⟩

theorem fcommit_world (f : FuseW) (w : World) (other : Option FuseW) :
    (FuseW.commit f w other).2.mem = w.mem ∧ (FuseW.commit f w other).2.log = w.log := by
  unfold FuseW.commit
  by_cases hb : f.buffered = true
  · simp only [hb, not_true_eq_false, if_false]
    split
    · exact ⟨rfl, rfl⟩
    · exact fdWrite_keep _ _
    · exact fdWrite_keep _ _
    · exact ⟨(fdWritev_keep _ _).1, (fdWritev_keep _ _).2.1⟩
  · simp only [hb]
    exact ⟨rfl, rfl⟩

theorem step_fws (s : St) (op : Op) (hnw : s.writers = []) :
    ((step s op).1.fws = s.fws ∧ (step s op).1.writers = [] ∧ KeepW s.w (step s op).1.w ∧ (∀ i, fplaced s i op = []))
    ∨ (∃ h f, FuseOp s op h f) ∨ (∃ h k f a o, FuseSplit s op h k f a o) ∨ (∃ h o f, FuseCommit s op h o f) := by
  rcases step_cases s op with ⟨e, _, _, hd⟩ | ⟨i, b, hrh, _, e⟩ | ⟨i, k, b, a, o, eop, _, _, e⟩ | ⟨i, b, _, hg, _⟩
      | ⟨i, k, b, a, o, _, hg, _⟩ | h | h | h
  · exact .inl ⟨by rw [e], by rw [e]; exact hnw, by rw [e]; exact KeepW.refl _, hd⟩
  · exact .inl ⟨by rw [e], by rw [e]; exact hnw, by rw [e]; exact readerRun_keep b s.w op, fplaced_none (rh_fh hrh)⟩
  · exact .inl ⟨by rw [e], by rw [e]; exact hnw, by rw [e]; exact KeepW.refl _, fplaced_none (by rw [eop]; rfl)⟩
  · rw [hnw] at hg; cases hg
  · rw [hnw] at hg; cases hg
  · exact .inr (.inl h)
  · exact .inr (.inr (.inl h))
  · exact .inr (.inr (.inr h))

/-- the window `[base, base+cap)` of a FuseDevWriter as a one-buffer cursor -/
def FuseW.asBufs (f : FuseW) : IoBufs := ⟨[⟨f.region, f.base, f.cap⟩], 0⟩

def fahead (l : List FuseW) : List Addr := ahead (l.map FuseW.asBufs)

theorem addrs_asBufs (f : FuseW) : addrs f.asBufs.segs = segAddrs ⟨f.region, f.base, f.cap⟩ := by
  simp [FuseW.asBufs, addrs]

theorem fahead_cons (f : FuseW) (l : List FuseW) :
    fahead (f :: l) = segAddrs ⟨f.region, f.base, f.cap⟩ ++ fahead l := by
  rw [← addrs_asBufs]; rfl

theorem set_self {α : Type} (l : List α) (i : Nat) (x : α) (h : l[i]? = some x) : l.set i x = l := by
  obtain ⟨hi, rfl⟩ := List.getElem?_eq_some_iff.mp h
  exact List.set_getElem_self hi

/-- invariant of a /dev/fuse table whose writers all descend, by `split_at`, from one writer over
    the reply buffer `[base0, base0+cap0)` of region `R`, relative to the memory `m0` of the request;
    kept by every operation (`step_finv`).  Field by field what `VInv` is for a virtio-fs table
    (`each` for `wov`, `part` and `wrin` for `wonce`, `reg` for `win`), the windows taking the place of
    what the cursors hold; `part` is where "the windows of two writers are disjoint" comes from
    (`nodup_fahead`); `len` and `frame` are all that the readers of the table need of it (`FInv.memOff`, `reads_run`) -/
structure FInv (R base0 cap0 : Nat) (m0 : Mem) (s : St) : Prop where
  nowr : s.writers = []
  reg : base0 + cap0 ≤ (m0.get R).length
  each : ∀ f ∈ s.fws, f.ok ∧ f.region = R ∧ base0 ≤ f.base ∧ f.base + f.cap ≤ base0 + cap0
  part : (fahead s.fws).Perm (segAddrs ⟨R, base0, cap0⟩)
  wrin : ∀ a ∈ wrAddrs s.w.log, a ∈ segAddrs ⟨R, base0, cap0⟩
  len : ∀ x, (s.w.mem.get x).length = (m0.get x).length
  frame : ∀ a, a ∉ segAddrs ⟨R, base0, cap0⟩ → s.w.mem.byteAt a = m0.byteAt a

section
variable {R base0 cap0 : Nat} {m0 : Mem} {s : St}

theorem FInv.ok_inMem (h : FInv R base0 cap0 m0 s) {i : Nat} {f : FuseW} (hg : s.fws[i]? = some f) : f.ok ∧ f.inMem s.w.mem := by
  obtain ⟨h1, h2, h3, h4⟩ := h.each f (List.mem_of_getElem? hg)
  refine ⟨h1, ?_⟩
  unfold FuseW.inMem
  rw [h2, h.len]
  have := h.reg
  omega

theorem FInv.run_fws (h : FInv R base0 cap0 m0 s) {i : Nat} {f : FuseW} (hg : s.fws[i]? = some f) (op : Op) :
    FwS ((fuseRun f s.w op).1.len - f.len) f s.w (fuseRun f s.w op).1 (fuseRun f s.w op).2 :=
  fuseRun_fws f s.w op (h.ok_inMem hg).1 (h.ok_inMem hg).2

theorem FInv.window (h : FInv R base0 cap0 m0 s) {i n : Nat} {f : FuseW} (hg : s.fws[i]? = some f) (hfit : f.len + n ≤ f.cap) :
    ∀ a ∈ segAddrs ⟨f.region, f.base + f.len, n⟩, a ∈ segAddrs ⟨R, base0, cap0⟩ := by
  obtain ⟨_, f2, f3, f4⟩ := h.each f (List.mem_of_getElem? hg)
  rw [f2]
  exact segAddrs_subset (by omega) (by omega)

theorem step_finv (h : FInv R base0 cap0 m0 s) (op : Op) : FInv R base0 cap0 m0 (step s op).1 := by
  rcases step_fws s op h.nowr with ⟨e1, e2, ek, _⟩ | ⟨i, f, _, hg, e⟩ | ⟨i, k, f, a, o, _, hg, hsp, e⟩ | ⟨i, o, f, _, hg, e⟩
  · exact ⟨e2, h.reg, by rw [e1]; exact h.each, by rw [e1]; exact h.part, by rw [ek.2.2]; exact h.wrin,
      by rw [ek.1]; exact h.len, by rw [ek.1]; exact h.frame⟩
  · rw [e]
    have hs := h.run_fws hg op
    obtain ⟨f1, f2, f3, f4⟩ := h.each f (List.mem_of_getElem? hg)
    have he := hs.eq
    have hw : (fuseRun f s.w op).1.asBufs = f.asBufs := by rw [he]; rfl
    refine ⟨h.nowr, h.reg, ?_, ?_, ?_, fun x => (hs.len x).trans (h.len x),
      fun a ha => (hs.frame a fun hm => ha (h.window hg hs.fits a hm)).trans (h.frame a ha)⟩
    · apply forall_set h.each
      refine ⟨hs.ok, ?_, ?_, ?_⟩ <;> (rw [he]; assumption)
    · simp only [fahead]
      rw [List.map_set, hw, set_self _ _ _ (by rw [List.getElem?_map, hg]; rfl)]
      exact h.part
    · intro a ha
      rcases hs.wr a ha with h1 | h1
      · exact h.wrin a h1
      · exact h.window hg hs.fits a h1
  · rw [e]
    obtain ⟨f1, f2, f3, f4⟩ := h.each f (List.mem_of_getElem? hg)
    obtain ⟨aok, ook, hcap, hab, hob, _, _, _, _, _⟩ := fsplit_ok f1 hsp
    obtain ⟨har, hor⟩ := fsplit_region hsp
    refine ⟨h.nowr, h.reg, forall_set_append h.each ⟨aok, by rw [har]; exact f2, by omega, by omega⟩
      ⟨ook, by rw [hor]; exact f2, by omega, by omega⟩, ?_, h.wrin, h.len, h.frame⟩
    simp only [fahead, List.map_append, List.map_set, List.map_cons, List.map_nil]
    refine (perm_split (s.fws.map FuseW.asBufs) i f.asBufs a.asBufs o.asBufs (by rw [List.getElem?_map, hg]; rfl) ?_).trans h.part
    rw [addrs_asBufs, addrs_asBufs, addrs_asBufs, har, hor, hab, hob, ← hcap, segAddrs_split]
  · rw [e]
    obtain ⟨cm, cl⟩ := fcommit_world f s.w (o.bind fun i => s.fws[i]?)
    exact ⟨h.nowr, h.reg, h.each, h.part, by simp only; rw [cl]; exact h.wrin, by simp only; rw [cm]; exact h.len,
      by simp only; rw [cm]; exact h.frame⟩

theorem exec_finv (ops : List Op) (h : FInv R base0 cap0 m0 s) : FInv R base0 cap0 m0 (exec s ops) :=
  exec_induct step_finv ops h

theorem FInv.memOff (h : FInv R base0 cap0 m0 s) : MemOff (segAddrs ⟨R, base0, cap0⟩) m0 s := ⟨h.len, h.frame⟩

theorem FInv.step_len (h : FInv R base0 cap0 m0 s) (op : Op) :
    ∀ x, ((step s op).1.w.mem.get x).length = (s.w.mem.get x).length :=
  fun x => by rw [(step_finv h op).len, h.len]

/-- while every writer is buffered nothing reaches the descriptor before a `commit` (`exec_allbuf`) -/
def AllBuf (s : St) : Prop := ∀ f ∈ s.fws, f.buffered = true

theorem step_allbuf (h : FInv R base0 cap0 m0 s) (hb : AllBuf s) (op : Op) :
    AllBuf (step s op).1 ∧ ((∀ i o, op ≠ .fc i o) → (step s op).1.w.fd = s.w.fd) := by
  rcases step_fws s op h.nowr with ⟨e1, e2, ek, _⟩ | ⟨i, f, _, hg, e⟩ | ⟨i, k, f, a, o, _, hg, hsp, e⟩ | ⟨i, o, f, eop, hg, e⟩
  · exact ⟨by unfold AllBuf; rw [e1]; exact hb, fun _ => ek.2.1⟩
  · rw [e]
    have hfb := hb f (List.mem_of_getElem? hg)
    exact ⟨forall_set hb (by rw [(h.run_fws hg op).eq]; exact hfb),
      fun _ => (fuseRun_fwc f s.w op hfb (h.ok_inMem hg).1 (h.ok_inMem hg).2).fd⟩
  · rw [e]
    obtain ⟨_, _, _, _, _, _, hab, hob, _, _⟩ := fsplit_ok (h.ok_inMem hg).1 hsp
    exact ⟨forall_set_append hb hab hob, fun _ => rfl⟩
  · rw [e]
    exact ⟨hb, fun hn => absurd eop (hn i o)⟩

theorem exec_allbuf (ops : List Op) (h : FInv R base0 cap0 m0 s) (hb : AllBuf s)
    (hnc : ∀ i o, Op.fc i o ∉ ops) : AllBuf (exec s ops) ∧ (exec s ops).w.fd = s.w.fd := by
  induction ops generalizing s with
  | nil => exact ⟨hb, rfl⟩
  | cons op rest ih =>
    obtain ⟨h1, h2⟩ := step_allbuf h hb op
    obtain ⟨i1, i2⟩ := ih (step_finv h op) h1 (fun i o hm => hnc i o (List.mem_cons_of_mem _ hm))
    refine ⟨i1, ?_⟩
    show (exec (step s op).1 rest).w.fd = s.w.fd
    rw [i2, h2 (fun i o e => hnc i o (by rw [e]; exact List.mem_cons_self))]

end

end Fbr.Xport
