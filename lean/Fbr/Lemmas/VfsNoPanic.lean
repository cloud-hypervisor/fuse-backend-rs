/-
  No modelled panic site is reachable: on a well-formed state whose id mappings satisfy the
  no-overflow guard, requests, mounts and umounts never produce the outcome `panic`.
-/
import Fbr.Vfs
import Fbr.Persist
import Fbr.Lemmas.VfsInv
import Fbr.Lemmas.VfsMap
import Fbr.Lemmas.VfsPseudo
import Fbr.Lemmas.VfsPath
import Fbr.Lemmas.VfsRoute
import Fbr.Lemmas.VfsPersist
import Fbr.Lemmas.VfsStep

namespace Fbr.Lemmas.VfsNoPanic
open Fbr.Vfs Fbr.Persist Fbr.Lemmas.VfsInv Fbr.Lemmas.VfsMap Fbr.Lemmas.VfsPseudo Fbr.Lemmas.VfsPath Fbr.Lemmas.VfsRoute Fbr.Lemmas.VfsPersist Fbr.Lemmas.VfsStep

def MapsGuarded (s : State) : Prop := (∀ i m, s.mountMaps i = some m → MapOk m) ∧ OptMapOk s.globalMap

theorem effectiveMap_ok {s : State} (h : MapsGuarded s) (i : Nat) : OptMapOk (s.effectiveMap i) := by
  unfold State.effectiveMap
  cases hm : s.mountMaps i with
  | none => exact h.2
  | some m => exact h.1 i m hm

/-- ids inside an answer are `u32` -/
def AnsOk : Ans → Prop
  | .ent _ u g => u < U32 ∧ g < U32
  | .plus l => ∀ d ∈ l, d.2.2.1 < U32 ∧ d.2.2.2.1 < U32
  | _ => True

theorem convertEntry_some {s : State} (hg : MapsGuarded s) (idx ino : Nat) (e : Ent) (hu : e.uid < U32) (hgd : e.gid < U32) :
    ∃ r, s.convertEntry idx ino e = some r := by
  obtain ⟨_, _, hr⟩ := remapPair_total true (effectiveMap_ok hg idx) hu hgd
  fun_cases State.convertEntry s idx ino e
  -- the overflow in `remap_id`
  case case2 h => cases h.symm.trans hr
  -- the inode is refused, or the entry is converted
  all_goals exact ⟨_, rfl⟩

theorem pseudoReq_some {s : State} (hg : MapsGuarded s) (r : Req) (idata : Nat) :
    ∃ x, s.pseudoReq r idata = some x ∧ x ≠ .panic := by
  -- the directory callbacks of the pseudo fs translate no ids
  have hfold : ∀ {β : Type} (f : Nat × Nat × Name → Except Nat β) (l : List (Nat × Nat × Name)) (g : Option Nat × List β → Res),
      (∀ y, g y ≠ .panic) → ∃ x, (dirFold (fun d => some (f d)) r.stop l []).map g = some x ∧ x ≠ .panic :=
    fun f l g hgp => by
      obtain ⟨y, hy⟩ := dirFold_some (fun d => some (f d)) r.stop l [] fun _ _ => Option.some_ne_none _
      exact ⟨g y, by rw [hy]; rfl, hgp y⟩
  fun_cases State.pseudoReq s r idata
  -- LOOKUP
  case case1 =>
    fun_cases State.lookupPseudo s idata r.name
    -- a panic of `convert_entry`: excluded, the owner ids of a pseudo node are 0
    case case3 ino _ _ h =>
      obtain ⟨_, hx⟩ := convertEntry_some hg (fsIdx idata) ino (pseudoEnt ino) (Nat.two_pow_pos 32) (Nat.two_pow_pos 32)
      cases h.symm.trans hx
    -- the error of the pseudo lookup, the root entry of a mount point, the error or the entry from `convert_entry`
    all_goals exact ⟨_, rfl, Res.noConfusion⟩
  -- GETATTR: the node, or `ENOENT`
  case case2 => exact ⟨_, rfl, by split <;> exact Res.noConfusion⟩
  -- READDIR and READDIRPLUS of a directory that can be listed
  case case9 | case11 => exact hfold _ _ _ fun _ => Res.noConfusion
  -- a fixed answer: FORGET, ACCESS, OPEN, OPENDIR, STATFS, a directory that cannot be listed, and `ENOSYS` for the rest
  all_goals exact ⟨_, rfl, Res.noConfusion⟩

/-- only the translation of owner ids can make a reply panic, and under the guard it is total:
    in each form of answer the alternatives of `backendReply` are then all of the form `some _` -/
theorem backendReply_some {s : State} (hg : MapsGuarded s) (r : Req) (idx i : Nat) (hans : AnsOk r.ans) :
    ∃ x, s.backendReply r idx i = some x ∧ x ≠ .panic := by
  unfold State.backendReply
  cases ha : r.ans with
  | err e => exact ⟨_, rfl, by split <;> exact Res.noConfusion⟩
  | ent ino u g =>
    rw [ha] at hans
    obtain ⟨x, hx⟩ := convertEntry_some hg idx ino { inode := ino, stIno := ino, uid := u, gid := g } hans.1 hans.2
    obtain ⟨u', g', hr⟩ := remapPair_total true (effectiveMap_ok hg idx) hans.1 hans.2
    dsimp only
    rw [hx, hr]
    cases x <;> split <;> exact ⟨_, rfl, Res.noConfusion⟩
  | num n => dsimp only; split <;> exact ⟨_, rfl, Res.noConfusion⟩
  | unit => dsimp only; split <;> exact ⟨_, rfl, Res.noConfusion⟩
  | dirs l =>
    dsimp only
    generalize hf : dirFold _ r.stop ((List.range l.length).zip l) [] = o
    obtain ⟨y, rfl⟩ : ∃ y, o = some y := hf ▸ dirFold_some _ _ _ _ (fun _ _ => Option.some_ne_none _)
    split <;> exact ⟨_, rfl, Res.noConfusion⟩
  | plus l =>
    rw [ha] at hans
    dsimp only
    generalize hf : dirFold _ r.stop ((List.range l.length).zip l) [] = o
    obtain ⟨y, rfl⟩ : ∃ y, o = some y := by
      rw [← hf]
      apply dirFold_some
      intro x hx
      obtain ⟨hu, hgd⟩ := hans x.2 (List.of_mem_zip hx).2
      obtain ⟨u', g', hr⟩ := remapPair_total true (effectiveMap_ok hg idx) hu hgd
      rw [hr]
      split <;> exact Option.some_ne_none _
    split <;> exact ⟨_, rfl, Res.noConfusion⟩

theorem handle_no_panic {s : State} (hinv : Inv s) (hg : MapsGuarded s) (r : Req)
    (hids : r.uid < U32 ∧ r.gid < U32 ∧ r.setUid < U32 ∧ r.setGid < U32) (hans : AnsOk r.ans) :
    ∃ res calls, s.handle r = some (res, calls) ∧ res ≠ .panic := by
  obtain ⟨hu, hgd, hsu, hsg⟩ := hids
  suffices h : ∃ res calls, s.handle' r = some (res, calls) ∧ res ≠ .panic by
    obtain ⟨res, calls, h1, h2⟩ := h
    exact ⟨dirErr r.op res, calls, by unfold State.handle; rw [h1]; rfl, dirErr_ne_panic h2⟩
  -- every row of the routing that ends in a panic contradicts a totality lemma
  have hr := handle'_routed s r
  generalize nameCheck r = n, s.blocked r = bl, hgr : s.getRealRootfs r.ino = g, s.handle' r = o at hr
  cases hr with
  | ctxPanic hc =>
    obtain ⟨_, _, hr⟩ := remapPair_total false (effectiveMap_ok hg (s.remapIdx r.nodeid)) hu hgd
    rw [hr] at hc; cases hc
  | badName => exact ⟨_, _, rfl, Res.noConfusion⟩
  | blocked => exact ⟨_, _, rfl, Res.noConfusion⟩
  | rootPanic =>
    obtain ⟨_, hx⟩ := getRealRootfs_some hinv r.ino
    rw [hx] at hgr; cases hgr
  | rootErr e => exact ⟨_, _, rfl, by split <;> exact Res.noConfusion⟩
  | secondPanic t hs =>
    obtain ⟨_, hx⟩ := second_some hinv r t
    rw [hx] at hs; cases hs
  | secondErr => exact ⟨_, _, rfl, Res.noConfusion⟩
  | pseudoPanic idata hp =>
    obtain ⟨_, hx, _⟩ := pseudoReq_some hg r idata
    rw [hx] at hp; cases hp
  | pseudo idata _ x _ hp =>
    obtain ⟨_, hx, hxp⟩ := pseudoReq_some hg r idata
    rw [hx] at hp; cases hp
    exact ⟨_, _, rfl, hxp⟩
  | attrPanic b idx i _ ha =>
    obtain ⟨_, _, hr⟩ := remapPair_total false (effectiveMap_ok hg idx) hsu hsg
    rw [hr] at ha; cases ha
  | backend cu cg b idx i t2 au ag =>
    obtain ⟨x, hx, hxp⟩ := backendReply_some hg r idx i hans
    exact ⟨_, _, rfl, by rw [hx]; exact hxp⟩

/-- what a history step must satisfy for the no-panic theorem: ids are `u32`, mappings satisfy the
    guard; save/restore steps are the subject of C19 -/
def OpOk : Op → Prop
  | .mount b _ map => b.rootUid < U32 ∧ b.rootGid < U32 ∧ OptMapOk map
  | .req r => (r.uid < U32 ∧ r.gid < U32 ∧ r.setUid < U32 ∧ r.setGid < U32) ∧ AnsOk r.ans
  | .saveRestore _ => False
  | _ => True

theorem prim_guarded {map : Option Map} {s t : State} (hm : OptMapOk map) (hg : MapsGuarded s) (hp : Prim map s t) :
    MapsGuarded t := by
  cases hp with
  | frame next o i hn => exact hg
  | setMap idx hvac hlt =>
    refine ⟨fun i m hi => ?_, hg.2⟩
    rcases upd_some hi with ⟨_, hv⟩ | ⟨_, hi⟩
    · rw [hv] at hm; exact hm
    · exact hg.1 i m hi
  | ins b idx path hb hvac h0 hlt hi => cases hi <;> exact hg
  | remove inode m0 pseudo hm0 hp =>
    exact ⟨fun i m hi => hg.1 i m (upd_none_some hi).2, hg.2⟩

theorem opMap_ok {op : Op} (h : OpOk op) : OptMapOk (opMap op) := by
  cases op <;> first | exact h.2.2 | trivial

theorem mount_no_panic {s : State} (hinv : Inv s) (hp : PInv s) (hg : MapsGuarded s) (b : Bk) (path : Name) (map : Option Map)
    (hok : OpOk (.mount b path map)) : (s.mount b path map).2.1 ≠ .panic := by
  obtain ⟨hu, hgd, hm⟩ := hok
  intro hpanic
  have he := mount_eff s hinv.next b path map
  rw [hpanic] at he
  generalize (s.mount b path map).1 = t at he
  cases he with
  | slot next idx hn _ hlt hvac _ hi =>
    cases hi with
    | walkPanic comps hw =>
      obtain ⟨_, _, hw', _⟩ := mountWalk_spec comps s.pseudo 1 hp.wf (root_mem hp.wf)
      cases hw'.symm.trans hw
    | entryPanic he =>
      have hg2 : MapsGuarded { s with nextSuper := next, mountMaps := upd s.mountMaps idx map } :=
        prim_guarded hm (prim_guarded hm hg (.frame next s.opts s.initialized hn)) (.setMap idx hvac hlt)
      obtain ⟨_, hx⟩ := convertEntry_some hg2 idx b.rootIno b.rootEnt hu hgd
      rw [hx] at he; cases he

/-- `umount` reports `panic` when the walk of the path or the eviction hit an `unwrap()`: the walk
    is total on a well-formed tree and nothing is evicted with `remove_pseudo_root` off -/
theorem umount_no_panic {s : State} (hp : PInv s) (path : Name) : (s.umount path).2.1 ≠ .panic := by
  fun_cases State.umount s path
  -- an `unwrap()` in the walk
  case case2 comps _ hw =>
    obtain ⟨_, hr⟩ := pathWalk_total comps s.pseudo 1 hp.wf (root_mem hp.wf)
    cases hr.symm.trans hw
  -- an `unwrap()` in the eviction
  case case6 pq hev =>
    simp only [pq, hp.norm] at hev
    cases hev
  -- refused with an error, or unmounted
  all_goals exact Res.noConfusion

end Fbr.Lemmas.VfsNoPanic
