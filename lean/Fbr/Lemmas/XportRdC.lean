/-
  CONTENT of reader operations.  `RdC D b w b' w'`: the cursor advanced by `D.length`, memory is
  untouched, and `D` — the bytes the operation delivered (returned into the caller's buffer or
  handed to the sink) — are the bytes at exactly the addresses passed.  Proved for `read`,
  `read_exact`/`read_obj`, `read_to(_at)` and `read_exact_to` with any scripted sink (short counts,
  EIO, EINTR; overriding the vectored methods or not).
-/
import Fbr.Lemmas.XportOps

namespace Fbr.Xport

theorem markDirty_mem (w : World) (segs : List Seg) (n : Nat) : (markDirty w segs n).mem = w.mem := rfl

def RdC (D : Bytes) (b : IoBufs) (w : World) (b' : IoBufs) (w' : World) : Prop :=
  AdvBy D.length false false b w b' w' ∧ w'.mem = w.mem
    ∧ D = ((addrs b.segs).take D.length).map w.mem.byteAt

theorem RdC.advBy {D : Bytes} {b b' : IoBufs} {w w' : World} (h : RdC D b w b' w') :
    AdvBy D.length false false b w b' w' := h.1

theorem RdC.mem {D : Bytes} {b b' : IoBufs} {w w' : World} (h : RdC D b w b' w') : w'.mem = w.mem := h.2.1

theorem RdC.bytes {D : Bytes} {b b' : IoBufs} {w w' : World} (h : RdC D b w b' w') :
    D = ((addrs b.segs).take D.length).map w.mem.byteAt := h.2.2

theorem RdC.refl {b : IoBufs} {w : World} : RdC [] b w b w :=
  ⟨AdvBy.refl, rfl, by simp⟩

theorem RdC.adv {D : Bytes} {b b' : IoBufs} {w w' : World} (h : RdC D b w b' w') : Adv false false b w b' w' :=
  ⟨_, h.advBy⟩

theorem RdC.trans {D1 D2 : Bytes} {b1 b2 b3 : IoBufs} {w1 w2 w3 : World}
    (h1 : RdC D1 b1 w1 b2 w2) (h2 : RdC D2 b2 w2 b3 w3) : RdC (D1 ++ D2) b1 w1 b3 w3 := by
  obtain ⟨a1, m1, c1⟩ := h1
  obtain ⟨a2, m2, c2⟩ := h2
  refine ⟨by rw [List.length_append]; exact a1.trans a2, m2.trans m1, ?_⟩
  have e2 : D2 = ((addrs b2.segs).take D2.length).map w1.mem.byteAt := by rw [← m1]; exact c2
  rw [List.length_append, List.take_add, List.map_append, ← a1.addrs', ← c1, ← e2]

theorem RdC.inMem {D : Bytes} {b b' : IoBufs} {w w' : World} (h : RdC D b w b' w')
    (hin : InMem w.mem (addrs b.segs)) : InMem w'.mem (addrs b'.segs) := by
  rw [h.mem, h.advBy.addrs']; exact hin.drop _

theorem RdC.hov {D : Bytes} {b b' : IoBufs} {w w' : World} (h : RdC D b w b' w')
    (hov : b.consumed + total b.segs < USIZE) : b'.consumed + total b'.segs < USIZE := by
  rw [h.advBy.inv]; exact hov

theorem consume_rdc {β : Type} (del : β → Bytes) (b : IoBufs) (w : World) (count : Nat) (aux0 : β)
    (f : World → List Seg → Except IoErr Nat × World × β) (hov : b.consumed + total b.segs < USIZE)
    {o : Out Nat β} (ho : consume b w false count aux0 f = o)
    (hok : FOk false w (allocate b.segs count) (f w (allocate b.segs count)))
    (hf : FRd del w (allocate b.segs count) aux0 (f w (allocate b.segs count))) :
    ∃ D, del o.aux = del aux0 ++ D ∧ RdC D b w o.b o.w := by
  obtain ⟨r, ⟨hm, hd⟩, hk, _, e2, e3, hadv⟩ := consume_spec (FRd del w (allocate b.segs count) aux0)
    b w false false count aux0 f hov ho hok (fun _ => frd_same rfl rfl) hf
  rw [take_allocate _ hk] at hd
  have hl : (((addrs b.segs).take (moved r.1)).map w.mem.byteAt).length = moved r.1 := by
    rw [List.length_map, List.length_take, length_addrs]; exact Nat.min_eq_left hadv.1
  exact ⟨_, e2 ▸ hd, by rw [hl]; exact hadv, e3.trans hm, by rw [hl]⟩

theorem read_rdc (b : IoBufs) (w : World) (n : Nat) (hin : InMem w.mem (addrs b.segs))
    (hov : b.consumed + total b.segs < USIZE) :
    RdC (Reader.read b w n).aux b w (Reader.read b w n).b (Reader.read b w n).w := by
  obtain ⟨D, e, h⟩ := consume_rdc (fun bs : Bytes => bs) b w n [] _ hov (rfl : _ = Reader.read b w n)
    (fok_copyOut w _ n _) (copyOut_frd _ w _ n (by rw [addrs_allocate]; exact hin.take n) _ _ rfl)
  rwa [← List.nil_append D, ← e] at h

theorem read_aux_nil (b : IoBufs) (w : World) (n : Nat) (hin : InMem w.mem (addrs b.segs))
    (hov : b.consumed + total b.segs < USIZE)
    (h : (Reader.read b w n).res = .ok 0 ∨ ∃ e, (Reader.read b w n).res = .error e) : (Reader.read b w n).aux = [] := by
  have h1 := (read_advBy b w n hov).consumed
  have h2 := (read_rdc b w n hin hov).1.consumed
  have hk : moved (Reader.read b w n).res = 0 := by
    rcases h with h | ⟨e, h⟩ <;> rw [h] <;> rfl
  exact List.eq_nil_of_length_eq_zero (by omega)

theorem readExact_rdc (fuel : Nat) (b : IoBufs) (w : World) (n : Nat)
    (hin : InMem w.mem (addrs b.segs)) (hov : b.consumed + total b.segs < USIZE) :
    RdC (Reader.readExact fuel b w n []).aux b w (Reader.readExact fuel b w n []).b (Reader.readExact fuel b w n []).w := by
  refine readExact_rule (fun b' w' acc => RdC acc b w b' w') ?_ fuel b w n [] RdC.refl
  intro b' w' n acc h
  have h1 := read_rdc b' w' n (h.inMem hin) (h.hov hov)
  refine ⟨h.trans h1, fun hs => ?_⟩
  rw [read_aux_nil b' w' n (h.inMem hin) (h.hov hov) hs] at h1
  simpa using h.trans h1

theorem readObj_rdc (b : IoBufs) (w : World) (n : Nat) (hin : InMem w.mem (addrs b.segs))
    (hov : b.consumed + total b.segs < USIZE) :
    RdC (Reader.readObj b w n).aux b w (Reader.readObj b w n).b (Reader.readObj b w n).w :=
  readExact_rdc (n + 1) b w n hin hov

theorem readTo_rdc (b : IoBufs) (w : World) (dst : Script) (count : Nat) (at_ : Bool)
    (hin : InMem w.mem (addrs b.segs)) (hov : b.consumed + total b.segs < USIZE) :
    ∃ D, (Reader.readTo b w dst count at_).aux.got = dst.got ++ D
      ∧ RdC D b w (Reader.readTo b w dst count at_).b (Reader.readTo b w dst count at_).w :=
  consume_rdc Script.got b w count dst _ hov rfl (writeVectored_spec dst w _ at_).1
    ((writeVectored_spec dst w _ at_).2.2 (by rw [addrs_allocate]; exact hin.take count))

theorem readExactTo_rdc (fuel : Nat) (b : IoBufs) (w : World) (dst : Script) (count : Nat)
    (hin : InMem w.mem (addrs b.segs)) (hov : b.consumed + total b.segs < USIZE) :
    ∃ D, (Reader.readExactTo fuel b w dst count).aux.got = dst.got ++ D
      ∧ RdC D b w (Reader.readExactTo fuel b w dst count).b (Reader.readExactTo fuel b w dst count).w := by
  refine readExactTo_rule (fun b' w' s => ∃ D, s.got = dst.got ++ D ∧ RdC D b w b' w') ?_ fuel b w dst count
    ⟨[], by simp, RdC.refl⟩
  rintro b' w' s c ⟨D, e, h⟩
  obtain ⟨D1, e1, h1⟩ := readTo_rdc b' w' s c false (h.inMem hin) (h.hov hov)
  exact ⟨D ++ D1, by rw [e1, e, List.append_assoc], h.trans h1⟩

theorem readerRun_rdc (b : IoBufs) (w : World) (op : Op) (hin : InMem w.mem (addrs b.segs))
    (hov : b.consumed + total b.segs < USIZE) :
    RdC (readerOut b w op) b w (readerRun b w op).1 (readerRun b w op).2 := by
  cases op with
  | rd _ n => exact read_rdc b w n hin hov
  | ro _ n => exact readObj_rdc b w n hin hov
  | rt _ count at_ sc =>
    obtain ⟨D, e, hd⟩ := readTo_rdc b w sc count at_.isSome hin hov
    simp only [readerOut, e, List.drop_left]
    exact hd
  | re _ count sc =>
    obtain ⟨D, e, hd⟩ := readExactTo_rdc (count + sc.answers.length + 1) b w sc count hin hov
    simp only [readerOut, e, List.drop_left]
    exact hd
  | _ => exact RdC.refl

end Fbr.Xport
