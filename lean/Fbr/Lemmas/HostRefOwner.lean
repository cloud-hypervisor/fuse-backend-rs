/-
  Fbr.Lemmas.HostRefOwner — the reference host FS satisfies the creation laws `OwnerLaws`
  (Fbr.Lemmas.PtHostOwner): only mkdirat / mknodat / symlinkat / openat(O_CREAT) bring an inode
  into existence, and a new inode carries the creating thread's effective uid and its effective
  gid — or the directory's group when the directory is set-gid.
-/
import Fbr.Lemmas.PtHostOwner
import Fbr.Lemmas.HostRefGood

namespace Fbr.Host.Ref

def NoNewN (s s' : State) : Prop := ∀ o, s.nodes o = none → s'.nodes o = none

theorem nn_refl (s : State) : NoNewN s s := fun _ h => h

theorem nn_of_nodes {s s' : State} (h : s'.nodes = s.nodes) : NoNewN s s' := fun o ho => by rw [h]; exact ho

theorem nn_setNode {s s1 : State} (h : NoNewN s s1) {x : Obj} {n n' : Node} (hx : s.nodes x = some n) :
    NoNewN s (setNode s1 x n') := by
  intro o ho
  simp only [setNode]
  split
  · rename_i e; rw [e, hx] at ho; cases ho
  · exact h o ho

theorem nn_modNode {s s1 : State} (h : NoNewN s s1) {x : Obj} {f : Node → Node} : NoNewN s (modNode s1 x f) := by
  unfold modNode
  split
  · rename_i n1 hn1
    -- `x` has an inode in `s1`, hence in `s`
    cases e : s.nodes x with
    | none => rw [h x e] at hn1; cases hn1
    | some n => exact nn_setNode h e
  · exact h

theorem nn_renameApply {s : State} {a b : Obj} {x y : Name} {c : Obj} {cn : Node} {t : Option Obj} :
    NoNewN s (renameApply s a b x y c cn t) :=
  renameApply_ind' (P := NoNewN s) (nn_refl s) fun _ h => nn_modNode h

theorem Eff.noNew_or_createIn {s : State} {c : HCall} {r : HAns × State} (h : Eff s c r) :
    NoNewN s r.2 ∨ ∃ dfd d dn name k perm rdev data, c.creates = true ∧ c.dirFd = some dfd ∧ fdObj s dfd = some d ∧
      s.nodes d = some dn ∧ r.2.nodes = (createIn s d dn name k perm rdev data).1.nodes := by
  cases h with
  | same | stat | handleOld => exact .inl (nn_refl s)
  | opened | handle | fdent | creds => exact .inl (nn_of_nodes rfl)
  | truncated _ _ hn => exact .inl (nn_setNode (nn_refl s) hn)
  | attr _ _ _ hn => exact .inl (nn_setNode (nn_refl s) hn)
  | creat hd hx hdn =>
    exact .inr ⟨_, _, _, _, _, _, _, _, (Bool.and_eq_true_iff.mp hx).1, rfl, hd, hdn, rfl⟩
  | mkdirat hd hdn | mknodat hd hdn | symlinkat hd hdn =>
    exact .inr ⟨_, _, _, _, _, _, _, _, rfl, rfl, hd, hdn, rfl⟩
  | linkat _ _ hn hdn => exact .inl (nn_setNode (nn_setNode (nn_refl s) hn) hdn)
  | unlinkat _ hdn _ hcn => exact .inl (nn_setNode (nn_setNode (nn_refl s) hcn) hdn)
  | renameat2 => exact .inl nn_renameApply

theorem stepCore_noNew (s : State) (c : HCall) (hc : c.creates = false) : NoNewN s (stepCore s c).2 := by
  rcases (stepCore_eff s c).noNew_or_createIn with h | ⟨_, _, _, _, _, _, _, _, hcr, _⟩
  · exact h
  · rw [hc] at hcr; cases hcr

theorem createIn_new {s : State} {d : Obj} {dn : Node} {name : Name} {k : Kind} {perm rdev : Nat} {data : List UInt8}
    (hdn : s.nodes d = some dn) {o : Obj} {n : Node} (h0 : s.nodes o = none)
    (h1 : (createIn s d dn name k perm rdev data).1.nodes o = some n) :
    n.uid = s.creds.euid ∧ n.gid = (if has dn.perm S_ISGID then dn.gid else s.creds.egid) := by
  have hod : o ≠ d := fun e => by rw [e, hdn] at h0; cases h0
  by_cases hon : o = s.next
  · -- `o` is the inode `createIn` made: the second `setNode` is elsewhere, the first is at `o`
    subst hon
    cases (if_pos rfl).symm.trans ((setNode_other hod).symm.trans h1)
    exact ⟨rfl, rfl⟩
  · rw [createIn_other hod hon, h0] at h1
    cases h1

open Fbr.PtHost in
theorem gidOk_of_createIn (sent : Obj → Bool) (root : Obj) {s : State} {c : HCall} {dfd : Fd} {d : Obj} {dn : Node} {n : Node}
    (hc : c.dirFd = some dfd) (hd : fdObj s dfd = some d) (hdn : s.nodes d = some dn)
    (hg : n.gid = (if has dn.perm S_ISGID then dn.gid else s.creds.egid)) :
    GidOk (ops sent root) s c s.creds.egid n := by
  split at hg
  · rename_i hs
    right
    -- `hs` is about the model's `Ref.S_ISGID`, `GidOk` about `PtHost.S_ISGID`: both unfold to `1024`
    exact ⟨dfd, d, dn, hc, hd, hdn, hs, hg⟩
  · exact .inl hg

open Fbr.PtHost in
theorem stepCore_newOwner (sent : Obj → Bool) (root : Obj) (s : State) (c : HCall) (o : Obj) (n : Node)
    (h0 : s.nodes o = none) (h1 : (stepCore s c).2.nodes o = some n) :
    n.uid = s.creds.euid ∧ GidOk (ops sent root) s c s.creds.egid n := by
  rcases (stepCore_eff s c).noNew_or_createIn with h | ⟨dfd, d, dn, name, k, perm, rdev, data, _, hc, hd, hdn, e⟩
  · rw [h o h0] at h1; cases h1
  · rw [e] at h1
    have := createIn_new hdn h0 h1
    exact ⟨this.1, gidOk_of_createIn sent root hc hd hdn this.2⟩

instance ownerLaws (sent : Obj → Bool) (root : Obj) : Fbr.PtHost.OwnerLaws (ops sent root) where
  new_only := by
    intro s c o hc h0
    show (step s c).2.nodes o = none
    rw [step_nodes]
    exact stepCore_noNew s c hc o h0
  new_owner := by
    intro s c o n h0 h1
    have h1' : (stepCore s c).2.nodes o = some n := by
      have : (step s c).2.nodes o = some n := h1
      rw [step_nodes] at this; exact this
    exact stepCore_newOwner sent root s c o n h0 h1'

end Fbr.Host.Ref
