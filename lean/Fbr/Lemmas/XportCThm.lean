/-
  The readers of a virtio-fs table from the start state of a request (`start_rdinv`), and the GLOBAL
  content statements, for ANY operation list including splits of every handle: the bytes delivered
  by all reader operations, in operation order, are the bytes (of the original memory) at the
  addresses read, in order of reading (`exec_rdlog`); the addresses written, in order of writing,
  hold the bytes stored by all writer operations, in operation order (`exec_wl`).
-/
import Fbr.Lemmas.XportCRun

namespace Fbr.Xport

theorem start_rdinv {st : St} (h : Start st) (hdisj : ∀ a ∈ readable st, a ∉ writable st)
    (hr : ∀ b ∈ st.readers, WF st.w.mem b.segs) : RdInv (writable st) st.w.mem st :=
  ⟨h.rov, inMem_ahead hr, readable_eq_ahead st ▸ hdisj⟩

def deliveredOp (s : St) (op : Op) : Bytes :=
  match op.rh with
  | some h => delivered s h op
  | none => []

def placedOp (s : St) (op : Op) : Bytes :=
  match op.wh with
  | some h => placed s h op
  | none => []

def deliveredLog (s : St) : List Op → Bytes
  | [] => []
  | op :: rest => deliveredOp s op ++ deliveredLog (step s op).1 rest

def placedLog (s : St) : List Op → Bytes
  | [] => []
  | op :: rest => placedOp s op ++ placedLog (step s op).1 rest

theorem deliveredOp_nil {s : St} {op : Op} (h : ∀ i, delivered s i op = []) : deliveredOp s op = [] := by
  unfold deliveredOp; split
  · exact h _
  · rfl

theorem deliveredOp_eq {s : St} {op : Op} {h : Nat} {b : IoBufs} (hrh : op.rh = some h) (hg : s.readers[h]? = some b) :
    deliveredOp s op = readerOut b s.w op := by
  unfold deliveredOp; rw [hrh]; simp only; rw [delivered_eq hrh hg h, if_pos rfl]

theorem placedOp_eq {s : St} {op : Op} {h : Nat} {b : IoBufs} (hwh : op.wh = some h) (hg : s.writers[h]? = some b) :
    placedOp s op = writerIn b s.w op := by
  unfold placedOp; rw [hwh]; simp only; rw [placed_eq hwh hg h, if_pos rfl]

theorem placedOp_nil {s : St} {op : Op} (h : ∀ i, placed s i op = []) : placedOp s op = [] := by
  unfold placedOp; split
  · exact h _
  · rfl

section
variable {W0 : List Addr} {m0 : Mem}

theorem step_rdlog {s : St} (hv : VInv W0 m0 s) (hr : RdInv W0 m0 s) (op : Op) :
    (rdAddrs (step s op).1.w.log).map m0.byteAt = (rdAddrs s.w.log).map m0.byteAt ++ deliveredOp s op := by
  rcases step_cases_nofuse s op hv.nofuse with ⟨e, hd, _⟩ | ⟨h, b, hrh, hg, e⟩ | ⟨h, k, b, a, o, eop, _, _, e⟩ | ⟨h, b, hwh, hg, e⟩
      | ⟨h, k, b, a, o, eop, _, _, e⟩
  · rw [e, deliveredOp_nil hd, List.append_nil]
  · rw [e]
    have hrc := hr.rdc hv.memOff hg op
    have h4 := hrc.advBy.rlog
    simp only
    rw [h4, List.map_append, deliveredOp_eq hrh hg]
    congr 1
    refine Eq.trans ?_ hrc.bytes.symm
    exact List.map_congr_left fun a ha =>
      (hr.agree hv.memOff a (mem_ahead_of hg (List.mem_of_mem_take ha))).symm
  · rw [e, deliveredOp_nil (by rw [eop]; exact delivered_rs s h k), List.append_nil]
  · rw [e, deliveredOp_nil (delivered_none (wh_rh hwh)), List.append_nil]
    simp only
    rw [(hv.wrc hg op).adv.wother]
  · rw [e, deliveredOp_nil (delivered_none (by rw [eop]; rfl)), List.append_nil]

theorem exec_rdlog (ops : List Op) {s : St} (hv : VInv W0 m0 s) (hr : RdInv W0 m0 s) :
    (rdAddrs (exec s ops).w.log).map m0.byteAt = (rdAddrs s.w.log).map m0.byteAt ++ deliveredLog s ops := by
  induction ops generalizing s with
  | nil => simp [exec, deliveredLog]
  | cons op rest ih =>
    show (rdAddrs (exec (step s op).1 rest).w.log).map m0.byteAt = _
    rw [ih (step_vinv hv op) (step_rdinv hr op), step_rdlog hv hr op, deliveredLog, List.append_assoc]

/-- that the addresses written and what the writers still hold are pairwise distinct (`nodup_of_perm_append` on `wonce`) is
    what makes a later operation leave the earlier bytes alone -/
theorem step_wl {s : St} (hv : VInv W0 m0 s) (hW : W0.Nodup) (op : Op) :
    (wrAddrs (step s op).1.w.log).map (step s op).1.w.mem.byteAt = (wrAddrs s.w.log).map s.w.mem.byteAt ++ placedOp s op := by
  have hnd := nodup_of_perm_append hv.wonce hW
  rcases step_writers s op hv.nofuse with ⟨e, ⟨hm, _, hl⟩, hd, _⟩ | ⟨i, b, hwh, hg, e⟩ | ⟨i, k, b, a, o, eop, hg, hs, e⟩
  · rw [placedOp_nil hd, List.append_nil, hl, hm]
  · rw [e]
    have hw := hv.wrc hg op
    have h4 := hw.adv.wlog
    simp only
    rw [placedOp_eq hwh hg, h4, List.map_append, hw.content (ahead_nodup_handle hnd.2.1 hg)]
    congr 1
    exact List.map_congr_left fun a ha => hw.frame a fun hm =>
      hnd.2.2 a ha (mem_ahead_of hg (List.mem_of_mem_take hm))
  · rw [e, placedOp_nil (by rw [eop]; exact placed_ws s i k), List.append_nil]

theorem exec_wl (ops : List Op) {s : St} (hv : VInv W0 m0 s) (hW : W0.Nodup) :
    (wrAddrs (exec s ops).w.log).map (exec s ops).w.mem.byteAt = (wrAddrs s.w.log).map s.w.mem.byteAt ++ placedLog s ops := by
  induction ops generalizing s with
  | nil => simp [exec, placedLog]
  | cons op rest ih =>
    show (wrAddrs (exec (step s op).1 rest).w.log).map (exec (step s op).1 rest).w.mem.byteAt = _
    rw [ih (step_vinv hv op), step_wl hv hW op, placedLog, List.append_assoc]

end

end Fbr.Xport
