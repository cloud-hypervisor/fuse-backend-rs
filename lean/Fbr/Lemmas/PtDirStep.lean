/-
  C16: the sequential walk — a client that resumes each request from the offset
  of the last entry it got, with arbitrary other requests in between — lists the directory once
  (`walk_complete`).  What the host must be able to do for each of the walker's requests is left to a
  predicate that holds `Along` the walk and gives `Serveable`; `Thm/C16` puts `ScanGuard` there.
-/
import Fbr.Lemmas.PtDirReq

namespace Fbr.Lemmas.PtDir
open Fbr.PtDir Fbr.Wire

/-- one step of a sequential walk: arbitrary other requests first, then the walker's own -/
structure Step where
  noise : List Op
  plus : Bool
  h : Nat
  size : Nat

def lastOff (es : List Offer) (c : Nat) : Nat := (es.getLast?.map (·.off)).getD c

def walk (H : Host) : St → Nat → List Step → List (List Offer)
  | _, _, [] => []
  | st, c, s :: more =>
    match readReq H (applyOps H st s.noise) s.plus s.h s.size c none with
    | (_, .error _) => []
    | (st2, .ok es) => if es.isEmpty then [[]] else es :: walk H st2 (lastOff es c) more

/-- every request's buffer can hold at least the next entry (`rem` = the entries not delivered yet).
    `24` is the `getdents64` record length of "." and ".." (`reclen_dot`): the `getdents64` buffer has
    the request's size and must hold those records too, although they are never offered (`fits_of_next`). -/
def Adequate (H : Host) : St → Nat → Dir → List Step → Prop
  | _, _, _, [] => True
  | st, c, rem, s :: more =>
    24 ≤ s.size ∧ (∀ e r, rem = e :: r → fuseLen s.plus e.name.length ≤ s.size) ∧
    match readReq H (applyOps H st s.noise) s.plus s.h s.size c none with
    | (_, .error _) => True
    | (st2, .ok es) => Adequate H st2 (lastOff es c) (rem.drop es.length) more

/-- a predicate on (step, state the walker's request is issued in, offset it resumes from), checked
    along the *actual* walk -/
def Along (H : Host) (P : Step → St → Nat → Prop) : St → Nat → List Step → Prop
  | _, _, [] => True
  | st, c, s :: more =>
    P s (applyOps H st s.noise) c ∧
    match readReq H (applyOps H st s.noise) s.plus s.h s.size c none with
    | (_, .error _) => True
    | (st2, .ok es) => Along H P st2 (lastOff es c) more

theorem along_of_forall (H : Host) (P : Step → St → Nat → Prop) (steps : List Step)
    (h : ∀ s ∈ steps, ∀ st c, P s st c) : ∀ (st : St) (c : Nat), Along H P st c steps := by
  induction steps with
  | nil => intro _ _; trivial
  | cons s more ih =>
    intro st c
    refine ⟨h s (by simp) _ _, ?_⟩
    rcases readReq H (applyOps H st s.noise) s.plus s.h s.size c none with ⟨st2, _ | es⟩
    · trivial
    · exact ih (fun s' hs' => h s' (by simp [hs'])) _ _

/-- executable twin of `Along` (for concrete instances) -/
def alongB (H : Host) (PB : Step → St → Nat → Bool) : St → Nat → List Step → Bool
  | _, _, [] => true
  | st, c, s :: more =>
    PB s (applyOps H st s.noise) c &&
    match readReq H (applyOps H st s.noise) s.plus s.h s.size c none with
    | (_, .error _) => true
    | (st2, .ok es) => alongB H PB st2 (lastOff es c) more

theorem along_of_bool (H : Host) (P : Step → St → Nat → Prop) (PB : Step → St → Nat → Bool)
    (hpb : ∀ s st c, PB s st c = true → P s st c) (steps : List Step) :
    ∀ (st : St) (c : Nat), alongB H PB st c steps = true → Along H P st c steps := by
  induction steps with
  | nil => intro _ _ _; trivial
  | cons s more ih =>
    intro st c h
    simp only [alongB, Bool.and_eq_true] at h
    obtain ⟨h1, h2⟩ := h
    refine ⟨hpb _ _ _ h1, ?_⟩
    generalize readReq H (applyOps H st s.noise) s.plus s.h s.size c none = r at h2 ⊢
    obtain ⟨st2, _ | es⟩ := r
    · trivial
    · exact ih _ _ h2

/-- the guard of the linear-scan fallback for the walker's request `s`, issued in state `st'` to
    resume from offset `c`: if the cached cookie does not hit and `lseek64` cannot take the cookie
    (above i64::MAX, or EINVAL), the scan re-reads the directory from the start with the request's
    size, so every record up to and including the one whose cookie is `c` must fit `s.size` -/
def ScanGuard (H : Host) : Step → St → Nat → Prop := fun s st' c =>
  hitOf st' s.h c = false → (c > I64_MAX ∨ H.seekErr c = some EINVAL) →
    ∀ pre e rest, H.dir = pre ++ e :: rest → e.cookie = c → ∀ x ∈ pre ++ [e], reclen x ≤ s.size

/-- a decidable sufficient condition for `ScanGuard`: the request resumes from 0 (never scanned
    when `lseek64(0)` works), or its buffer holds every record -/
def scanGuardB (H : Host) : Step → St → Nat → Bool := fun s _ c =>
  decide (c = 0) || H.dir.all (fun e => decide (reclen e ≤ s.size))

theorem scanGuard_of_bool (H : Host) (h0 : H.seekErr 0 = none) (s : Step) (st : St) (c : Nat)
    (h : scanGuardB H s st c = true) : ScanGuard H s st c := by
  intro _ hbad pre e rest hd _ x hx
  simp only [scanGuardB, Bool.or_eq_true, decide_eq_true_eq, List.all_eq_true] at h
  rcases h with h | h
  · subst h
    rcases hbad with hb | hb
    · simp [I64_MAX] at hb
    · rw [h0] at hb; cases hb
  · apply h x
    rw [hd, List.append_cons]
    exact List.mem_append_left _ hx

theorem walk_complete {H : Host} (wf : WF H.dir) (hq : H.eofQuirk = false) (W : List Nat) (nod : Bool)
    {P : Step → St → Nat → Prop} (hP : ∀ s st' c', P s st' c' → Serveable H s.size c' (hitOf st' s.h c')) :
    ∀ (steps : List Step) (st : St) (c : Nat) (rest : Dir), Good W nod st → Pos H.dir c rest →
      (∀ s ∈ steps, (∀ op ∈ s.noise, ∀ h ∈ W, op ≠ .releasedir h) ∧ (nod = true ∨ s.h ∈ W)) →
      Along H P st c steps →
      Adequate H st c (real rest) steps → (real rest).length < steps.length →
      (walk H st c steps).flatten = (real rest).map view ∧ (walk H st c steps).getLast? = some [] := by
  intro steps
  induction steps with
  | nil => intro st c rest _ _ _ _ _ hlen; simp at hlen
  | cons s more ih =>
    intro st c rest g hp hsteps halong hadq hlen
    obtain ⟨hnoise, hh⟩ := hsteps s (by simp)
    obtain ⟨hserve, halong'⟩ := halong
    have g1 := applyOps_keeps H s.noise hnoise g
    obtain ⟨h24, hnext, hadq'⟩ := hadq
    have hh1 : (applyOps H st s.noise).noOpendir = true ∨ ∃ fd, (applyOps H st s.noise).fds s.h = some fd :=
      hh.imp (fun hn => g1.2.1.trans hn) (fun hw => Option.isSome_iff_exists.mp (g1.2.2 s.h hw))
    obtain ⟨st2, p, hreq, hreply⟩ :=
      resume_step wf hq (applyOps H st s.noise) g1.1 s.plus s.h s.size c rest hp h24 hnext hh1 (hP _ _ _ hserve)
    simp only [walk, hreq]
    rw [hreq] at hadq' halong'
    simp only [List.length_map] at hadq'
    change Along H _ st2 (lastOff (p.map view) c) more at halong'
    by_cases hpe : p = []
    · -- nothing left: the walk ends with this empty reply
      subst hpe
      have hrem : real rest = [] := Classical.not_not.mp fun hr => hreply.progress hr rfl
      simp [hrem]
    · rw [if_neg (by simpa using hpe)]
      -- where the walker stands after this reply
      obtain ⟨A, B, e, hsplit, hlast, hrealB⟩ := split_at_real_prefix rest p hreply.isPrefix hpe
      have hoff : lastOff (p.map view) c = e.cookie := by
        simp [lastOff, List.getLast?_map, hlast, view]
      rw [hoff] at hadq' halong' ⊢
      have hlenp : 0 < p.length := List.length_pos_iff.mpr hpe
      have hpl : p.length ≤ (real rest).length := hreply.isPrefix.length_le
      obtain ⟨ih1, ih2⟩ := ih st2 e.cookie B (hreply.kept.good g1) (pos_skip (hsplit ▸ hp))
        (fun s' hs' => hsteps s' (by simp [hs'])) halong' (by rw [hrealB]; exact hadq')
        (by rw [hrealB]; simp only [List.length_drop, List.length_cons] at hlen ⊢; omega)
      refine walk_cons (hreply.isPrefix.map view) ?_ ih2
      rw [ih1, hrealB, List.length_map, List.map_drop]

/-- executable twin of `Adequate` (for concrete instances) -/
def adequateB (H : Host) : St → Nat → Dir → List Step → Bool
  | _, _, _, [] => true
  | st, c, rem, s :: more =>
    decide (24 ≤ s.size) &&
    (match rem with
     | [] => true
     | e :: _ => decide (fuseLen s.plus e.name.length ≤ s.size)) &&
    match readReq H (applyOps H st s.noise) s.plus s.h s.size c none with
    | (_, .error _) => true
    | (st2, .ok es) => adequateB H st2 (lastOff es c) (rem.drop es.length) more

theorem adequate_of_bool (H : Host) (steps : List Step) :
    ∀ (st : St) (c : Nat) (rem : Dir), adequateB H st c rem steps = true → Adequate H st c rem steps := by
  induction steps with
  | nil => intro _ _ _ _; trivial
  | cons s more ih =>
    intro st c rem h
    simp only [adequateB, Bool.and_eq_true, decide_eq_true_eq] at h
    obtain ⟨⟨h1, h2⟩, h3⟩ := h
    refine ⟨h1, ?_, ?_⟩
    · intro e r hr
      subst hr
      simpa using h2
    · generalize readReq H (applyOps H st s.noise) s.plus s.h s.size c none = r at h3 ⊢
      obtain ⟨st2, _ | es⟩ := r
      · trivial
      · exact ih _ _ _ h3

end Fbr.Lemmas.PtDir
