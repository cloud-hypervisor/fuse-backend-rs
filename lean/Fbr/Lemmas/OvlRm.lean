/-
  The tail of do_rm from `copy_node_up(parent)` on (`rmTail_cons`: unlink; rmdir of a directory
  that only lower layers have) keeps the forest a valid cache of the disk.  `rmEnd_cons` is the end
  every removal shares: the upper entry is gone, a whiteout takes its place if one is needed.
-/
import Fbr.Lemmas.OvlCreate

namespace Fbr.Ovl

theorem insertedMem_removedMem (mem : Mem) (n : Name) (pp : Path) (pm m' : MNode) :
    insertedMem (removedMem mem n pp pm) n pp { pm with kids := pm.kids.filter (· != n) } m' =
      insertedMem mem n pp pm m' := by
  funext p
  rw [insertedMem_apply, insertedMem_apply, removedMem_apply]
  by_cases h1 : p = pp
  · simp only [h1, if_true]
    congr 2
    simp only [addNames]
    congr 1
    rw [List.filter_filter]
    apply List.filter_congr
    intro x _
    by_cases hx : x = n <;> simp [hx]
  · simp only [h1, if_false]
    by_cases h2 : p = n :: pp
    · simp [h2]
    · simp only [h2, if_false]
      cases h3 : (n :: pp).isSuffixOf p <;> simp

theorem removedMem_congr {mem mem' : Mem} (n : Name) (pp : Path) (pm : MNode)
    (h : ∀ q, (n :: pp).isSuffixOf q = false → mem' q = mem q) :
    removedMem mem' n pp pm = removedMem mem n pp pm := by
  funext q
  rw [removedMem_apply, removedMem_apply]
  by_cases h1 : q = pp
  · simp [h1]
  · simp only [h1, if_false]
    cases h2 : (n :: pp).isSuffixOf q with
    | true => rfl
    | false => simp [h q h2]

/-- the end of `do_rm` once the upper entry (with its whole upper subtree) is gone: the forest drops the name, and a
    whiteout takes the place when one is needed.  `s0` is the consistent state before, which has a node at `n :: pp` (so
    that `pp` is a loaded directory), `L` its upper layer; `s3`, with upper layer `L1`, is `s0` outside the subtree at
    `n :: pp` -/
theorem rmEnd_cons {s0 : St} (hc : Consistent s0) {L : Layer} (hup : s0.disk.upper = some L)
    (pp : Path) (n : Name) {pm node : MNode} (hpm : s0.mem pp = some pm) (hpu : pm.inUpper = true)
    (hnode : s0.mem (n :: pp) = some node) {pr : Real} (hpr : pm.upperReal = some pr)
    (s3 : St) (L1 : Layer) (hd3 : s3.disk = s0.disk.setLayer 0 L1)
    (hm3 : ∀ q, (n :: pp).isSuffixOf q = false → s3.mem q = s0.mem q)
    (hL1a : (L1 (n :: pp)).isAbsent = true)
    (hout : ∀ q, (n :: pp).isSuffixOf q = false → L1 q = L q) (htree : TreeOK L1)
    (hleaf : ∀ c, (L1 (c :: n :: pp)).isAbsent = true) (need : Bool)
    (hneed : need = false → pr.opq = true ∨ lowerEntryExists s0.disk pm n = false) {E : St → Prop} :
    Outcome ((do
        removeChild pp n
        if need then (do
          let ri ← pr.createWhiteout n
          insertChild pp n (newNode ri)) else pure ()) s3)
      (fun _ s' => Consistent s' ∧ Leaves .none (n :: pp) s'.disk ∧ FrameX (n :: pp) s0 s') E := by
  have hlo := hc.parent_loaded hnode hpm
  have hpd := parent_isDir_of_kid hc hup hpm hpu hnode
  obtain ⟨pr', hpr', hprl, hprp, hpru, _, prest, hpreals⟩ := upper_head hc hpm hpu
  rw [hpr] at hpr'; cases hpr'
  have hnpp : (n :: pp).isSuffixOf pp = false := not_below_parent n pp
  obtain ⟨t, ht, hdt, hmt⟩ := removeChild_ok' (s := s3) n ((hm3 pp hnpp).trans hpm)
  rw [bind_ok ht]
  replace hdt : t.disk = s0.disk.setLayer 0 L1 := hdt.trans hd3
  replace hmt : t.mem = removedMem s0.mem n pp pm := hmt.trans (removedMem_congr n pp pm hm3)
  cases need with
  | false =>
    have hH := removed_needsNode hc hup n pp hpm hpreals hpru hpd (hneed rfl) hout hL1a
    -- the subtree goes and nothing takes its place
    have hcf := (consistent_graft hc hup n pp hpm _ none hout htree (fun x => by simp [List.mem_filter])
      (fun m0 h => by cases h) (fun _ => hH) []).congr hdt (hmt.trans (removedMem_eq _ n pp pm))
    exact ⟨hcf, leaves_none _ hcf.roots _ (specStat_unlisted hcf (pm := { pm with kids := pm.kids.filter (· != n) })
      (by rw [hmt, removedMem_apply]; simp) hlo (by simp [List.mem_filter])), fun q hq => by rw [merge_of_upper hup hdt hout q hq]⟩
  | true =>
    have hL1p : (L1 pp).isDir = true := by rw [hout pp hnpp]; exact hpd
    obtain ⟨s4, h4, hd4, hm4⟩ := layerCall_ok' (s := t) (i := pr.layer) (f := fun L => hCreateWhiteout L pr.path n)
      Method.createWhiteout (by rw [hprl, hdt]; rfl) (by rw [hprp]; exact hCreateWhiteout_ok hL1p hL1a)
    have hcwok : pr.createWhiteout n t = .ok { childReal pr n with whiteout := true } s4 := by
      simp only [Real.createWhiteout, hpru, Bool.not_true, Bool.false_eq_true, if_false]
      rw [bind_ok h4]; rfl
    simp only [if_true]
    rw [bind_ok hcwok]
    obtain ⟨s5, hins, hd5, hm5⟩ := insertChild_ok' (s := s4) n (newNode { childReal pr n with whiteout := true })
      (pp := pp) (pm := { pm with kids := pm.kids.filter (· != n) }) (by rw [hm4, hmt, removedMem_apply]; simp)
    rw [hins]
    have hdisk5 : s5.disk = s0.disk.setLayer 0 (L1.set (n :: pp) .whiteout) := by rw [hd5, hd4, hdt, hprl]; rfl
    have hmem5 : s5.mem = insertedMem s0.mem n pp pm (newNode { childReal pr n with whiteout := true }) := by
      rw [hm5, hm4, hmt, insertedMem_removedMem]
    obtain ⟨hcf, hlv, hfr⟩ := entry_put hc hup n pp .whiteout hpm hpu hlo hpd hout htree hleaf rfl (Or.inl rfl) hprl hprp
      (m' := newNode { childReal pr n with whiteout := true }) rfl rfl rfl (fun h => by cases h)
      (fun _ => mem_addNames) hdisk5 (hmem5.trans (insertedMem_eq _ _ _ _ _))
    exact ⟨hcf, hlv, fun q hq => by rw [hfr q hq]⟩

/-- `do_rm` leaves no whiteout behind an upper entry only under an opaque parent directory or when no
    lower layer shows the name -/
theorem whiteout_unneeded {opq ulo lee : Bool} (h : (if opq = true then false else !(ulo && !lee)) = false) :
    opq = true ∨ lee = false := by
  cases opq <;> cases lee <;> simp_all

/-- the tail of `do_rm` for a non-directory, or for a directory that only lower layers have: what
    is left in the upper layer and in the forest -/
theorem rmFinish_cons {s : St} (hc : Consistent s) (pp : Path) (n : Name) (dir : Bool) {pm node : MNode}
    (hpm : s.mem pp = some pm) (hpu : pm.inUpper = true)
    (hnode : s.mem (n :: pp) = some node) (hdir : dir = true → node.inUpper = false) :
    Outcome (rmFinish pp n dir node pm (!(node.upperLayerOnly && !lowerEntryExists s.disk pm n)) s)
      (fun _ s' => Consistent s' ∧ Leaves .none (n :: pp) s'.disk ∧ FrameX (n :: pp) s s') (fun s' => Consistent s' ∧ ViewX s s') := by
  obtain ⟨pr, hpr, hprl, hprp, _⟩ := upper_head hc hpm hpu
  obtain ⟨L, hup⟩ := exists_upper hc hpm hpu
  have hL0 : s.disk.layer pr.layer = some L := by rw [hprl]; exact hup
  unfold rmFinish
  rw [hpr]
  simp only []
  by_cases hnu : node.inUpper = true
  · -- the node has an upper entry: unlink it
    have hdf : dir = false := by
      cases dir with
      | false => rfl
      | true => have := hdir rfl; rw [hnu] at this; cases this
    subst hdf
    simp only [hnu, whenM_true, Bool.false_eq_true, if_false, Bool.true_and]
    cases hunl : hUnlink L pr.path n with
    | error e =>
      rw [bind_err (layerCall_err Method.unlink hL0 hunl)]
      exact ⟨hc.congr rfl rfl, ViewX.of_disk rfl⟩
    | ok L1 =>
      obtain ⟨s3, h3, hd3, hm3⟩ := layerCall_ok' (f := fun L => hUnlink L pr.path n) Method.unlink hL0 hunl
      rw [bind_ok h3]
      rw [hprp] at hunl
      obtain ⟨hL1eq, hqnd⟩ := of_hUnlink_ok hunl
      subst hL1eq
      have hleaf : ∀ m, (L (m :: n :: pp)).isAbsent = true := fun m => leaf_of_nondir (hc.trees 0 L hup) hqnd m
      refine rmEnd_cons hc hup pp n hpm hpu hnode hpr s3 _ (by rw [hd3, hprl]) (fun _ _ => by rw [hm3])
        (by rw [L.set_self]; rfl) (fun q hq => L.set_ne _ (ne_of_not_below hq))
        (treeOK_set (hc.trees 0 L hup) .absent (fun h => by cases h) hleaf)
        (fun c => by rw [L.set_ne _ (List.cons_ne_self c _)]; exact hleaf c) _ whiteout_unneeded
  · -- only lower layers have the node: a whiteout is needed
    simp only [Bool.not_eq_true] at hnu
    have habs := (lowerNode_upper hc hup n pp hpm hnode hpu hnu).2.1
    have hulo : node.upperLayerOnly = false := by
      simp only [MNode.upperLayerOnly]
      cases hrr : node.reals with
      | nil => rfl
      | cons a t =>
        cases t with
        | nil => exact (MNode.inUpper_cons hrr).symm.trans hnu
        | cons b t' => rfl
    simp only [hnu, whenM_false, Bool.false_and, Bool.false_eq_true, if_false, hulo, Bool.not_false, if_true]
    rw [bind_ok (pure_eval () s)]
    exact rmEnd_cons hc hup pp n hpm hpu hnode hpr s L (setLayer0_self hup) (fun _ _ => rfl) habs
      (fun _ _ => rfl) (hc.trees 0 L hup) (leaf_of_nondir (hc.trees 0 L hup) (Node.not_dir_of_absent habs))
      true (fun h => by cases h)

/-- the statements of `do_rm` from `copy_node_up(parent)` on -/
def rmTail (pp : Path) (n : Name) (dir : Bool) : M Unit := do
  copyNodeUp pp
  let node ← getNode (n :: pp)
  let pm ← getNode pp
  let s ← getSt
  rmFinish pp n dir node pm (!(node.upperLayerOnly && !lowerEntryExists s.disk pm n))

theorem rmTail_cons {s : St} (hc : Consistent s) (pp : Path) (n : Name) (dir : Bool) {node : MNode}
    (hnode : s.mem (n :: pp) = some node) (hdir : dir = true → node.inUpper = false) :
    Outcome (rmTail pp n dir s)
      (fun _ s' => Consistent s' ∧ Leaves .none (n :: pp) s'.disk ∧ FrameX (n :: pp) s s')
      (fun s' => Consistent s' ∧ ViewX s s') := by
  -- the node below `pp` makes `pp` a directory node
  have hdn := dirNode_of_child hc hnode
  unfold rmTail
  refine (copyNodeUp_spec pp s hc).bind fun _ s2 hcp => ?_
  obtain ⟨pm2, hpm2, hpu2⟩ := hcp.up
  have hq2 : s2.mem (n :: pp) = some node := by
    rw [hcp.frame _ (by simp [not_below_parent])]; exact hnode
  rw [bind_ok (getNode_ok hq2), bind_ok (getNode_ok hpm2), bind_ok (getSt_eval s2)]
  exact (rmFinish_cons hcp.cons pp n dir hpm2 hpu2 hq2 hdir).imp
    (fun _ _ h => ⟨h.1, h.2.1, FrameX.after (hcp.view hdn) h.2.2⟩)
    (fun _ h => ⟨h.1, (hcp.view hdn).trans h.2⟩)

end Fbr.Ovl
