/-
  How the operations of a history change the state.  What a `mount` can do is listed once, with its
  answer (`Mounted`, and `Ins` for its call of `insert_mount_locked`): a theorem that knows the answer
  does `cases` on `mount_eff` and is left with the rows that give it.  `mount`, `umount`, `init` and
  `destroy` are each a short sequence of primitive changes (`Prim`); requests change nothing.  A predicate
  closed under the primitives is therefore kept by every step (`step_lift`) and holds after every history
  (`after_lift`), which is how all the invariants of the VFS are established.
-/
import Fbr.Vfs
import Fbr.Persist
import Fbr.Lemmas.VfsAlloc

namespace Fbr.Lemmas.VfsStep
open Fbr.Vfs Fbr.Persist Fbr.Lemmas.VfsAlloc

theorem upd_same {α : Type} (f : Nat → Option α) (i : Nat) (v : Option α) : upd f i v i = v := if_pos rfl

theorem upd_other {α : Type} (f : Nat → Option α) {i j : Nat} (v : Option α) (h : j ≠ i) : upd f i v j = f j := if_neg h

theorem upd_upd {α : Type} (f : Nat → Option α) (i : Nat) (v w : Option α) : upd (upd f i v) i w = upd f i w := by
  funext j
  unfold upd
  split <;> rfl

theorem upd_some {α : Type} {f : Nat → Option α} {i j : Nat} {v : Option α} {x : α} (h : upd f i v j = some x) :
    (j = i ∧ v = some x) ∨ (j ≠ i ∧ f j = some x) := by
  unfold upd at h
  split at h
  · exact Or.inl ⟨‹_›, h⟩
  · exact Or.inr ⟨‹_›, h⟩

theorem upd_none_some {α : Type} {f : Nat → Option α} {i j : Nat} {x : α} (h : upd f i none j = some x) :
    j ≠ i ∧ f j = some x := by
  rcases upd_some h with ⟨_, hv⟩ | h
  · cases hv
  · exact h

theorem upd_none_none {α : Type} {f : Nat → Option α} {j : Nat} (h : f j = none) (i : Nat) : upd f i none j = none := by
  unfold upd
  split
  · rfl
  · exact h

theorem after_cons (s : State) (op : Op) (rest : List Op) :
    after s (op :: rest) = if (step s op).2.1 = .panic then s else after (step s op).1 rest := by
  rw [after]
  generalize step s op = x
  obtain ⟨s', r, c⟩ := x
  cases r <;> simp

theorem run_cons (s : State) (op : Op) (rest : List Op) :
    run s (op :: rest) = if (step s op).2.1 = .panic then [(.panic, (step s op).2.2)]
      else ((step s op).2.1, (step s op).2.2) :: run (step s op).1 rest := by
  rw [run]
  generalize step s op = x
  obtain ⟨s', r, c⟩ := x
  cases r <;> simp

theorem run_no_panic (P : State → Prop) {ok : Op → Prop}
    (hstep : ∀ s op, ok op → P s → P (step s op).1 ∧ (step s op).2.1 ≠ .panic) :
    ∀ (ops : List Op) (s : State), (∀ op ∈ ops, ok op) → P s → ∀ x ∈ run s ops, x.1 ≠ .panic := by
  intro ops
  induction ops with
  | nil => intro s _ _ x hx; cases hx
  | cons op rest ih =>
    intro s hok h x hx
    obtain ⟨h', hnp⟩ := hstep s op (hok op List.mem_cons_self) h
    rw [run_cons, if_neg hnp] at hx
    rcases List.mem_cons.mp hx with rfl | hx
    · exact hnp
    · exact ih _ (fun o ho => hok o (List.mem_cons_of_mem _ ho)) h' x hx

/-- the mount record `insert_mount_locked` stores -/
def mntRecord (s : State) (b : Bk) (idx : Nat) (path : Name) (ent : Ent) : Mnt :=
  { idx := idx, ino := b.rootIno, rootEntry := ent, path := path, bk := b.id, map := s.mountMaps idx }

/-- the superblock table after the mount point `inode` lost its previous occupant -/
def dropOld (s : State) (inode : Nat) : Nat → Option Bk :=
  match s.mnts inode with
  | some o => upd s.supers o.idx none
  | none => s.supers

theorem dropOld_other {s : State} {inode i : Nat} (h : ∀ o, s.mnts inode = some o → i ≠ o.idx) :
    dropOld s inode i = s.supers i := by
  fun_cases dropOld s inode
  -- the previous occupant `o` loses its slot, which is not `i`
  case case1 o ho => exact upd_other _ _ (h o ho)
  -- the mount point was free
  case case2 => rfl

theorem dropOld_some {s : State} {inode i : Nat} {b : Bk} : dropOld s inode i = some b → s.supers i = some b := by
  fun_cases dropOld s inode
  -- the previous occupant loses its slot: what is left was there
  case case1 => exact fun h => (upd_none_some h).2
  -- the mount point was free
  case case2 => exact id

/-- what `insert_mount_locked` does to the state `s` at which `mount` calls it for slot `idx`, and the answer of the
    `mount`; the two panic rows are the stages that can answer `none`: the walk (an `unwrap()`) and the root entry
    (`remap_id`) -/
inductive Ins (s : State) (b : Bk) (idx : Nat) (path : Name) : State → Res → Prop
  | walkPanic (comps : List Comp) (hw : s.pseudo.mountWalk 1 comps = none) : Ins s b idx path s .panic
  | entryPanic (he : s.convertEntry idx b.rootIno b.rootEnt = none) : Ins s b idx path s .panic
  | relative : Ins s b idx path s (.verr (.mount EINVAL))
  | badRoot (comps : List Comp) (p' : Pseudo) (inode n : Nat) (hw : s.pseudo.mountWalk 1 comps = some (p', inode)) :
      Ins s b idx path { s with pseudo := p' } (.verr (.mount n))
  | done (comps : List Comp) (p' : Pseudo) (inode : Nat) (ent : Ent) (hc : components path = some comps)
      (hw : s.pseudo.mountWalk 1 comps = some (p', inode)) (he : s.convertEntry idx b.rootIno b.rootEnt = some (.ok ent)) :
      Ins s b idx path { s with pseudo := p', supers := upd (dropOld s inode) idx (some b),
                                mnts := upd s.mnts inode (some (mntRecord s b idx path ent)) } (.mounted idx)

inductive Mounted (map : Option Map) (s : State) (b : Bk) (path : Name) : State → Res → Prop
  | refused (e : VErr) : Mounted map s b path s (.verr e)
  | noSlot (next : Nat) (hn : next < 256) : Mounted map s b path { s with nextSuper := next } (.verr .fsIndex)
  | slot (next idx : Nat) (hn : next < 256) (h0 : idx ≠ 0) (hlt : idx < 256) (hvac : s.supers idx = none)
      (hb : b.mountErr = none ∧ b.maxIno ≤ VFS_MAX_INO) {t : State} {r : Res}
      (hi : Ins { s with nextSuper := next, mountMaps := upd s.mountMaps idx map } b idx path t r) :
      Mounted map s b path t r

theorem mount_eff (s : State) (hn : s.nextSuper < 256) (b : Bk) (path : Name) (map : Option Map) :
    Mounted map s b path (s.mount b path map).1 (s.mount b path map).2.1 := by
  obtain ⟨ha1, _, _, ha4, _⟩ := allocate_spec s hn
  obtain ⟨next, r, hal⟩ := allocate_eq s
  rw [hal] at ha1 ha4
  unfold State.mount
  cases hme : b.mountErr with
  | some e => exact .refused _
  | none =>
    dsimp only
    by_cases hmax : b.maxIno > VFS_MAX_INO
    · rw [if_pos hmax]; exact .refused _
    · rw [if_neg hmax]
      by_cases hie : s.initialized = true ∧ b.ie ≠ 0
      · rw [if_pos hie]; exact .refused _
      · rw [if_neg hie, hal]
        cases r with
        | none => exact .noSlot next ha1
        | some idx =>
          obtain ⟨hne, hlt, hvac⟩ := ha4 idx rfl
          refine .slot next idx ha1 hne hlt hvac ⟨hme, Nat.le_of_not_gt hmax⟩ ?_
          dsimp only
          generalize ({ s with nextSuper := next, mountMaps := upd s.mountMaps idx map } : State) = s2
          fun_cases State.insertMountLocked s2 b idx path
          -- the path is relative
          case case1 => exact .relative
          -- an `unwrap()` in the walk that creates the mount point failed
          case case2 => exact .walkPanic _ ‹_›
          -- `remap_id` overflows on the owner of the root entry
          case case3 => exact .entryPanic ‹_›
          -- `convert_entry` refuses the root inode; the mount point stays created
          case case4 => exact .badRoot _ _ _ _ ‹_›
          -- the backend takes the slot and the mount point
          case case5 => exact .done _ _ _ _ ‹_› ‹_› ‹_›

theorem mount_mounted {s : State} (hn : s.nextSuper < 256) {b : Bk} {path : Name} {map : Option Map} {idx : Nat}
    (h : (s.mount b path map).2.1 = .mounted idx) :
    idx ≠ 0 ∧ idx < 256 ∧ s.supers idx = none ∧ (s.mount b path map).1.supers idx = some b ∧
    ∃ p m, (s.mount b path map).1.mnts p = some m ∧ m.idx = idx ∧ m.map = map ∧ m.bk = b.id := by
  have hm := mount_eff s hn b path map
  rw [h] at hm
  -- the answer leaves the one row where a slot was taken and the mount point attached
  generalize (s.mount b path map).1 = t at hm ⊢
  cases hm with
  | slot next _ _ h0 hlt hvac _ hi =>
    cases hi with
    | done comps p' inode ent =>
      exact ⟨h0, hlt, hvac, upd_same _ _ _, inode, _, upd_same _ _ _, rfl, upd_same _ _ _, rfl⟩

/-- The primitive changes the operations are made of; `map` is the mapping the operation carries
    (only `mount` stores one). -/
inductive Prim (map : Option Map) (s : State) : State → Prop
  | frame (next : Nat) (o : Opts) (i : Bool) (hn : next < 256) :
      Prim map s { s with nextSuper := next, opts := o, initialized := i }
  | setMap (idx : Nat) (hvac : s.supers idx = none) (hlt : idx < 256) :
      Prim map s { s with mountMaps := upd s.mountMaps idx map }
  | ins (b : Bk) (idx : Nat) (path : Name) (hb : b.mountErr = none ∧ b.maxIno ≤ VFS_MAX_INO)
      (hvac : s.supers idx = none) (h0 : idx ≠ 0) (hlt : idx < 256) {t : State} {r : Res} (hi : Ins s b idx path t r) :
      Prim map s t
  | remove (inode : Nat) (m : Mnt) (pseudo : Pseudo) (hm : s.mnts inode = some m)
      (hp : s.rmRoot = false → pseudo = s.pseudo) :
      Prim map s { s with pseudo := pseudo, mnts := upd s.mnts inode none,
                          supers := upd s.supers m.idx none, mountMaps := upd s.mountMaps m.idx none }

def opMap : Op → Option Map
  | .mount _ _ map => map
  | _ => none

theorem umount_cases (s : State) (path : Name) :
    (s.umount path).1 = s ∨ Prim none s (s.umount path).1 := by
  fun_cases State.umount s path
  -- the node the path ends at is a mount point `m`, and the eviction (attempted only with `remove_pseudo_root`) succeeds
  case case7 m hm pq pseudo hev _ =>
    refine .inr (.remove _ m pseudo hm fun hr => ?_)
    simp only [pq, hr] at hev
    exact (Option.some.inj hev).symm
  -- the state is returned as it was: a relative path; the walk hit an `unwrap()` or found nothing; the node it ends at
  -- has no parent or is no mount point; the eviction failed
  all_goals exact .inl rfl

theorem init_cases {s : State} (hn : s.nextSuper < 256) (opts : Nat) :
    Prim none s (s.init opts).1 ∧ (s.init opts).2.1 ≠ .panic := by
  -- three paths: a second INIT is refused and changes nothing; the options are negotiated but `init()` of one of the
  -- backends failed; or all succeeded and `initialized` is set.  Only `opts` and `initialized` are ever written.
  fun_cases State.init s opts <;> exact ⟨.frame _ _ _ hn, Res.noConfusion⟩

theorem destroy_cases {s : State} (hn : s.nextSuper < 256) :
    Prim none s (s.destroy).1 ∧ (s.destroy).2.1 ≠ .panic := by
  -- `initialized` is cleared, or was not set and nothing changes
  fun_cases State.destroy s <;> exact ⟨.frame _ _ _ hn, Res.noConfusion⟩

section lift
variable (P : State → Prop)

theorem mount_lift {map : Option Map} (hP : ∀ {s t}, P s → Prim map s t → P t) {s : State} (hn : s.nextSuper < 256)
    (h : P s) (b : Bk) (path : Name) : P (s.mount b path map).1 := by
  have he := mount_eff s hn b path map
  generalize (s.mount b path map).1 = t, (s.mount b path map).2.1 = r at he ⊢
  cases he with
  | refused => exact h
  | noSlot next hnext => exact hP h (.frame next s.opts s.initialized hnext)
  | slot next idx hnext h0 hlt hvac hb hi =>
    have h2 : P { s with nextSuper := next, mountMaps := upd s.mountMaps idx map } :=
      hP (hP h (.frame next s.opts s.initialized hnext)) (.setMap idx hvac hlt)
    exact hP h2 (.ins (s := { s with nextSuper := next, mountMaps := upd s.mountMaps idx map }) b idx path hb hvac h0 hlt hi)

/-- `ok` is whatever a statement assumes of the operations of its histories; all that is asked of it is
    that it excludes save/restore, which is not a sequence of `Prim`s -/
theorem step_lift (hn : ∀ {s}, P s → s.nextSuper < 256) {s : State} {op : Op}
    (hP : ∀ {s t}, P s → Prim (opMap op) s t → P t) {ok : Op → Prop} (hok : ok op)
    (hsr : ∀ {mode}, ¬ ok (.saveRestore mode)) (h : P s) : P (step s op).1 := by
  cases op with
  | mount b path map => exact mount_lift P hP (hn h) h b path
  | umount path =>
    rcases umount_cases s path with h1 | hp
    · rw [step, h1]; exact h
    · exact hP h hp
  | init opts => exact hP h (init_cases (hn h) opts).1
  | destroy => exact hP h (destroy_cases (hn h)).1
  | req r =>
    rw [step]
    split <;> exact h
  | saveRestore mode => exact absurd hok hsr

theorem after_lift (hn : ∀ {s}, P s → s.nextSuper < 256) (hP : ∀ {map s t}, P s → Prim map s t → P t)
    (ops : List Op) {ok : Op → Prop} (hok : ∀ op ∈ ops, ok op) (hsr : ∀ {mode}, ¬ ok (.saveRestore mode))
    {s : State} (h : P s) : P (after s ops) := by
  induction ops generalizing s with
  | nil => exact h
  | cons op rest ih =>
    rw [after_cons]
    split
    · exact h
    · exact ih (fun o ho => hok o (List.mem_cons_of_mem _ ho)) (step_lift P hn hP (hok op List.mem_cons_self) hsr h)

end lift

end Fbr.Lemmas.VfsStep
