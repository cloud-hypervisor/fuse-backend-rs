/-
  C16: the `(fd position, cached cookie)` invariant is kept by every request,
  whatever its parameters, its callback and the host (no well-formedness needed), hence by every
  history of requests.  `Good` adds to it what a client walking some handles relies on between its
  requests (the mode, those handles open); every operation but a release of one of them keeps it.
-/
import Fbr.Lemmas.PtDir

namespace Fbr.Lemmas.PtDir
open Fbr.PtDir Fbr.Wire

/-- `sound` is what the cached-cookie fast path of `do_readdir` rests on: on a hit it reads on without
    positioning the descriptor.  `closed` and `fresh` are there for `opendir`, whose new handle must not
    find a cookie in its slot. -/
structure Inv (st : St) : Prop where
  sound : ∀ h fd c, st.fds h = some fd → st.cache h = some c → fd.pos = c
  closed : ∀ h, st.fds h = none → st.cache h = none
  fresh : ∀ h, st.next ≤ h → st.fds h = none

/-- every request writes descriptor and cookie of at most one handle `h` (`x`, `y`): the invariant survives
    if it holds of what is written -/
theorem Inv.set {st st' : St} (inv : Inv st) (h : Nat) (x : Option Fd) (y : Option Nat)
    (hfds : st'.fds = upd st.fds h x) (hcache : ∀ k, st'.cache k = upd st.cache h y k)
    (hsound : ∀ fd c, x = some fd → y = some c → fd.pos = c) (hclosed : x = none → y = none)
    (hnext : st.next ≤ st'.next) (hfresh : st'.next ≤ h → x = none) : Inv st' := by
  refine ⟨fun k fd c => ?_, fun k => ?_, fun k hk => ?_⟩ <;> by_cases hkh : k = h
  · subst hkh; rw [hfds, hcache, upd_same, upd_same]; exact hsound fd c
  · rw [hfds, hcache, upd_other _ _ hkh, upd_other _ _ hkh]; exact inv.sound k fd c
  · subst hkh; rw [hfds, hcache, upd_same, upd_same]; exact hclosed
  · rw [hfds, hcache, upd_other _ _ hkh, upd_other _ _ hkh]; exact inv.closed k
  · subst hkh; rw [hfds, upd_same]; exact hfresh hk
  · rw [hfds, upd_other _ _ hkh]; exact inv.fresh k (Nat.le_trans hnext hk)

/-- the cookie `cache_cookie` would store for the batch `b` is the position of `fd` -/
def Agree (b : Dir) (fd : Fd) : Prop := ∀ c, lastCookieL b = some c → fd.pos = c

theorem Agree.nil (fd : Fd) : Agree [] fd := fun _ h => by cases h

theorem getdents_agree {d : Dir} {size pos : Nat} {b : Dir} {p : Nat} (h : getdents d size pos = .ok (b, p)) :
    ∀ c, lastCookieL b = some c → p = c := by
  unfold getdents at h
  split at h
  · cases h; exact fun _ hc => by cases hc
  · split at h
    · cases h
    · cases h
      intro c hc
      rw [hc]; rfl

theorem getdentsFd_agree {H : Host} {size : Nat} {fd : Fd} {b : Dir} {fd' : Fd} :
    getdentsFd H size fd = (.ok b, fd') → Agree b fd' := by
  fun_cases getdentsFd H size fd
  -- `getdents` answered a batch
  case case4 hg => intro h; cases h; exact getdents_agree hg
  -- the two answers of the `eofQuirk` are empty batches; an errno is not `.ok`
  all_goals intro h; cases h <;> exact .nil _

theorem scan_agree {H : Host} {size offset fuel : Nat} {fd : Fd} {found : Bool} {b : Dir} {fd' : Fd} :
    scan H size offset fuel fd found = (.ok b, fd') → Agree b fd' := by
  fun_induction scan H size offset fuel fd found
  -- the target ends the batch, or is not in it: the scan goes on
  case case6 ih | case7 ih => exact ih
  -- `found`: the batch as `getdentsFd` gave it
  case case4 hg _ => intro h; cases h; exact getdentsFd_agree hg
  -- a non-empty suffix of the batch has the batch's last cookie
  case case5 hg _ _ _ hs hne =>
    intro h; cases h
    rw [Agree, skipL_suffix_last _ offset _ hs (by simpa using hne)]; exact getdentsFd_agree hg
  -- out of fuel or an empty batch: `[]`; an errno is not `.ok`
  all_goals intro h; cases h <;> exact .nil _

theorem refetch_agree {H : Host} {size fuel : Nat} {b0 : Dir} {fd0 : Fd} {b : Dir} {fd : Fd} (ha : Agree b0 fd0) :
    refetch H size fuel b0 fd0 = (.ok b, fd) → Agree b fd := by
  fun_induction refetch H size fuel b0 fd0
  -- a batch of "." / ".." only: the next one is read
  case case3 hg ih => exact ih (getdentsFd_agree hg)
  -- out of fuel, or a batch that is empty or holds an entry: `b0` as it came; an errno is not `.ok`
  all_goals intro h; cases h <;> exact ha

theorem fetch_agree {H : Host} {hit : Bool} {fd0 : Fd} {size offset : Nat} {b : Dir} {fd : Fd} :
    fetch H hit fd0 size offset = (.ok b, fd) → Agree b fd := by
  fun_cases fetch H hit fd0 size offset
  -- the cached cookie hits, or `lseek64` takes the cookie: one read
  case case1 | case3 => exact getdentsFd_agree
  -- the cookie is above `i64::MAX`, or `lseek64` answers `EINVAL`: the scan
  case case2 | case4 => exact scan_agree
  -- any other errno of `lseek64` is the answer
  all_goals intro h; cases h

def Kept (st st' : St) : Prop :=
  Inv st' ∧ st'.noOpendir = st.noOpendir ∧ st'.next = st.next ∧ (∀ h', (st'.fds h').isSome = (st.fds h').isSome)

theorem Inv.kept {st : St} (inv : Inv st) (refs : List Nat) : Kept st { st with refs := refs } :=
  ⟨⟨inv.sound, inv.closed, inv.fresh⟩, rfl, rfl, fun _ => rfl⟩

theorem kept_update (st st' : St) (inv : Inv st) (h : Nat) (fd0 fd : Fd) (hfd : st.fds h = some fd0)
    (co : Option Nat) (hco : ∀ c, co = some c → fd.pos = c)
    (h1 : st'.fds = upd st.fds h (some fd)) (h2 : ∀ x, st'.cache x = upd st.cache h co x)
    (h3 : st'.next = st.next) (h4 : st'.noOpendir = st.noOpendir) : Kept st st' := by
  refine ⟨inv.set h (some fd) co h1 h2 (fun _ c hf => Option.some.inj hf ▸ hco c) (fun hn => by cases hn)
    (Nat.le_of_eq h3.symm) fun hle => ?_, h4, h3, fun x => ?_⟩
  · rw [h3] at hle
    rw [inv.fresh h hle] at hfd; cases hfd
  · rw [h1]
    by_cases hx : x = h
    · rw [hx, upd_same, hfd]; rfl
    · rw [upd_other _ _ hx]

theorem doReaddir_kept {σ : Type} (H : Host) (st : St) (inv : Inv st) (plus : Bool) (h size offset : Nat)
    (cb : Cb σ) (s0 : σ) : Kept st (doReaddir H st plus h size offset cb s0).st := by
  unfold doReaddir
  by_cases hsz : size = 0
  · simp only [hsz, if_true]; exact inv.kept _
  simp only [hsz, if_false]
  by_cases hno : st.noOpendir = true
  · simp only [hno, if_true, setFd]
    split
    · exact inv.kept _
    · split
      · exact inv.kept _
      · exact hno ▸ inv.kept _
  · have hno' : st.noOpendir = false := by simpa using hno
    simp only [hno', Bool.false_eq_true, if_false, setFd]
    cases hfd : st.fds h with
    | none => exact inv.kept _
    | some fd0 =>
      simp only
      -- the cookie is dropped first; one is cached again only with the batch it is the last of
      have hdrop := fun fd st' => kept_update st st' inv h fd0 fd hfd none (fun c hc => by cases hc)
      split
      next hf => exact hdrop _ _ rfl (fun _ => rfl) rfl hno'.symm
      next b0 fd1 hf =>
        split
        next hr => exact hdrop _ _ rfl (fun _ => rfl) rfl hno'.symm
        next b fd2 hr =>
          -- the cookie cached again is the one of the batch: `Agree` says it is the descriptor's position
          refine kept_update st _ inv h fd0 fd2 hfd (lastCookieL b)
            (refetch_agree (fetch_agree hf) hr) ?_ (fun x => ?_) ?_ ?_ <;>
            cases lastCookieL b <;> simp [hno', upd]
          split <;> rfl

def Open (st : St) (W : List Nat) : Prop := ∀ h ∈ W, (st.fds h).isSome = true

/-- what a walker on the handles `W` relies on between its requests -/
def Good (W : List Nat) (nod : Bool) (st : St) : Prop := Inv st ∧ st.noOpendir = nod ∧ Open st W

theorem Kept.good {st st' : St} (k : Kept st st') {W : List Nat} {nod : Bool} (g : Good W nod st) : Good W nod st' :=
  ⟨k.1, k.2.1.trans g.2.1, fun h hh => (k.2.2.2 h).trans (g.2.2 h hh)⟩

theorem opendir_good (st : St) {W : List Nat} {nod : Bool} (g : Good W nod st) : Good W nod (opendir st).1 := by
  obtain ⟨inv, hnod, hW⟩ := g
  unfold opendir
  split
  · exact ⟨inv, hnod, hW⟩
  · -- the handle being allocated has no cookie: its slot was free
    have hnone := inv.closed _ (inv.fresh _ (Nat.le_refl _))
    refine ⟨inv.set st.next (some {}) none rfl (fun k => ?_) (fun _ _ _ hc => by cases hc) (fun hn => by cases hn)
      (Nat.le_succ _) (fun hle => absurd hle (Nat.not_succ_le_self _)), hnod, ?_⟩
    · show st.cache k = _
      unfold upd; split
      · subst k; exact hnone
      · rfl
    · intro h' hh
      simp only [upd]
      split
      · rfl
      · exact hW h' hh

theorem opendir_inv (st : St) (inv : Inv st) :
    Inv (opendir st).1 ∧ (opendir st).1.noOpendir = st.noOpendir ∧
    (∀ h', (st.fds h').isSome = true → ((opendir st).1.fds h').isSome = true) := by
  have g := fun W hW => opendir_good st (W := W) (nod := st.noOpendir) ⟨inv, rfl, hW⟩
  exact ⟨(g [] fun _ h => by cases h).1, (g [] fun _ h => by cases h).2.1,
    fun h' hs => (g [h'] fun h hh => List.mem_singleton.mp hh ▸ hs).2.2 h' (List.mem_singleton.mpr rfl)⟩

theorem releasedir_inv (st : St) {W : List Nat} {nod : Bool} (g : Good W nod st) (h : Nat) (hh : h ∉ W) :
    Good W nod (releasedir st h).1 := by
  fun_cases releasedir st h
  -- the handle is open: it goes with its cookie
  case case3 =>
    refine ⟨g.1.set h none none rfl (fun _ => rfl) (fun _ _ hf => by cases hf) (fun _ => rfl) (Nat.le_refl _)
      (fun _ => rfl), g.2.1, fun h' hh' => ?_⟩
    simp only [upd_other _ _ (fun heq : h' = h => hh (heq ▸ hh'))]
    exact g.2.2 h' hh'
  -- `ENOSYS` without opendir, `EBADF` for a handle that is not open
  all_goals exact g

inductive Op where
  | opendir
  | releasedir (h : Nat)
  | read (plus : Bool) (h size off : Nat) (errAt : Option Nat)
  deriving Repr, DecidableEq

def applyOp (H : Host) (st : St) : Op → St
  | .opendir => (opendir st).1
  | .releasedir h => (releasedir st h).1
  | .read plus h size off errAt => (readReq H st plus h size off errAt).1

def applyOps (H : Host) (st : St) (ops : List Op) : St := ops.foldl (applyOp H) st

theorem readReq_kept (H : Host) (st : St) (inv : Inv st) (plus : Bool) (h size off : Nat) (errAt : Option Nat) :
    Kept st (readReq H st plus h size off errAt).1 := by
  have := doReaddir_kept H st inv plus h size off (srvCb size plus errAt) ({} : Acc)
  unfold readReq
  dsimp only
  split <;> exact this

theorem applyOp_keeps (H : Host) {W : List Nat} {nod : Bool} {st : St} (g : Good W nod st) (op : Op)
    (hop : ∀ h ∈ W, op ≠ .releasedir h) : Good W nod (applyOp H st op) := by
  cases op with
  | opendir => exact opendir_good st g
  | releasedir h0 => exact releasedir_inv st g h0 fun hh => hop h0 hh rfl
  | read plus h size off errAt => exact (readReq_kept H st g.1 plus h size off errAt).good g

theorem applyOps_keeps (H : Host) {W : List Nat} {nod : Bool} (ops : List Op)
    (hops : ∀ op ∈ ops, ∀ h ∈ W, op ≠ .releasedir h) {st : St} (g : Good W nod st) : Good W nod (applyOps H st ops) :=
  List.foldlRecOn ops _ g fun _ gs op ho => applyOp_keeps H gs op (hops op ho)

end Fbr.Lemmas.PtDir
