/-
  do_link keeps the forest a valid cache of the disk: copy the source up, copy the new parent up,
  then create the new name like do_mknod does (`createTailG` with `link` as the creating call).
-/
import Fbr.Lemmas.OvlRmdir
import Fbr.Lemmas.OvlAttr

namespace Fbr.Ovl

theorem nondir_not_ancestor {s : St} (hc : Consistent s) {src pp : Path} {sm pm : MNode}
    (hsm : s.mem src = some sm) {r : Real} {rest : List Real} (hr : sm.reals = r :: rest)
    (hnd : (s.disk.statReal r).isDir = false)
    (hpm : s.mem pp = some pm) {rp : Real} {restp : List Real} (hrp : pm.reals = rp :: restp)
    (hpd : (s.disk.statReal rp).isDir = true) : src.isSuffixOf pp = false := by
  cases hb : src.isSuffixOf pp with
  | false => rfl
  | true =>
    exfalso
    by_cases he : pp = src
    · subst he
      rw [hsm] at hpm; cases hpm
      rw [hr] at hrp; cases hrp
      rw [hnd] at hpd; cases hpd
    · obtain ⟨o, c, ho, hck⟩ := parent_of_below hc hpm hb he
      rw [hsm] at ho; cases ho
      rw [(nondir_no_kids hc hsm hr hnd).1] at hck
      cases hck

/-- `RealInode::link` to the existing upper non-directory `X` is the creation of `X` under the new name -/
theorem link_eq_mkNode {src : Path} {n : Name} {X : Node} (hXa : X.isAbsent = false) (hXd : X.isDir = false)
    (r : Real) (s : St) (L : Layer) (hL : s.disk.layer r.layer = some L) (hsrc : L src = X) :
    r.link src n s = r.mkNode .link n X s := by
  have hlink : hLink L src r.path n = hMk L r.path n X := by
    unfold hLink
    rw [hsrc]
    cases X <;> simp_all [Node.isAbsent, Node.isDir]
  have hcall : layerCall r.layer .link (hLink · src r.path n) s = layerCall r.layer .link (hMk · r.path n X) s := by
    simp only [layerCall, hL, hlink]
  unfold Real.link Real.mkNode
  split
  · rfl
  · show M.bind _ _ s = M.bind _ _ s
    unfold M.bind
    rw [hcall]

/-- what a successful link leaves: both names show the same non-directory -/
def Linked (src dst : Path) (d : Disk) : Prop :=
  merge d dst = merge d src ∧ merge d src ≠ .none ∧ ∀ m x, merge d src ≠ .dir m x

/-- the statements of `do_link` after the two copy-ups -/
def linkTail (src pp : Path) (n : Name) : M Unit := do
  let sm ← getNode src
  match sm.reals with
  | [] => fail EOTHER
  | sr :: _ => do
    let old ← catchEnoent (lookupNode pp n)
    checkOld old
    createTailG pp n false old (fun pr => pr.link sr.path n)

theorem linkTail_cons {s : St} (hc : Consistent s) (src pp : Path) (n : Name)
    {sm : MNode} (hsm : s.mem src = some sm) (hsu : sm.inUpper = true)
    {sr : Real} {srest : List Real} (hsr : sm.reals = sr :: srest)
    (hnd : (s.disk.statReal sr).isDir = false) (hnw : (s.disk.statReal sr).isWhiteout = false)
    {pm : MNode} (hpm : s.mem pp = some pm) (hpu : pm.inUpper = true) (hlo : pm.loaded = true)
    (hpw : pm.whiteout = false) :
    Outcome (linkTail src pp n s) (fun _ s' => Consistent s' ∧ Linked src (n :: pp) s'.disk)
      (fun s' => Consistent s') := by
  obtain ⟨r0, _, hrl, hrp, _, _, rest0, hr0⟩ := upper_head hc hsm hsu
  rw [hsr] at hr0; cases hr0
  have hpres := head_present hc hsm hsr
  have hsw : sm.whiteout = false := by rw [whiteout_eq_stat hc hsm hsr]; exact hnw
  unfold linkTail
  rw [bind_ok (getNode_ok hsm)]
  simp only [hsr]
  refine Outcome.lookupOld hc hpm hpw hlo n hc fun old hold => ?_
  -- a node at the new name is a whiteout node
  have hnew : ∀ o, s.mem (n :: pp) = some o → o.whiteout = true := by
    intro o ho
    cases old with
    | none => exact absurd (hc.listed hpm ho) hold
    | some o' => rw [hold.1] at ho; cases ho; exact hold.2
  -- so the source, which is not one, is neither there nor below it (whiteout nodes list nothing)
  have hnb : (n :: pp).isSuffixOf src = false := by
    cases hb : (n :: pp).isSuffixOf src with
    | false => rfl
    | true =>
      exfalso
      by_cases he : src = n :: pp
      · have := hnew sm (he ▸ hsm)
        rw [hsw] at this; cases this
      · obtain ⟨o, c, ho, hckid⟩ := parent_of_below hc hsm hb he
        rw [(whiteoutNode_no_kids hc ho (hnew o ho)).1] at hckid
        cases hckid
  have hne : src ≠ n :: pp := ne_of_not_below hnb
  -- the entry that gets the second name
  generalize hX : s.disk.statReal sr = X at hnd hnw hpres
  have hXup : ∀ L, s.disk.upper = some L → L src = X := by
    intro L hup
    rw [← hX]
    rw [Disk.statReal, hrl, hrp, nodeAt_zero hup]
  have hNew : NewEntry false X := ⟨hpres, hnw, fun h => (by cases h), fun _ => hnd⟩
  refine (createTailG_cons hc pp n false old (fun pr => pr.link sr.path n) .link X hNew
    (C := fun L => L src = X) (by rw [hrp]; exact link_eq_mkNode hpres hnd)
    (fun L hup => ⟨hXup L hup, by simp only [Layer.set, if_neg hne]; exact hXup L hup⟩)
    hpm hpu hlo hold).imp (fun _ s' h => ?_) fun _ h => h.1
  obtain ⟨hc', _, ⟨hv', _⟩, hfr⟩ := h
  -- the source, outside the subtree at the new name, shows what it showed
  have hs : merge s'.disk src = X.view := by
    rw [hfr src hnb, merge_eq_specStat _ hc.roots, specStat_of_upNode (N := X)
      ⟨hc, ⟨sm, hsm, hsu⟩, by rw [← hX]; simp [Disk.statReal, hrl, hrp]⟩ hnw]
    rfl
  exact ⟨hc', hv'.trans hs.symm, hs ▸ Node.view_ne_none hnw hpres, fun m x => hs ▸ Node.view_ne_dir hnd m x⟩

theorem doLink_tail_eq (src pp : Path) (n : Name) :
    (do
      let sm ← getNode src
      match sm.reals with
      | [] => fail EOTHER
      | sr :: _ => do
        let old ← catchEnoent (lookupNode pp n)
        checkOld old
        let pr ← getUpperReal pp
        whenM (oldInUpper old) (tryDeleteWhiteout pr n)
        let ri ← pr.link sr.path n
        installChild pp n false old pr ri : M Unit) = linkTail src pp n := rfl

/-- `do_link` from a state where the new parent has been looked up (a loaded directory node) -/
theorem doLink_spec (src pp : Path) (n : Name) (s : St) (hc : Consistent s)
    {pm : MNode} (hpm : s.mem pp = some pm) (hlo : pm.loaded = true)
    {rp : Real} {restp : List Real} (hrp : pm.reals = rp :: restp) (hpd : (s.disk.statReal rp).isDir = true) :
    Outcome (doLink src pp n s) (fun _ s' => Consistent s' ∧ Linked src (n :: pp) s'.disk)
      (fun s' => Consistent s') := by
  unfold doLink
  rw [bind_ok (hasUpper_eval s)]
  refine Outcome.guard hc fun _ => ?_
  cases hsm : s.mem src with
  | none => rw [bind_err (getNode_err hsm)]; exact hc
  | some sm =>
    rw [bind_ok (getNode_ok hsm), bind_ok (getNode_ok hpm)]
    refine Outcome.guard hc fun hww => ?_
    have hsw : sm.whiteout = false := by
      cases h : sm.whiteout with
      | false => rfl
      | true => simp [h] at hww
    refine Outcome.nodeStat hc hsm hc fun sr srest hsr => ?_
    refine Outcome.guard hc fun hsd => ?_
    simp only [Bool.not_eq_true] at hsd
    have hsnw : (s.disk.statReal sr).isWhiteout = false := by
      rw [← whiteout_eq_stat hc hsm hsr]; exact hsw
    have hnotanc := nondir_not_ancestor hc hsm hsr hsd hpm hrp hpd
    -- copy the source up, then the new parent
    refine ((copyNodeUp_spec src s hc).imp (fun _ _ h => h) fun _ h => h.1).bind fun _ s1 hcp1 => ?_
    refine ((copyNodeUp_spec pp s1 hcp1.cons).imp (fun _ _ h => h) fun _ h => h.1).bind fun _ s2 hcp2 => ?_
    show Outcome (linkTail src pp n s2) _ _
    have hc2 := hcp2.cons
    obtain ⟨sm1, hsm1, hsu1⟩ := hcp1.up
    have hsm2 : s2.mem src = some sm1 := by
      rw [hcp2.frame src (by rw [hnotanc]; simp)]; exact hsm1
    obtain ⟨sm2, r2, rest2, hsm2', hr2, hd2, hw2⟩ := (hcp1.stat.trans hcp2.stat) src sm sr srest hsm hsr
    rw [hsm2] at hsm2'; cases hsm2'
    obtain ⟨pm2, hpm2, hpu2⟩ := hcp2.up
    obtain ⟨pm1, hpm1, hlo1, _⟩ := hcp1.keep pp pm hpm
    obtain ⟨pm2', hpm2', hlo2, _⟩ := hcp2.keep pp pm1 hpm1
    rw [hpm2] at hpm2'; cases hpm2'
    obtain ⟨pm2', rp2, restp2, hpm2', hrp2, hpd2, _⟩ := (hcp1.stat.trans hcp2.stat) pp pm rp restp hpm hrp
    rw [hpm2] at hpm2'; cases hpm2'
    have hpw2 : pm2.whiteout = false := by
      rw [whiteout_eq_stat hc2 hpm2 hrp2]; exact Node.not_whiteout_of_dir (by rw [hpd2]; exact hpd)
    exact linkTail_cons hc2 src pp n hsm2 hsu1 hr2 (by rw [hd2]; exact hsd) (hw2 hsnw)
      hpm2 hpu2 (by rw [hlo2, hlo1]; exact hlo) hpw2

/-- the whole LINK operation: the cache stays valid, and on success both names show the same
    non-directory -/
theorem runOp_link_spec (d : Disk) (src dst : List Name) :
    Triple (CD d) (runOp (.link src dst))
      (fun _ s => Consistent s ∧ Linked src.reverse dst.reverse s.disk) Consistent := by
  unfold runOp
  refine Triple.bind ((resolve_spec d src).conseq (fun _ h => h) (fun _ _ h => ⟨h.1, h.2.2.1⟩) fun _ h => h.1.1)
    fun r => Triple.pure_pre fun hsrc => ?_
  obtain ⟨sp, st⟩ := r
  simp only at hsrc
  refine Triple.guard' (fun _ h => h.1) ?_
  refine Triple.bind ((resolveParent_cd d dst).onErr fun _ h => h.1) fun r => Triple.pure_pre fun hdst => ?_
  obtain ⟨pp, n⟩ := r
  obtain ⟨hdst, std, hsp, hdd⟩ := hdst
  simp only at hdst hsp
  rw [← hsrc, ← hdst]
  refine Triple.bind ((lookupSelf_ro (loadDirectory_cd d) sp).onErr fun _ h => h.1) fun sm => ?_
  refine Triple.guard' (fun _ h => h.1) ?_
  refine Triple.bind ((lookupSelf_shows_of_spec d hsp).onErr fun _ h => h.1) fun pm => ?_
  refine Triple.guard' (fun _ h => h.1.1) ?_
  refine Triple.bind (Q := fun _ s => Consistent s ∧ Linked sp (n :: pp) s.disk) ?_ fun _ => ?_
  · apply Triple.ofOutcome
    intro s2 ⟨⟨hc2, hd2⟩, hpm2, _, hlo2, rp, restp, hrp, hpd⟩
    exact doLink_spec sp pp n s2 hc2 hpm2 (hlo2 hdd) hrp (by rw [hpd]; exact hdd)
  · exact thenLookup _ pp n fun _ h => h.1

end Fbr.Ovl
