/-
  Fbr.Lemmas.HostRefDemo — a small concrete reference-FS state used by the non-vacuity examples
  of C05 and C06: host root 0 = { "secret" ↦ 1 (file), "export" ↦ 2 }, export root 2 = { "lnk" ↦ 3
  (symlink to "../secret"), "a" ↦ 4 (directory) }; objects 0 and 1 are the sentinel tree;
  descriptor 0 is an O_PATH descriptor of the export root.
-/
import Fbr.Lemmas.HostRefGood
import Fbr.Lemmas.HostRefWf

namespace Fbr.Host.Ref

def sExport : Name := [101, 120, 112, 111, 114, 116]
def sSecret : Name := [115, 101, 99, 114, 101, 116]
def sLnk : Name := [108, 110, 107]
def sA : Name := [97]
def sUpSecret : Name := [46, 46, 47, 115, 101, 99, 114, 101, 116]

def demoNodes : Obj → Option Node
  | 0 => some { kind := .dir, perm := 0o755, uid := 0, gid := 0, entries := [(sSecret, 1), (sExport, 2)], parent := 0, nlink := 3 }
  | 1 => some { kind := .reg, perm := 0o644, uid := 0, gid := 0, data := [120] }
  | 2 => some { kind := .dir, perm := 0o755, uid := 0, gid := 0, entries := [(sLnk, 3), (sA, 4)], parent := 0, nlink := 3 }
  | 3 => some { kind := .lnk, perm := 0o777, uid := 0, gid := 0, data := sUpSecret }
  | 4 => some { kind := .dir, perm := 0o755, uid := 0, gid := 0, parent := 2, nlink := 2 }
  | _ => none

def demoSent : Obj → Bool
  | 0 | 1 => true
  | _ => false

def demo : State where
  nodes := demoNodes
  next := 5
  hostRoot := 0
  exportRoot := 2
  sent := demoSent
  fds := fun f => if f = 0 then some { obj := 2, flags := O_PATH } else none
  nextFd := 1
  handles := fun _ => none
  nextHandle := 0
  creds := { euid := 0, egid := 0, effFsetid := true, permFsetid := true }

theorem demo_good : Good demo := by
  constructor
  · intro d n nm c hd hs hl
    match d, hd, hs with
    | 2, hd, _ =>
      simp only [demo, demoNodes] at hd; cases hd
      rcases lookup_cons_cases hl with h | hl
      · rw [h]; rfl
      rcases lookup_cons_cases hl with h | hl
      · rw [h]; rfl
      cases hl
    | 3, hd, _ => simp only [demo, demoNodes] at hd; cases hd; simp at hl
    | 4, hd, _ => simp only [demo, demoNodes] at hd; cases hd; simp at hl
    | 0, _, hs => simp [demo, demoSent] at hs
    | 1, _, hs => simp [demo, demoSent] at hs
    | (n + 5), hd, _ => simp [demo, demoNodes] at hd
  · intro d n hd hs hk hne
    match d, hd, hs, hne with
    | 2, _, _, hne => exact absurd rfl hne
    | 3, hd, _, _ => simp only [demo, demoNodes] at hd; cases hd; cases hk
    | 4, hd, _, _ => simp only [demo, demoNodes] at hd; cases hd; rfl
    | 0, _, hs, _ => simp [demo, demoSent] at hs
    | 1, _, hs, _ => simp [demo, demoSent] at hs
    | (n + 5), hd, _, _ => simp [demo, demoNodes] at hd
  · decide
  · rfl
  · intro o ho
    match o, ho with
    | (n + 5), _ => exact ⟨rfl, rfl⟩
    | 0, ho => simp [demo] at ho
    | 1, ho => simp [demo] at ho
    | 2, ho => simp [demo] at ho
    | 3, ho => simp [demo] at ho
    | 4, ho => simp [demo] at ho
  · intro f e he
    simp only [demo] at he
    split at he
    · cases he; rfl
    · cases he
  · intro h o hh; simp [demo] at hh

end Fbr.Host.Ref

namespace Fbr.PtHost
open Fbr.Host

theorem demo_wf : Ref.Wf Ref.demo := by
  refine ⟨?_, ?_, ?_⟩
  · intro f e he
    simp only [Ref.demo] at he ⊢
    split at he
    · rename_i hf; rw [hf]; decide
    · cases he
  · intro k o hk; simp [Ref.demo] at hk
  · intro k k' o hk; simp [Ref.demo] at hk

end Fbr.PtHost
