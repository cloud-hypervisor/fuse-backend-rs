/-
  Frame lemmas: the descriptor-ledger primitives of `Fbr.PtRefs` do not touch the tables.
-/
import Fbr.PtRefs

namespace Fbr.PtRefs

/-- the inode/handle tables of a state (everything but the ledger) -/
structure Tables where
  data : List (Ino × IData)
  byId : List (InodeId × Ino)
  byHandle : List (FhId × Ino)
  next : Nat
  devMap : List ((Nat × Nat) × Nat)
  nextUid : Nat
  nextVirt : Nat
  handles : List (Hnd × Ino)
  cookies : List Hnd
  nextHandle : Nat
  clobbered : Bool
  lookups : Nat

def St.tables (s : St) : Tables :=
  { data := s.data, byId := s.byId, byHandle := s.byHandle, next := s.next, devMap := s.devMap,
    nextUid := s.nextUid, nextVirt := s.nextVirt, handles := s.handles, cookies := s.cookies,
    nextHandle := s.nextHandle, clobbered := s.clobbered, lookups := s.lookups }

@[simp] theorem tables_freeFd (s : St) : (freeFd s).tables = s.tables := rfl

@[simp] theorem tables_allocFd (e : Env) (s : St) : (allocFd e s).1.tables = s.tables := by
  unfold allocFd; split <;> rfl

/-- the same for a result obtained by a `match` -/
theorem tables_of_allocFd {e : Env} {s s' : St} {b : Bool} (h : allocFd e s = (s', b)) :
    s'.tables = s.tables := by
  have := tables_allocFd e s; rw [h] at this; exact this

@[simp] theorem tables_openTemp (e : Env) (s : St) (b : Bool) : (openTemp e s b).1.tables = s.tables := by
  unfold openTemp; split <;> simp

@[simp] theorem tables_closeTemp (s : St) (b : Bool) : (closeTemp s b).tables = s.tables := by
  unfold closeTemp; split <;> simp

@[simp] theorem tables_getFile (e : Env) (s : St) (d : IData) (st : Bool) :
    (getFile e s d st).1.tables = s.tables := by
  fun_cases getFile e s d st
  -- `open_by_handle_at`, with or without a descriptor
  case case2 h | case3 h => exact tables_of_allocFd h
  -- stale, or the inode's own descriptor is borrowed
  all_goals rfl

@[simp] theorem tables_mountPut (s : St) : (mountPut s).tables = s.tables := by
  unfold mountPut; split <;> rfl

@[simp] theorem tables_mountGet (e : Env) (s : St) : (mountGet e s).1.tables = s.tables := by
  fun_cases mountGet e s
  -- the probe cannot be opened
  case case2 h1 => exact tables_of_allocFd h1
  -- probe and reopen: closing the probe descriptor and setting the count leave the tables alone
  case case3 h1 _ h2 | case4 h1 _ h2 => exact (tables_of_allocFd h2).trans (tables_of_allocFd h1)
  -- the live `MountFd` is reused
  rfl

@[simp] theorem tables_dropIData (s : St) (d : IData) : (dropIData s d).tables = s.tables := by
  unfold dropIData; split <;> simp

@[simp] theorem tables_toOpenable (e : Env) (s : St) (fh : Option FhId) :
    (toOpenable e s fh).1.tables = s.tables := by
  unfold toOpenable; split <;> simp

theorem tables_of_toOpenable {e : Env} {s s' : St} {fh : Option FhId} {r : Option Errno}
    (h : toOpenable e s fh = (s', r)) : s'.tables = s.tables := by
  have := tables_toOpenable e s fh; rw [h] at this; exact this

@[simp] theorem tables_dropPending (s : St) (fh : Option FhId) : (dropPending s fh).tables = s.tables := by
  unfold dropPending; split <;> simp

@[simp] theorem tables_settlePath (s : St) (fh : Option FhId) : (settlePath s fh).tables = s.tables := by
  unfold settlePath; split <;> simp

theorem dropAll_tables (l : List (Ino × IData)) (s : St) : (dropAll s l).tables = s.tables := by
  induction l generalizing s with
  | nil => rfl
  | cons p r ih => obtain ⟨i, d⟩ := p; simp only [dropAll]; rw [ih, tables_dropIData]

theorem openInode_cases {e : Env} {s s' : St} {ino : Ino} {hr : Errno} {r : Option Errno} :
    openInode e s ino hr = (s', r) →
    (s' = s ∧ ∃ er, r = some er) ∨ (allocFd e s = (s', false) ∧ r = some EMFILE)
    ∨ ∃ s1, allocFd e s = (s1, true) ∧ ((s' = freeFd s1 ∧ r = some hr) ∨ (s' = s1 ∧ r = none)) := by
  fun_cases openInode e s ino hr <;> (intro h; cases h)
  -- no descriptor left
  case case4 ha => exact .inr (.inl ⟨ha, rfl⟩)
  -- the host refuses the open: the descriptor is closed again
  case case5 s1 ha _ => exact .inr (.inr ⟨s1, ha, .inl ⟨rfl, rfl⟩⟩)
  -- opened
  case case6 ha => exact .inr (.inr ⟨_, ha, .inr ⟨rfl, rfl⟩⟩)
  -- unknown inode, not safe to open, or (kept by handle) stale before the open
  all_goals exact .inl ⟨rfl, _, rfl⟩

@[simp] theorem tables_openInode (e : Env) (s : St) (ino : Ino) (hr : Errno) :
    (openInode e s ino hr).1.tables = s.tables := by
  rcases openInode_cases (Prod.eta (openInode e s ino hr)).symm with
    ⟨h, _⟩ | ⟨ha, _⟩ | ⟨s1, ha, ⟨h, _⟩ | ⟨h, _⟩⟩
  · rw [h]
  · exact tables_of_allocFd ha
  · rw [h, tables_freeFd]; exact tables_of_allocFd ha
  · rw [h]; exact tables_of_allocFd ha

/-! fields of states with equal tables, in the form `rw` needs (`congrArg Tables.data h` speaks of
    `s.tables.data`, which no goal mentions) -/

theorem data_of_tables {s t : St} (h : s.tables = t.tables) : s.data = t.data :=
  congrArg Tables.data h

theorem byId_of_tables {s t : St} (h : s.tables = t.tables) : s.byId = t.byId :=
  congrArg Tables.byId h

theorem byHandle_of_tables {s t : St} (h : s.tables = t.tables) : s.byHandle = t.byHandle :=
  congrArg Tables.byHandle h

theorem next_of_tables {s t : St} (h : s.tables = t.tables) : s.next = t.next :=
  congrArg Tables.next h

theorem handles_of_tables {s t : St} (h : s.tables = t.tables) : s.handles = t.handles :=
  congrArg Tables.handles h

theorem nextHandle_of_tables {s t : St} (h : s.tables = t.tables) : s.nextHandle = t.nextHandle :=
  congrArg Tables.nextHandle h

theorem getInodeLocked_of_tables {s t : St} (h : s.tables = t.tables) (id : InodeId) (fh : Option FhId) :
    getInodeLocked s id fh = getInodeLocked t id fh := by
  unfold getInodeLocked
  rw [byId_of_tables h, byHandle_of_tables h]

end Fbr.PtRefs
