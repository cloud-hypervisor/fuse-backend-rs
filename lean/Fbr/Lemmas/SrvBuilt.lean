/-
  Fbr.Lemmas.SrvBuilt — `Built`: the two ways the result of a request handler can end, with the
  hypotheses of C01 deferred, and the one walk over the dispatcher that shows every opcode ends in one
  of them.

  Each way a handler of `Fbr.Srv` puts a result together (an error header, a success reply, either of
  them through a writer split at the header, a return value overridden) and each reply tail is shown
  once to end so, by a lemma of the namespace `Built` (`Built.named` is about `named`); the walk
  (`handleBody_built`) applies these along the dispatcher's text, arm by arm.  The allocation bound and
  the reply-stream invariant `Good` (`SrvGood`) are read off the two ways: `Built.stream` is the part of
  `Good` that holds with no hypothesis at all, `Built.wf` the part that needs the message complete,
  hence C01's hypotheses.  The asynchronous path (`SrvAsyncEq`) ends in the same two ways.
-/
import Fbr.Lemmas.SrvDir
import Fbr.Lemmas.SrvGood

namespace Fbr.Srv
open Fbr.Wire Fbr.Conv

def IoErr.Sane : IoErr → Prop
  | .os n => 1 ≤ n ∧ n ≤ 4095
  | .kind _ => True

def FsSane (fs : Call → Ans) : Prop := ∀ c e, fs c = .err e → e.Sane

theorem errField_ok (e : IoErr) (h : e.Sane) : ErrOk (errField e) := by
  right
  cases e with
  | os n =>
    simp only [IoErr.Sane] at h
    simp only [errField]
    omega
  | kind k =>
    simp only [errField]
    have := encodeKind_range k
    omega

def AllocsLe (B : Nat) (r : Res) : Prop := ∀ a ∈ r.allocs, a ≤ B

/-- A handler ends in one of two ways.  `silent`: nothing is sent and the return value claims no reply
    (refused requests, FORGET, INTERRUPT, a reply that does not fit the buffer).  `sent`: one message
    goes out, within the reply buffer, and it is a complete reply to `u` whenever `u` is 64 bits wide,
    the buffer's size 32 bits and the file system's errors are sane; the return value is whatever the
    handler makes of it (DESTROY and a name without terminator override it).  Every allocation
    recorded is at most `B`. -/
inductive Built (cfg : Cfg) (fs : Call → Ans) (u B : Nat) (r : Res) : Prop
  | silent : r.out = {} → (r.ret = .ok 0 ∨ ∃ e, r.ret = .err e) → AllocsLe B r → Built cfg fs u B r
  | sent {m : Bytes} : r.out = emit cfg m → m.length ≤ cfg.cap →
      (u < 2 ^ 64 → cfg.cap < 2 ^ 32 → FsSane fs → WfMsg u m) → (∀ s, r.ret ≠ .panic s) → AllocsLe B r →
      Built cfg fs u B r

variable {cfg : Cfg} {fs : Call → Ans} {u B : Nat}

theorem allLe_nil : ∀ a ∈ ([] : List Nat), a ≤ B := nofun

theorem allLe_one {n : Nat} (h : n ≤ B) : ∀ a ∈ [n], a ≤ B := by
  intro a ha; rw [List.mem_singleton.mp ha]; exact h

theorem getBody_bound {hdrLen sub : Nat} {r body : Bytes} {n : Nat}
    (h : getBody hdrLen sub r = .ok (body, n)) : n ≤ hdrLen := by
  unfold getBody at h
  split at h
  · cases h
  · dsimp only at h
    split at h
    · cases h
    · cases h
      omega

namespace Built

theorem err {calls : List Call} {al : List Nat} {e : IoErr} (he : FsSane fs → e.Sane) (h : ∀ a ∈ al, a ≤ B) :
    Built cfg fs u B (errRes cfg u calls al e) := by
  unfold Srv.errRes
  rcases Nat.lt_or_ge cfg.cap 16 with hc | hc
  · rw [replyErr_small hc]
    exact .silent rfl (.inr ⟨_, rfl⟩) h
  · rw [replyErr_fits hc]
    refine .sent rfl (by rw [outHeader_length]; exact hc) (fun hu _ hf => ?_) nofun h
    simpa using wfMsg_header (errField e) u [] (by decide) hu (errField_ok e (he hf))

theorem okRes {calls : List Call} {al : List Nat} {body data : Bytes} {mn : Nat} (h : ∀ a ∈ al, a ≤ B) :
    Built cfg fs u B (okRes cfg u calls al body data mn) := by
  unfold Srv.okRes
  rcases Nat.lt_or_ge cfg.cap (16 + body.length + data.length) with hc | hc
  · rw [replyOk_small hc]
    exact .silent rfl (.inr ⟨_, rfl⟩) h
  · rw [replyOk_fits hc]
    refine .sent rfl (by simp only [List.length_append, outHeader_length]; omega) (fun hu hcap _ => ?_) nofun h
    simpa [List.append_assoc, Nat.add_assoc] using wfMsg_header 0 u (body ++ data) (by simp; omega) hu (Or.inl rfl)

/-- an error through a writer split at the header is the reply an unsplit writer sends -/
theorem splitErr {calls : List Call} {e : IoErr} (he : FsSane fs → e.Sane) (h16 : OUT_HDR ≤ cfg.cap) :
    Built cfg fs u B (splitErr cfg u calls e []) := by
  have : Srv.splitErr cfg u calls e [] = Srv.errRes cfg u calls [] e := by
    simp only [Srv.splitErr, Srv.errRes, replyErr_fits h16, emit, OUT_HDR, List.append_nil]
  exact this ▸ .err he allLe_nil

theorem splitOk {calls : List Call} {payload : Bytes} (hfit : OUT_HDR + payload.length ≤ cfg.cap) :
    Built cfg fs u B (splitOk cfg u calls payload) := by
  unfold OUT_HDR at hfit
  exact .sent rfl (by simp only [List.length_append, outHeader_length]; omega)
    (fun hu hcap _ => by
      have hlt : 16 + payload.length < 2 ^ 32 := by omega
      simp only [OUT_HDR, Nat.mod_eq_of_lt hlt]
      exact wfMsg_header 0 u payload hlt hu (Or.inl rfl))
    (by intro s; simp [Srv.splitOk]) allLe_nil

theorem withRet {r : Res} {ret : Ret} (h : Built cfg fs u B r) (hr : ret = .ok 0 ∨ ∃ e, ret = .err e) :
    Built cfg fs u B { r with ret := ret } := by
  cases h with
  | silent ho _ ha => exact .silent ho hr ha
  | sent ho hl hw _ ha => exact .sent ho hl hw (by rcases hr with rfl | ⟨e, rfl⟩ <;> simp) ha

theorem errRes {calls : List Call} {al : List Nat} {n : Nat} (hn : 1 ≤ n ∧ n ≤ 4095) (h : ∀ a ∈ al, a ≤ B) :
    Built cfg fs u B (errRes cfg u calls al (.os n)) := .err (fun _ => hn) h

theorem bail {calls : List Call} {al : List Nat} {e : SrvErr} (h : ∀ a ∈ al, a ≤ B) :
    Built cfg fs u B (bail cfg calls al e) := .silent rfl (.inr ⟨e, rfl⟩) h

/-- by its definition `badName` is `errRes … EINVAL` with the return value replaced -/
theorem badName {calls : List Call} {al : List Nat} (h : ∀ a ∈ al, a ≤ B) :
    Built cfg fs u B (badName cfg u calls al) :=
  .withRet (.errRes (by decide) h) (.inr ⟨_, rfl⟩)

theorem ite {c : Prop} [Decidable c] {a b : Res} (ha : c → Built cfg fs u B a) (hb : ¬ c → Built cfg fs u B b) :
    Built cfg fs u B (if c then a else b) := by
  split
  · exact ha ‹_›
  · exact hb ‹_›

theorem withObj {calls0 : List Call} {r : Bytes} {n : Nat} {k : Bytes → Res} (hk : ∀ b, Built cfg fs u B (k b)) :
    Built cfg fs u B (withObj cfg calls0 r n k) :=
  .ite (fun _ => .bail allLe_nil) fun _ => hk _

theorem getBody {calls0 : List Call} {hdrLen sub : Nat} {r : Bytes} {k : Bytes → Nat → Res} (hB : hdrLen ≤ B)
    (hk : ∀ body n, (∀ a ∈ [n], a ≤ B) → Built cfg fs u B (k body n)) :
    Built cfg fs u B (match Srv.getBody hdrLen sub r with
      | .error e => Srv.bail cfg calls0 [] e
      | .ok (body, n) => k body n) := by
  split
  · exact .bail allLe_nil
  · next heq => exact hk _ _ (allLe_one (Nat.le_trans (getBody_bound heq) hB))

theorem named {calls0 : List Call} {hdrLen : Nat} {r : Bytes} {sub : Nat} {k : Bytes → List Nat → Res}
    (hB : hdrLen ≤ B) (hk : ∀ nm al, (∀ a ∈ al, a ≤ B) → Built cfg fs u B (k nm al)) :
    Built cfg fs u B (named cfg u calls0 hdrLen r sub k) := by
  refine getBody hB fun body n hal => ?_
  split
  · exact .badName hal
  · exact hk _ _ hal

theorem twoCstrs {calls0 : List Call} {n : Nat} {body : Bytes} {k : Bytes → Bytes → Res} (hal : ∀ a ∈ [n], a ≤ B)
    (hk : ∀ a b, Built cfg fs u B (k a b)) :
    Built cfg fs u B (match Srv.twoCstrs body with
      | .error e => Srv.bail cfg calls0 [n] e
      | .ok (a, b) => k a b) := by
  split
  · exact .bail hal
  · exact hk _ _

-- The reply tails, for an answer whose error, if it is one, is sane when the file system's are:
-- the walk applies them to `fs c`, where `ha` is `(· c)`.
variable {ans : Ans} (ha : FsSane fs → ∀ e, ans = .err e → e.Sane)
include ha

theorem finish {calls : List Call} {al : List Nat} {okb : Ans → Option (Bytes × Bytes)} (h : ∀ a ∈ al, a ≤ B) :
    Built cfg fs u B (finish cfg u calls al ans okb) := by
  unfold Srv.finish
  split
  · exact .err (ha · _ rfl) h
  · split
    · exact .okRes h
    · exact .errRes (by decide) h

theorem lookupReply {calls : List Call} {al : List Nat} (h : ∀ a ∈ al, a ≤ B) :
    Built cfg fs u B (lookupReply cfg u calls al ans) := by
  unfold Srv.lookupReply
  split
  · exact .ite (fun _ => .errRes (by decide) h) fun _ => .finish (by intro _ _ he; cases he) h
  · exact .finish ha h

theorem readReply {calls : List Call} (h16 : OUT_HDR ≤ cfg.cap) : Built cfg fs u B (readReply cfg u calls ans) := by
  unfold Srv.readReply
  split
  · exact .ite (fun _ => .splitErr (fun _ => trivial) h16) fun h => .splitOk (by omega)
  · exact .splitErr (ha · _ rfl) h16
  · exact .splitErr (fun _ => ⟨by decide, by decide⟩) h16

/-- the loop runs with a cursor that holds the size asked for, so it ends without an error and what it
    wrote is within that size (`dirLoop_prefix`) -/
theorem dirReply {calls : List Call} {size : Nat} {plus : Bool} (hcap : size + OUT_HDR ≤ cfg.cap) :
    Built cfg fs u B (dirReply cfg u calls size plus ans) := by
  have h16 : OUT_HDR ≤ cfg.cap := Nat.le_trans (Nat.le_add_left _ _) hcap
  unfold Srv.dirReply
  split
  · next ds prop =>
    obtain ⟨k, _, heq, hlen⟩ := dirLoop_prefix size (cfg.cap - OUT_HDR) plus prop ds [] (by omega) (Nat.zero_le _)
    rw [heq]
    exact .splitOk (by omega)
  · exact .splitErr (ha · _ rfl) h16
  · exact .splitErr (fun _ => ⟨by decide, by decide⟩) h16

theorem notifyReply {calls : List Call} : Built cfg fs u B (notifyReply cfg u calls ans) := by
  unfold Srv.notifyReply
  split
  · exact .err (ha · _ rfl) allLe_nil
  · exact .silent rfl (.inl rfl) allLe_nil

theorem initReply {calls : List Call} {mn ra cap : Nat} : Built cfg fs u B (initReply cfg u calls mn ra cap ans) := by
  unfold Srv.initReply
  split
  · exact .okRes allLe_nil
  · exact .err (ha · _ rfl) allLe_nil
  · exact .errRes (by decide) allLe_nil

omit ha

theorem simple {calls0 : List Call} {c : Call} {al : List Nat} {okb : Ans → Option (Bytes × Bytes)}
    (h : ∀ a ∈ al, a ≤ B) : Built cfg fs u B (simple cfg fs u calls0 c al okb) :=
  .finish (· c) h

/-- the shape of twenty arms of `handleBody`: read the request structure, call the file system once, reply
    (`withObj_simple_calls` and C01's `structured_request_answered` are about the same shape) -/
theorem withObj_simple {calls0 : List Call} {r : Bytes} {n : Nat} {mk : Bytes → Call} {okb : Ans → Option (Bytes × Bytes)} :
    Built cfg fs u B (Srv.withObj cfg calls0 r n fun b => Srv.simple cfg fs u calls0 (mk b) [] okb) :=
  .withObj fun _ => .simple allLe_nil

theorem initHandler {calls0 : List Call} {rest b : Bytes} : Built cfg fs u B (initHandler cfg fs u calls0 rest b) :=
  .ite (fun _ => .errRes (by decide) allLe_nil) fun _ =>
    .ite (fun _ => .okRes allLe_nil) fun _ => .initReply (· _)

end Built

theorem handleBody_built {cfg : Cfg} {fs : Call → Ans} {ctx : Ctx} {calls0 : List Call}
    {hdrLen op u nodeid : Nat} {r : Bytes} {B : Nat} (hB : hdrLen ≤ B)
    (hM : MAX_BUFFER_SIZE + BUFFER_HEADER_SIZE ≤ B) (hr : r.length ≤ B) :
    Built cfg fs u B (handleBody cfg fs ctx calls0 hdrLen op u nodeid r) := by
  unfold handleBody
  split
  · exact .named hB fun _ _ hal => .lookupReply (· _) hal  -- LOOKUP
  · exact .withObj fun _ => .silent rfl (.inl rfl) allLe_nil  -- FORGET
  · exact .withObj_simple  -- GETATTR
  · exact .withObj_simple  -- SETATTR
  · exact .simple allLe_nil  -- READLINK
  · exact .getBody hB fun _ _ hal => .twoCstrs hal fun _ _ => .simple hal  -- SYMLINK
  · exact .withObj fun _ => .named hB fun _ _ hal => .simple hal  -- MKNOD
  · exact .withObj fun _ => .named hB fun _ _ hal => .simple hal  -- MKDIR
  · exact .named hB fun _ _ hal => .simple hal  -- UNLINK
  · exact .named hB fun _ _ hal => .simple hal  -- RMDIR
  · exact .withObj fun _ => .getBody hB fun _ _ hal =>
      .twoCstrs hal fun _ _ => .simple hal  -- RENAME
  · exact .withObj fun _ => .getBody hB fun _ _ hal =>
      .twoCstrs hal fun _ _ => .simple hal  -- RENAME2
  · exact .withObj fun _ => .named hB fun _ _ hal => .simple hal  -- LINK
  · exact .withObj_simple  -- OPEN
  · exact .withObj fun _ => .ite (fun _ => .bail allLe_nil) fun h => .readReply (· _) (Nat.not_lt.mp h)  -- READ
  · exact .withObj_simple  -- WRITE
  · exact .simple allLe_nil  -- STATFS
  · exact .withObj_simple  -- RELEASE
  · exact .withObj_simple  -- FSYNC
  · exact .withObj fun _ => .getBody hB fun _ _ hal =>
      .ite (fun _ => .bail hal) fun _ => .ite (fun _ => .bail hal) fun _ => .simple hal  -- SETXATTR
  · exact .withObj fun _ => .named hB fun _ _ hal => .simple hal  -- GETXATTR
  · exact .withObj_simple  -- LISTXATTR
  · exact .named hB fun _ _ hal => .simple hal  -- REMOVEXATTR
  · exact .withObj_simple  -- FLUSH
  · exact .withObj fun _ => .initHandler  -- INIT
  · exact .withObj_simple  -- OPENDIR
  · exact .withObj fun _ => .ite (fun _ => .errRes (by decide) allLe_nil) fun h =>
      .ite (fun _ => .bail allLe_nil) fun _ => .dirReply (· _) (Nat.not_lt.mp h)  -- READDIR
  · exact .withObj fun _ => .ite (fun _ => .errRes (by decide) allLe_nil) fun h =>
      .ite (fun _ => .bail allLe_nil) fun _ => .dirReply (· _) (Nat.not_lt.mp h)  -- READDIRPLUS
  · exact .withObj_simple  -- RELEASEDIR
  · exact .withObj_simple  -- FSYNCDIR
  · exact .withObj_simple  -- GETLK
  · exact .withObj_simple  -- SETLK
  · exact .withObj_simple  -- SETLKW
  · exact .withObj_simple  -- ACCESS
  · exact .withObj fun _ => .named hB fun _ _ hal => .simple hal  -- CREATE
  · exact .silent rfl (.inl rfl) allLe_nil  -- INTERRUPT
  · exact .withObj_simple  -- BMAP
  · exact .withRet (.okRes allLe_nil) (.inl rfl)  -- DESTROY
  · -- IOCTL: the input size was checked against the bytes present
    refine .withObj fun _ => .ite (fun _ => .errRes (by decide) allLe_nil) fun h =>
      .simple (allLe_one ?_)
    rw [List.length_drop] at h
    omega
  · exact .withObj_simple  -- POLL
  · exact .notifyReply (· _)  -- NOTIFY_REPLY
  · -- BATCH_FORGET: the item count was checked against the buffer limit
    refine .withObj fun _ => .ite (fun _ => .bail allLe_nil) fun h => ?_
    have hc := Nat.le_trans (Nat.not_lt.mp h) (Nat.le_trans (Nat.le_trans (Nat.sub_le _ _) (Nat.sub_le _ _)) hM)
    exact .ite (fun _ => .bail (allLe_one hc)) fun _ => .silent rfl (.inl rfl) (allLe_one hc)
  · exact .withObj_simple  -- FALLOCATE
  · exact .withObj_simple  -- LSEEK
  · exact .ite (fun _ => .errRes (by decide) allLe_nil) fun _ =>
      .withObj_simple  -- SETUPMAPPING
  · -- REMOVEMAPPING
    refine .ite (fun _ => .errRes (by decide) allLe_nil) fun _ => .withObj fun _ =>
      .ite (fun _ => .errRes (by decide) allLe_nil) fun h => ?_
    have hc := Nat.le_trans (Nat.not_lt.mp h) (Nat.le_trans (Nat.le_add_right _ _) hM)
    exact .ite (fun _ => .bail (allLe_one hc)) fun _ => .simple (allLe_one hc)
  · exact .errRes (by decide) allLe_nil

theorem afterRemap_built (cfg : Cfg) (fs : Call → Ans) (req : Bytes) (a : Ans) :
    Built cfg fs (uniqueOf req) (max (MAX_BUFFER_SIZE + BUFFER_HEADER_SIZE) req.length) (afterRemap cfg fs req a) := by
  unfold afterRemap
  refine .ite (fun _ => .ite (fun _ => .bail allLe_nil)
    fun _ => .errRes (by decide) allLe_nil) fun h => ?_
  refine handleBody_built (Nat.le_trans (Nat.not_lt.mp h) (Nat.le_max_left _ _))
    (Nat.le_max_left _ _) (Nat.le_trans ?_ (Nat.le_max_right _ _))
  rw [List.length_drop]
  exact Nat.sub_le _ _

theorem out_ite {c : Prop} [Decidable c] {a b : Res} (ha : a.out = {}) (hb : b.out = {}) :
    (if c then a else b).out = {} := by
  split <;> assumption

theorem handleBody_forget_out {cfg : Cfg} {fs : Call → Ans} {ctx : Ctx} {calls0 : List Call}
    {hdrLen op u nodeid : Nat} {r : Bytes} (hop : op = 2 ∨ op = 42) :
    (handleBody cfg fs ctx calls0 hdrLen op u nodeid r).out = {} := by
  -- both arms are nests of `if` (the outermost is `withObj`) whose leaves send nothing
  rcases hop with rfl | rfl <;> rw [handleBody]
  · exact out_ite rfl rfl
  · exact out_ite rfl (out_ite rfl (out_ite rfl rfl))

theorem handle_built (cfg : Cfg) (fs : Call → Ans) (req : Bytes) :
    Built cfg fs (uniqueOf req) (max (MAX_BUFFER_SIZE + BUFFER_HEADER_SIZE) req.length) (handle cfg fs req) := by
  unfold handle
  refine .ite (fun _ => .bail allLe_nil) fun _ => ?_
  split
  · exact .bail allLe_nil
  · exact afterRemap_built cfg fs req _

namespace Built

theorem allocsLe {r : Res} (h : Built cfg fs u B r) : AllocsLe B r := by
  cases h <;> assumption

/-- the six fields of `Good` that hold with no hypothesis on the request, the buffer or the file system -/
theorem stream {r : Res} (h : Built cfg fs u B r) :
    (∀ s, r.ret ≠ .panic s) ∧ r.out.sys.length ≤ 1 ∧ (cfg.fusedev = true → r.out.area = []) ∧
    (cfg.fusedev = false → r.out.sys = []) ∧ (∀ m ∈ r.out.sys, m.length ≤ cfg.cap) ∧ r.out.area.length ≤ cfg.cap := by
  cases h with
  | silent ho hr _ => rw [ho]; rcases hr with h | ⟨e, h⟩ <;> simp [h]
  | sent ho hl _ hr _ => rw [ho, emit]; cases cfg.fusedev <;> simp [hl, hr]

/-- the rest of the invariant asks that the message sent be a complete reply: C01's hypotheses -/
theorem wf {r : Res} (h : Built cfg fs u B r) (hu : u < 2 ^ 64) (hcap : cfg.cap < 2 ^ 32) (hfs : FsSane fs) :
    (∀ m ∈ r.out.sys, WfMsg u m) ∧ (r.out.area = [] ∨ WfArea u r.out.area) ∧
    ∀ n, r.ret = .ok n → 0 < n → Replied cfg r := by
  cases h with
  | silent ho hr _ => rw [ho]; rcases hr with h | ⟨e, h⟩ <;> simp [h]
  | @sent m ho _ hw _ _ =>
    have hm := hw hu hcap hfs
    have hne : m ≠ [] := fun h0 => by have := hm.len16; simp [h0] at this
    rw [Replied, ho, emit]
    cases cfg.fusedev <;> simp [hm, hne, wfArea_of_wfMsg hm]

theorem good {r : Res} (h : Built cfg fs u B r) (hu : u < 2 ^ 64) (hcap : cfg.cap < 2 ^ 32) (hfs : FsSane fs) :
    Good cfg u r :=
  let ⟨np, ow, sf, sv, fS, fA⟩ := h.stream
  let ⟨w, a, k⟩ := h.wf hu hcap hfs
  ⟨np, ow, sf, sv, w, a, k, fS, fA⟩

end Built

theorem allocs_errRes (B : Nat) (cfg : Cfg) (u : Nat) (calls : List Call) (al : List Nat) (e : IoErr)
    (h : ∀ a ∈ al, a ≤ B) : AllocsLe B (errRes cfg u calls al e) := h

theorem allocs_okRes (B : Nat) (cfg : Cfg) (u : Nat) (calls : List Call) (al : List Nat) (b d : Bytes) (m : Nat)
    (h : ∀ a ∈ al, a ≤ B) : AllocsLe B (okRes cfg u calls al b d m) := h

theorem allocs_badName (B : Nat) (cfg : Cfg) (u : Nat) (calls : List Call) (al : List Nat)
    (h : ∀ x ∈ al, x ≤ B) : AllocsLe B (badName cfg u calls al) := h

end Fbr.Srv
