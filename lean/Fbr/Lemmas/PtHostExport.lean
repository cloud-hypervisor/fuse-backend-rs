/-
  Fbr.Lemmas.PtHostExport — every request of the passthrough model, run on the reference host FS
  from a state satisfying the joint invariant `J`: all its calls are confined and `J` holds again
  afterwards (`jsafe_handle`: `Br.jsafe` along the bracket structure `br_handle` gives, once a name
  with '/' is out of the way); `J` after `import()` (`j_init`) and along whole histories
  (`j_history`, with `Ref.Frame` of the start: no sentinel object has changed).
-/
import Fbr.Lemmas.PtHostLookupRun
import Fbr.Lemmas.PtHostCalls
import Fbr.Lemmas.PtHostNames

namespace Fbr.PtHost
open Fbr.Host

variable {α β : Type}

theorem Aux.free {c : HCall} (h : Aux c) : Free c := by cases h <;> exact Plain.free trivial
theorem Switch.free {c : HCall} (h : Switch c) : Free c := by cases h <;> exact Plain.free trivial

/-- an exclusive creation (`create_file_excl`'s `openat`, the only one that is not a lookup) -/
theorem free_creat_excl {d : Fd} {n : Name} {fl m : Nat} (h1 : has fl O_CREAT = true) (h2 : has fl O_EXCL = true) :
    Free (.openat d n fl m) := by
  have hce : (has fl O_CREAT && has fl O_EXCL) = true := by rw [h1, h2]; rfl
  exact ⟨fun _ => Or.inl hce, fun _ _ _ _ e => by cases e; exact Or.inl hce⟩

theorem Tame.free {r : Req} {c : HCall} (h : Tame r c) : Free c := by
  cases c <;> first | exact free_creat_excl h.1 h.2.1 | exact Plain.free trivial

theorem JSafe.withCreds {u g : Nat} {body : M α} (hb : JSafe body) : JSafe (withCreds u g body) :=
  have sw : ∀ c, Switch c → Free c := fun _ => Switch.free
  .bind (.of_acts (acts_setCreds sw u g)) fun gs => .bind (.try' hb) fun r =>
    .bind (.of_acts (acts_dropCreds sw gs)) fun _ => .of_acts (acts_ofExcept r)

theorem JSafe.withKillpriv {c : Bool} {body : M α} (hb : JSafe body) : JSafe (withKillpriv c body) :=
  have sw : ∀ c, Switch c → Free c := fun _ => Switch.free
  .bind (by split; exact .of_acts (acts_dropCap sw); exact jsafe_pure _) fun g => .bind (.try' hb) fun r =>
    .bind (by split; exact .of_acts (acts_raiseCap sw); exact jsafe_pure _) fun _ => .of_acts (acts_ofExcept r)

/-- "no '/'" as the reference FS asks for it (`Ref.SLASH`) and as the passthrough says it -/
theorem noSlash_iff (n : Name) : n.contains Ref.SLASH = false ↔ SLASH ∉ n := by
  rw [← Bool.not_eq_true, List.contains_iff_mem]; exact Iff.rfl

/-- **`J` along the bracket structure**, when the name looked up has no '/': blocks whose calls are confined anywhere and
    that keep the tables, the two scopes around such blocks, `do_lookup` (`jsafe_doLookup`) and `forget_one` (`j_forgetOne`) -/
theorem Br.jsafe {cfg : Cfg} {n : Name} {u g : Nat} {P B : HCall → Prop} {m : M α} (hP : ∀ c, P c → Free c)
    (hB : ∀ c, B c → Free c) (hn : n.contains Ref.SLASH = false) (h : Br cfg n u g P B m) : JSafe m := by
  induction h with
  | of_acts h => exact .of_acts (h.mono hP)
  | lookup p => exact jsafe_doLookup cfg p n hn
  | forget i c => exact jsafe_modify _ fun _ _ j => j_forgetOne cfg j i c
  | bind _ _ ih1 ih2 => exact ih1.bind ih2
  | try' _ ih => exact ih.try'
  | withCreds h => exact .withCreds (.of_acts (h.mono hB))
  | withKillpriv _ ih => exact ih.withKillpriv

/-- the name a request creates and then looks up -/
def Req.createdName : Req → Option Name
  | .symlink _ _ _ n => some n
  | .mknod _ _ n _ _ _ => some n
  | .mkdir _ _ n _ _ => some n
  | .create _ _ n _ _ _ _ => some n
  | .link _ _ n => some n
  | _ => none

/-- behind a VFS (`do_import = false`) the passthrough does not check names itself: the front end
    has (C06 `vfs_mutators_start_with_name_check`), so created names contain no '/'.  Standalone
    (`do_import = true`, the default) this holds of every request. -/
def Req.FrontChecked (cfg : Cfg) (r : Req) : Prop := cfg.doImport = false → ∀ n, r.createdName = some n → SLASH ∉ n

theorem frontChecked_standalone (cfg : Cfg) (r : Req) (h : cfg.doImport = true) : r.FrontChecked cfg := by
  intro h'; rw [h] at h'; cases h'

/-- **every request**: confined calls, invariant kept.  A request whose name has a '/' is refused before any call (LOOKUP by
    its own test, the others by the name check: `step_checkedFirst_bad`; behind a VFS the front end has checked).  Otherwise
    every block outside `do_lookup` and `forget_one` only makes calls that are confined anywhere and leaves the inode
    tables alone (`br_handle`), and the lookup is that of a name without '/' (`jsafe_doLookup`). -/
theorem jsafe_handle (cfg : Cfg) (r : Req) (hr : r.FrontChecked cfg) : JSafe (handle cfg r) := by
  by_cases hs : SLASH ∈ r.lookupName
  · have bad : ∀ pt, handle cfg r pt = .pure (.error EINVAL, pt) := fun pt => by
      cases r with
      | lookup p n => simp [handle, lookup, (mem_withNul_slash n).mpr hs, M.throw]
      | symlink _ _ _ n | mknod _ _ n | mkdir _ _ n | link _ _ n | create _ _ n =>
        by_cases hc : cfg.doImport = true
        · exact step_checkedFirst_bad cfg pt hc rfl (validate_slash hs)
        · exact absurd hs (hr (by simpa using hc) n rfl)
      | _ => cases hs
    exact ⟨fun pt h j => by rw [bad pt]; exact j⟩
  · refine (br_handle cfg r).jsafe (fun _ h => ?_) (fun _ h => h.2.free) ((noSlash_iff _).mpr hs)
    cases h with
    | aux h => exact h.free
    | own _ h => exact h.2.free

/-- `J` holds after `import()`: one entry, numbered 1, for the export root -/
theorem j_init (h : Ref.State) (g : Ref.Good h) (w : Ref.Wf h) (rootHandle : IHandle) (rootMode : Nat)
    (hd : Denotes h rootHandle h.exportRoot) : J (initState rootHandle h.exportRoot rootMode) h := by
  have one : ∀ d ∈ (initState rootHandle h.exportRoot rootMode).inodes,
      d = { inode := ROOT_ID, handle := rootHandle, id := h.exportRoot, refcount := 2, mode := rootMode } := by
    intro d hdm; simpa [initState, PtState.insert] using hdm
  refine ⟨g, w, ⟨_, List.mem_cons_self, rfl⟩, ?_, ?_, ?_, ?_, ?_, (by decide : 1 < 2)⟩
  · intro d hdm _; rw [one d hdm]
  · intro d hdm _; rw [one d hdm]
  · intro d hdm; rw [one d hdm]; exact hd
  · simp [initState, PtState.insert]
  · intro d hdm k _ hk
    rw [one d hdm] at hk
    simp only at hk
    simp [initState, PtState.insert, hk]

theorem j_request (sent : Obj → Bool) (root : Obj) (cfg : Cfg) (r : Req) (hr : r.FrontChecked cfg) (pt : PtState)
    (h : Ref.State) (j : J pt h) :
    Ref.AllConfined sent root (step cfg pt r) h ∧
    J (val (Ref.ops sent root) (step cfg pt r) h).2 (fin (Ref.ops sent root) (step cfg pt r) h) ∧
    Ref.Frame h (fin (Ref.ops sent root) (step cfg pt r) h) := by
  have hrun := safe_run sent root (step cfg pt r) h ((jsafe_handle cfg r hr).h pt h j)
  exact ⟨hrun.1, hrun.2, (Ref.run_good sent root _ h j.good hrun.1).2⟩

theorem j_history (sent : Obj → Bool) (root : Obj) (cfg : Cfg) (rs : List Req) (hr : ∀ r ∈ rs, r.FrontChecked cfg)
    (pt : PtState) (h : Ref.State) (j : J pt h) :
    J (runHistory (Ref.ops sent root) cfg pt h rs).1 (runHistory (Ref.ops sent root) cfg pt h rs).2 ∧
    Ref.Frame h (runHistory (Ref.ops sent root) cfg pt h rs).2 := by
  induction rs generalizing pt h with
  | nil => exact ⟨j, .refl h⟩
  | cons r rs ih =>
    have h1 := j_request sent root cfg r (hr r List.mem_cons_self) pt h j
    have h2 := ih (fun r' hr' => hr r' (List.mem_cons_of_mem _ hr')) _ _ h1.2.1
    exact ⟨h2.1, h1.2.2.trans h2.2⟩

end Fbr.PtHost
