/-
  Fbr.Lemmas.SrvDecode — the client's encoding of a request header and the lemmas that carry a
  well-formed request through `Srv.handle` down to the per-opcode handler; the client's encoding of
  the item arrays (`encPairs`) and their decoding (`pairs_decode`).
-/
-- `SrvBuilt` is imported for the cost of checking only: C02 and C03 rewrite with the equation of
-- `handleBody` at a literal opcode in every proof and find the equations generated there, instead of
-- deriving them again in each file (C03 gets `SrvDir` through it).
import Fbr.Lemmas.SrvBuilt
import Fbr.Lemmas.Wire

namespace Fbr.Srv
open Fbr.Wire

/-- `struct fuse_in_header` as the client fills it in -/
structure Hdr where
  len : Nat
  op : Nat
  unique : Nat
  nodeid : Nat
  uid : Nat
  gid : Nat
  pid : Nat
  pad : Nat
  deriving Repr, DecidableEq, Inhabited

structure Hdr.WF (h : Hdr) : Prop where
  len : h.len < 2 ^ 32
  op : h.op < 2 ^ 32
  unique : h.unique < 2 ^ 64
  nodeid : h.nodeid < 2 ^ 64
  uid : h.uid < 2 ^ 32
  gid : h.gid < 2 ^ 32
  pid : h.pid < 2 ^ 32
  pad : h.pad < 2 ^ 32

/-- the kernel's layout -/
def encHdr (h : Hdr) : Bytes :=
  le32 h.len ++ le32 h.op ++ le64 h.unique ++ le64 h.nodeid ++ le32 h.uid ++ le32 h.gid ++
  le32 h.pid ++ le32 h.pad

@[simp] theorem encHdr_length (h : Hdr) : (encHdr h).length = 40 := by simp [encHdr]

theorem hdr_fields (h : Hdr) (hw : h.WF) (body : Bytes) :
    hdrLenOf (encHdr h ++ body) = h.len ∧ opOf (encHdr h ++ body) = h.op ∧
    uniqueOf (encHdr h ++ body) = h.unique ∧ nodeidOf (encHdr h ++ body) = h.nodeid ∧
    ctxOfHeader (encHdr h ++ body) = { uid := h.uid, gid := h.gid, pid := h.pid } := by
  obtain ⟨h1, h2, h3, h4, h5, h6, h7, h8⟩ := hw
  unfold hdrLenOf opOf uniqueOf nodeidOf ctxOfHeader encHdr
  refine ⟨?_, ?_, ?_, ?_, ?_⟩ <;> wire_norm

/-- the context the file system sees for header `h` when the remap call answers `a` -/
def ctxFor (h : Hdr) (a : Ans) : Ctx :=
  match a with
  | .remapSet u g => { uid := u, gid := g, pid := h.pid }
  | _ => { uid := h.uid, gid := h.gid, pid := h.pid }

def remapOf (h : Hdr) : Call :=
  { method := "id_remap", ctx := { uid := h.uid, gid := h.gid, pid := h.pid }, args := [.n h.nodeid] }

/-- common hypotheses of a well-formed request -/
structure Req (fs : Call → Ans) (h : Hdr) : Prop where
  wf : h.WF
  len : h.len ≤ MAX_BUFFER_SIZE + BUFFER_HEADER_SIZE
  remapOk : ∀ e, fs (remapOf h) ≠ .err e

/-- the call the handlers make with the (possibly remapped) caller ids -/
def call (fs : Call → Ans) (h : Hdr) (m : String) (args : List Arg) : Call :=
  { method := m, ctx := ctxFor h (fs (remapOf h)), args := args }

/-- `op` stands apart from `h.op` so that a caller's `hop : h.op = 15` puts the literal into the right
    side, where `rw [handleBody]` finds the equation of that arm. -/
theorem handle_reaches_handler {fs : Call → Ans} {h : Hdr} (R : Req fs h) {op : Nat} (hop : h.op = op) (cfg : Cfg)
    (body : Bytes) :
    handle cfg fs (encHdr h ++ body) =
      handleBody cfg fs (ctxFor h (fs (remapOf h))) [remapOf h] h.len op h.unique h.nodeid body := by
  subst hop
  obtain ⟨f1, f2, f3, f4, f5⟩ := hdr_fields h R.wf body
  have hrc : remapCall (encHdr h ++ body) = remapOf h := by
    unfold remapCall remapOf; rw [f4, f5]
  have hctx : ∀ a, ctxAfterRemap (encHdr h ++ body) a = ctxFor h a := by
    intro a
    cases a <;> simp [ctxAfterRemap, ctxFor, f5]
  unfold handle
  rw [if_neg (by simp [IN_HDR]), hrc]
  split
  · next e heq => exact absurd heq (R.remapOk e)
  · simp only [afterRemap, f1, f2, f3, f4, hrc, hctx, if_neg (Nat.not_lt.mpr R.len), IN_HDR]
    rw [List.drop_left' (encHdr_length h)]

theorem finish_calls {cfg : Cfg} {u : Nat} {calls : List Call} {al : List Nat} {a : Ans}
    {okb : Ans → Option (Bytes × Bytes)} : (finish cfg u calls al a okb).calls = calls := by
  unfold finish
  split
  · rfl
  · split <;> rfl

@[simp] theorem simple_calls (cfg : Cfg) (fs : Call → Ans) (u : Nat) (calls0 : List Call) (c : Call)
    (al : List Nat) (okb : Ans → Option (Bytes × Bytes)) :
    (simple cfg fs u calls0 c al okb).calls = calls0 ++ [c] := finish_calls

/-- the remap call followed by the handler's own call, in the vocabulary of `call` -/
theorem remap_then_call (fs : Call → Ans) (h : Hdr) (m : String) (args : List Arg) :
    [remapOf h] ++ [mkCall (ctxFor h (fs (remapOf h))) m args] = [remapOf h, call fs h m args] := rfl

theorem withObj_ok (cfg : Cfg) (calls0 : List Call) (r : Bytes) (n : Nat) (k : Bytes → Res)
    (h : n ≤ r.length) : withObj cfg calls0 r n k = k (r.take n) := by
  unfold withObj; rw [if_neg (by omega)]

theorem withObj_append {cfg : Cfg} {calls0 : List Call} {enc trail : Bytes} {n : Nat} {k : Bytes → Res}
    (h : enc.length = n) : withObj cfg calls0 (enc ++ trail) n k = k enc := by
  rw [withObj_ok _ _ _ _ _ (by rw [List.length_append]; omega), List.take_left' h]

/-- "read the request structure, call the file system once, reply": that call is made with the
    structure as encoded -/
theorem withObj_simple_calls {cfg : Cfg} {fs : Call → Ans} {u : Nat} {calls0 : List Call} {enc trail : Bytes}
    {n : Nat} {mk : Bytes → Call} {okb : Ans → Option (Bytes × Bytes)} (h : enc.length = n) :
    (withObj cfg calls0 (enc ++ trail) n fun b => simple cfg fs u calls0 (mk b) [] okb).calls =
      calls0 ++ [mk enc] := by
  rw [withObj_append h, simple_calls]

theorem takeWhile_name (name trail : Bytes) (h : ∀ b ∈ name, b ≠ 0) :
    (name ++ 0 :: trail).takeWhile (· != 0) = name := by
  rw [List.takeWhile_append_of_pos (by simpa using h)]; simp

theorem drop_name (name trail : Bytes) : (name ++ 0 :: trail).drop (name.length + 1) = trail := by
  rw [List.append_cons, List.drop_left' (by simp)]

theorem cstr_name (name trail : Bytes) (h : ∀ b ∈ name, b ≠ 0) : cstr (name ++ 0 :: trail) = some name := by
  unfold cstr
  rw [if_pos (by simp), takeWhile_name name trail h]

theorem getBody_ok (hdrLen sub k : Nat) (r : Bytes) (hl : hdrLen = IN_HDR + sub + k) (hr : k ≤ r.length) :
    getBody hdrLen sub r = .ok (r.take k, k) := by
  unfold getBody
  rw [if_neg (by omega)]
  have : hdrLen - IN_HDR - sub = k := by omega
  simp only [this]
  rw [if_neg (by omega)]

theorem getBody_exact {hdrLen sub k : Nat} {r : Bytes} (hl : hdrLen = IN_HDR + sub + k) (hr : r.length = k) :
    getBody hdrLen sub r = .ok (r, k) := by
  rw [getBody_ok hdrLen sub k r hl (Nat.le_of_eq hr.symm), List.take_of_length_le (Nat.le_of_eq hr)]

theorem named_ok (cfg : Cfg) (u : Nat) (calls0 : List Call) (hdrLen : Nat) (obj name : Bytes) (sub : Nat)
    (k : Bytes → List Nat → Res) (hobj : obj.length = sub)
    (hl : hdrLen = IN_HDR + sub + (name.length + 1)) (hn : ∀ b ∈ name, b ≠ 0) :
    named cfg u calls0 hdrLen (obj ++ (name ++ [0])) sub k = k name [name.length + 1] := by
  unfold named
  rw [List.drop_left' hobj, getBody_exact hl (by simp)]
  simp only
  rw [cstr_name name [] hn]

/-- "read the request structure, then a name, call the file system once": that call is made with
    the structure and the name as encoded -/
theorem withObj_named_simple_calls {cfg : Cfg} {fs : Call → Ans} {u : Nat} {calls0 : List Call} {hdrLen : Nat}
    {obj name : Bytes} {sub : Nat} {mk : Bytes → Bytes → Call} {okb : Ans → Option (Bytes × Bytes)}
    (hobj : obj.length = sub) (hl : hdrLen = IN_HDR + sub + (name.length + 1)) (hn : ∀ b ∈ name, b ≠ 0) :
    (withObj cfg calls0 (obj ++ (name ++ [0])) sub fun b =>
      named cfg u calls0 hdrLen (obj ++ (name ++ [0])) sub fun nm al =>
        simple cfg fs u calls0 (mk b nm) al okb).calls = calls0 ++ [mk obj name] := by
  rw [withObj_append hobj, named_ok _ _ _ _ obj name sub _ hobj hl hn, simple_calls]

theorem twoCstrs_ok (n1 n2 : Bytes) (h1 : ∀ b ∈ n1, b ≠ 0) (h2 : ∀ b ∈ n2, b ≠ 0) :
    twoCstrs (n1 ++ 0 :: (n2 ++ [0])) = .ok (n1, n2) := by
  unfold twoCstrs
  rw [if_pos (by simp)]
  simp only [takeWhile_name n1 _ h1, drop_name]
  rw [if_pos (by simp), cstr_name n2 [] h2]

@[simp] theorem lookupReply_calls (cfg : Cfg) (u : Nat) (calls : List Call) (al : List Nat) (a : Ans) :
    (lookupReply cfg u calls al a).calls = calls := by
  unfold lookupReply
  split
  · split
    · rfl
    · exact finish_calls
  · exact finish_calls

@[simp] theorem readReply_calls (cfg : Cfg) (u : Nat) (calls : List Call) (a : Ans) :
    (readReply cfg u calls a).calls = calls := by
  unfold readReply
  split
  · split <;> rfl
  · rfl
  · rfl

@[simp] theorem dirReply_calls (cfg : Cfg) (u : Nat) (calls : List Call) (size : Nat) (plus : Bool) (a : Ans) :
    (dirReply cfg u calls size plus a).calls = calls := by
  unfold dirReply
  split
  · split <;> rfl
  · rfl
  · rfl

@[simp] theorem initReply_calls (cfg : Cfg) (u : Nat) (calls : List Call) (mn ra cap : Nat) (a : Ans) :
    (initReply cfg u calls mn ra cap a).calls = calls := by
  unfold initReply
  split <;> rfl

@[simp] theorem notifyReply_calls (cfg : Cfg) (u : Nat) (calls : List Call) (a : Ans) :
    (notifyReply cfg u calls a).calls = calls := by
  unfold notifyReply
  split <;> rfl

/-! The 16-byte `(u64, u64)` item arrays of BATCH_FORGET and REMOVEMAPPING, as the client encodes them,
for item lists of any length. -/

def encPairs (items : List (Nat × Nat)) : Bytes := items.flatMap fun p => le64 p.1 ++ le64 p.2

@[simp] theorem encPairs_length (items : List (Nat × Nat)) : (encPairs items).length = 16 * items.length := by
  induction items with
  | nil => rfl
  | cons p ps ih =>
    rw [encPairs, List.flatMap_cons, List.length_append, ← encPairs, ih]
    simp only [List.length_append, le64_length, List.length_cons]
    omega

theorem u64At_encPairs_cons (p : Nat × Nat) (ps : List (Nat × Nat)) (trail : Bytes) (off : Nat) :
    u64At (encPairs (p :: ps) ++ trail) (16 + off) = u64At (encPairs ps ++ trail) off := by
  rw [encPairs, List.flatMap_cons, List.append_assoc]
  exact fld_append_add (le64 p.1 ++ le64 p.2) _ off 8

theorem pairs_decode (items : List (Nat × Nat)) (hb : ∀ p ∈ items, p.1 < 2 ^ 64 ∧ p.2 < 2 ^ 64) (trail : Bytes) :
    (List.range items.length).map (fun i =>
      (u64At (encPairs items ++ trail) (16 * i), u64At (encPairs items ++ trail) (16 * i + 8))) = items := by
  induction items with
  | nil => rfl
  | cons p ps ih =>
    obtain ⟨h1, h2⟩ := hb p List.mem_cons_self
    obtain ⟨a, b⟩ := p
    rw [List.length_cons, List.range_succ_eq_map, List.map_cons, List.map_map]
    refine List.cons_eq_cons.mpr ⟨?_, ?_⟩
    · rw [encPairs, List.flatMap_cons, Nat.mul_zero, Nat.zero_add]
      wire_norm
    · refine (List.map_congr_left fun i _ => ?_).trans (ih fun q hq => hb q (List.mem_cons_of_mem _ hq))
      simp only [Function.comp, Nat.succ_eq_add_one, Nat.mul_succ, Nat.add_comm (16 * i) 16, Nat.add_assoc,
        u64At_encPairs_cons]

end Fbr.Srv
