/-
  Fbr.Lemmas.PtHostCalls — what an action of the passthrough model does to the host and to its
  own tables.  `Acts P q m` (an instance of `All`): every call the action `m` can ever make, whatever
  the host answers, satisfies `P` (`OnlyM P m`), and — if `q` — `m` leaves the inode tables as they are.
  The lemmas about the blocks of the model are generic in `P`: a block needs `P` only of the calls
  it makes itself — the auxiliary calls `Aux`, those of a lookup `Look`, the credential switches
  `Switch`, the guarded re-open `Reopen`, or the one call it is given.  `Br` adds how the blocks are
  put together: bind, `try'`, the two scopes `set_creds` / `drop_cap_fsetid`, and the two blocks
  that change the inode tables (`do_lookup` of the request's name, `forget_one`).  `br_handle` walks
  over the request kinds once, for the bracket structure of each kind with the call shapes outside
  (`Outer r`) and inside (`Own r`) the `set_creds` scope.  The calls a request is made for, `Own r`,
  are those of its one-line specification `DirectCall r` (stated here, for C05 `pt_refines_direct`)
  or the read-only ones `Reads r`; what the specification leaves open about them is `Tame`.
  Forgetting the brackets (`only_handle`), every call-level property of a request (`IoSafe` here;
  `Allowed`, "creates nothing", "confined wherever issued" in the files that follow) is a check of
  `Aux`, `Look`, `Own r`, `Switch`.  Credential neutrality, "created objects belong to the caller"
  and the joint invariant of table and reference host are inductions over `Br` (`Br.neutral` in
  PtHostCreds, `Br.asCaller` in PtHostOwner, `Br.jsafe` in PtHostExport).
-/
import Fbr.Lemmas.PtHostBits
import Fbr.Lemmas.PtHostRun

namespace Fbr.PtHost
open Fbr.Host

variable {α β : Type} {P : HCall → Prop}

theorem onlyCalls_mono {P Q : HCall → Prop} (p : Prog α) (h : p.OnlyCalls P) (hpq : ∀ c, P c → Q c) : p.OnlyCalls Q := by
  induction p with
  | pure a => trivial
  | call c k ih => exact ⟨hpq _ h.1, fun a => ih a (h.2 a)⟩

structure OnlyM (P : HCall → Prop) (m : M α) : Prop where
  h : ∀ st, (m st).OnlyCalls P

theorem onlyM_mono {P Q : HCall → Prop} {m : M α} (h : OnlyM P m) (hpq : ∀ c, P c → Q c) : OnlyM Q m :=
  ⟨fun st => onlyCalls_mono _ (h.h st) hpq⟩

theorem onlyM_pure' (a : α) : OnlyM P (M.pure' a : M α) := ⟨fun _ => trivial⟩

/-- whatever the host answers, every call the program makes satisfies `P` (`Prog.OnlyCalls`, `All.only`) and every
    value it returns satisfies `Q` -/
def All (P : HCall → Prop) (Q : α → Prop) : Prog α → Prop
  | .pure a => Q a
  | .call c k => P c ∧ ∀ a, All P Q (k a)

theorem All.only {Q : α → Prop} {p : Prog α} (h : All P Q p) : p.OnlyCalls P := by
  induction p with
  | pure a => trivial
  | call c k ih => exact ⟨h.1, fun a => ih a (h.2 a)⟩

theorem all_bind {Q : β → Prop} {R : α → Prop} {p : Prog α} {f : α → Prog β}
    (hp : All P R p) (hf : ∀ a, R a → All P Q (f a)) : All P Q (p.bind f) := by
  induction p with
  | pure a => exact hf a hp
  | call c k ih => exact ⟨hp.1, fun a => ih a (hp.2 a)⟩

theorem all_mono {P' : HCall → Prop} {Q R : α → Prop} {p : Prog α} (hp : All P R p) (hc : ∀ c, P c → P' c)
    (h : ∀ a, R a → Q a) : All P' Q p := by
  induction p with
  | pure a => exact h a hp
  | call c k ih => exact ⟨hc c hp.1, fun a => ih a (hp.2 a)⟩

/-- (`q = true`:) the inode tables — what `do_lookup` and `forget` update, and nothing else does —
    are the same in `s'` as in `s` -/
def Kept (q : Bool) (s s' : PtState) : Prop :=
  q = true → s'.inodes = s.inodes ∧ s'.byId = s.byId ∧ s'.byHandle = s.byHandle ∧ s'.nextInode = s.nextInode

theorem Kept.refl {q : Bool} {s : PtState} : Kept q s s := fun _ => ⟨rfl, rfl, rfl, rfl⟩

theorem Kept.trans {q : Bool} {a b c : PtState} (h1 : Kept q a b) (h2 : Kept q b c) : Kept q a c := fun hq => by
  obtain ⟨a1, a2, a3, a4⟩ := h1 hq
  obtain ⟨b1, b2, b3, b4⟩ := h2 hq
  exact ⟨b1.trans a1, b2.trans a2, b3.trans a3, b4.trans a4⟩

theorem Kept.handles {q : Bool} {s : PtState} {hs : List (Nat × HandleData)} {n : Nat} :
    Kept q s { s with handles := hs, nextHandle := n } := fun _ => ⟨rfl, rfl, rfl, rfl⟩

structure Acts (P : HCall → Prop) (q : Bool) (m : M α) : Prop where
  h : ∀ st, All P (fun r => Kept q st r.2) (m st)

variable {q : Bool}

theorem Acts.only {m : M α} (h : Acts P q m) : OnlyM P m := ⟨fun st => (h.h st).only⟩

-- an action that makes no call: its program unfolds to `.pure r`, and `All` of that is the claim `Kept q st r.2` itself
theorem acts_pure (a : α) : Acts P q (pure a : M α) := ⟨fun _ => .refl⟩
theorem acts_throw (e : Nat) : Acts P q (M.throw e : M α) := ⟨fun _ => .refl⟩
theorem acts_get : Acts P q M.get := ⟨fun _ => .refl⟩
theorem acts_ofOption (e : Nat) (o : Option α) : Acts P q (M.ofOption e o) := by
  cases o <;> exact ⟨fun _ => .refl⟩
theorem acts_ofExcept (o : Except Nat α) : Acts P q (M.ofExcept o) := by
  cases o <;> exact ⟨fun _ => .refl⟩
theorem acts_modify (f : PtState → PtState) (hf : ∀ s, Kept q s (f s)) : Acts P q (M.modify f) := ⟨hf⟩
theorem acts_modify_any (f : PtState → PtState) : Acts P false (M.modify f) := acts_modify f fun _ h => by cases h
theorem acts_set (s : PtState) : Acts P false (M.set s) := acts_modify_any _

theorem acts_sys {c : HCall} : Acts P q (M.sys c) ↔ P c :=
  ⟨fun h => (h.h default).1, fun h => ⟨fun _ => ⟨h, fun _ => .refl⟩⟩⟩

theorem Acts.bind {m : M α} {f : α → M β} (hm : Acts P q m) (hf : ∀ a, Acts P q (f a)) : Acts P q (m >>= f) := by
  refine ⟨fun st => all_bind (hm.h st) fun r hr => ?_⟩
  cases h : r.1 with
  | ok a => simp only []; exact all_mono ((hf a).h r.2) (fun _ => id) fun _ => hr.trans
  | error e => exact hr

theorem Acts.try' {m : M α} (hm : Acts P q m) : Acts P q (M.try' m) :=
  ⟨fun st => all_bind (hm.h st) fun _ hr => hr⟩

theorem Acts.mono {Q : HCall → Prop} {m : M α} (h : Acts P q m) (hpq : ∀ c, P c → Q c) : Acts Q q m :=
  ⟨fun st => all_mono (h.h st) hpq fun _ => id⟩

theorem Acts.any {m : M α} (h : Acts P true m) : Acts P q m := ⟨fun st => all_mono (h.h st) (fun _ => id) fun _ hr _ => hr rfl⟩

/-- Proves `𝒫 m` for an action `m` written as a `do` block, for a predicate `𝒫` closed under the
    composition lemmas `𝒫.bind`, `𝒫.try'`, `𝒫.withCreds`, `𝒫.withKillpriv`: goes down binds, `try'`, the two
    scopes, `if` and `match` (`dsimp only` substitutes a `let` whose variable a condition tests, on which
    `split` fails: `getData`); what is left are the blocks `m` is made of.  A block is first turned into
    a statement about `Acts` where `𝒫` follows from it (`𝒫.of_acts`: `Br`) and rewritten with
    the given lemmas about blocks, whose hypotheses are taken from the context or reduce to `True`;
    failing that (`𝒫` is `Acts` itself, or the lemma given for the block is about `𝒫`) `𝒫 m` is
    rewritten directly.  What remains are the conditions on single calls, and the blocks no lemma was
    given for.  (The steps unify up to reducible definitions only: a block whose body begins with a
    bind is not to be opened.)
    * `𝒫` is read off the expected type and the five names are resolved in its namespace; a missing one
      is an alternative that fails (`Acts` has no `of_acts`, and needs none).
    * The facts about the call families must be in the context in exactly the shapes
      `∀ c, Aux c → P c`, `∀ c, Look c → P c`, `∀ c, Switch c → P c`, `∀ c, Reopen c → P c`,
      `∀ c, Own r c → P c`: the block lemmas take them as hypotheses, and they are found by the
      `assumption` discharger and by the `:= by assumption` arguments of `Acts.withCreds`/`Acts.withKillpriv`.
    * The last alternative is `skip`: a block with no lemma is left as a goal, not an error. -/
syntax "walk" (" [" Lean.Parser.Tactic.simpLemma,* "]")? : tactic
macro_rules
  | `(tactic| walk [$ls,*]) => `(tactic|
    (repeat' first
      | with_reducible refine .bind ?_ fun _ => ?_ | with_reducible refine .try' ?_
      | with_reducible refine .withCreds ?_ | with_reducible refine .withKillpriv ?_ | split | dsimp only
     all_goals first
      | (with_reducible refine .of_acts ?_
         simp (disch := first | assumption | exact trivial) only [acts_pure, acts_throw, acts_get, acts_ofOption,
          acts_ofExcept, acts_sys, acts_set, acts_modify_any, $ls,*])
      | simp (disch := first | assumption | exact trivial) only [acts_pure, acts_throw, acts_get, acts_ofOption,
          acts_ofExcept, acts_sys, acts_set, acts_modify_any, $ls,*]
      | skip))
  | `(tactic| walk) => `(tactic| walk [])

theorem acts_unitCall {c : HCall} : Acts P q (unitCall c) ↔ P c := by
  refine ⟨fun h => (h.h default).1, fun h => ?_⟩
  unfold unitCall; walk; exact h

theorem acts_statOf (a : HAns) : Acts P q (statOf a) := by unfold statOf; walk
theorem acts_fdOf (a : HAns) : Acts P q (fdOf a) := by unfold fdOf; walk
theorem acts_validateName (cfg : Cfg) (n : Name) : Acts P q (validateName cfg n) := by unfold validateName; walk
theorem acts_inodeData (i : Nat) : Acts P q (inodeData i) := by unfold inodeData; walk

theorem acts_newHandle (i : Nat) (f : Fd) (fl : Nat) : Acts P q (newHandle i f fl) := ⟨fun _ => .handles⟩

theorem acts_doRelease (i h : Nat) : Acts P q (doRelease i h) := by
  refine ⟨fun st => ?_⟩
  unfold doRelease
  simp only [bind_def, M.bind', M.get, Prog.bind]
  cases st.getHandle h i <;> exact .handles

theorem acts_createHandle (cfg : Cfg) (i : Nat) (f : Fd) (fl : Nat) : Acts P q (createHandle cfg i f fl) := by
  unfold createHandle; walk [acts_newHandle]
theorem acts_setattrData (cfg : Cfg) (i : Nat) (h : Option Nat) (f : Fd) : Acts P q (setattrData cfg i h f) := by
  unfold setattrData; walk

/-- auxiliary calls: the `O_PATH` descriptor of a table entry held by file handle, `fstatat`,
    `F_SETFL` -/
inductive Aux : HCall → Prop
  | byHandle (h m : Nat) : Aux (.openByHandle h O_PATH m)
  | fstatat (f : Fd) : Aux (.fstatat f [] STATX_FLAGS)
  | setfl (f : Fd) (fl : Nat) : Aux (.setfl f fl)

/-- the calls of `do_lookup`: `openat(O_NOFOLLOW|O_PATH)`, `statx`, the file-handle probe -/
inductive Look : HCall → Prop
  | openat (d : Fd) (n : Name) : Look (.openat d n (O_NOFOLLOW ||| O_CLOEXEC ||| O_PATH) 0)
  | statx (f : Fd) : Look (.statx f [] STATX_FLAGS STATX_MASK)
  | toHandle (f : Fd) (sz : Nat) : Look (.nameToHandle f AT_EMPTY_PATH sz)

/-- the calls of `set_creds`, `drop_cap_fsetid` and their guards -/
inductive Switch : HCall → Prop
  | gid (g : Nat) : Switch (.setresgid g)
  | uid (u : Nat) : Switch (.setresuid u)
  | capget : Switch .capget
  | capset (b : Bool) : Switch (.capset b)

/-- the re-open of `open_inode`, through /proc or by file handle: only for an inode recorded as a
    regular file or a directory -/
inductive Reopen : HCall → Prop
  | proc (f fl m : Nat) : isSafeInode m = true → Reopen (.reopen f fl m)
  | byHandle (h fl m : Nat) : isSafeInode m = true → Reopen (.openByHandle h fl m)

section aux
variable (aux : ∀ c, Aux c → P c)
include aux

theorem acts_getFile (d : InodeData) : Acts P q (getFile d) := by
  unfold getFile; walk [acts_fdOf]; exact aux _ (.byHandle ..)
theorem acts_statFd (f : Fd) : Acts P q (statFd f) := by
  unfold statFd; walk [acts_statOf]; exact aux _ (.fstatat f)
theorem acts_statInode (d : InodeData) : Acts P q (statInode d) := by
  unfold statInode; walk [acts_getFile, acts_statFd]
theorem acts_doGetattr (cfg : Cfg) (i : Nat) (h : Option Nat) : Acts P q (doGetattr cfg i h) := by
  unfold doGetattr; walk [acts_inodeData, acts_statFd, acts_statInode]
theorem acts_checkFdFlags (cfg : Cfg) (h : Nat) (hd : HandleData) (f : Nat) : Acts P q (checkFdFlags cfg h hd f) := by
  unfold checkFdFlags; walk [acts_unitCall]
  · exact aux _ (.setfl ..)
  · exact acts_modify _ fun _ => .handles

section look
variable (look : ∀ c, Look c → P c)
include look

omit aux in
theorem acts_fileHandleFromFd (f : Fd) : Acts P q (fileHandleFromFd f) := by
  unfold fileHandleFromFd; walk <;> exact look _ (.toHandle ..)
omit aux in
theorem acts_openFileAndHandle (cfg : Cfg) (d : Fd) (n : Name) : Acts P q (openFileAndHandle cfg d n) := by
  unfold openFileAndHandle; walk [acts_fdOf, acts_statOf, acts_fileHandleFromFd]
  · exact look _ (.openat d n)
  · exact look _ (.statx _)
/-- `do_lookup` (the one block that enters or re-counts an inode) -/
theorem acts_doLookup (cfg : Cfg) (p : Nat) (n : Name) : Acts P false (doLookup cfg p n) := by
  unfold doLookup; walk [acts_getFile, acts_openFileAndHandle]

end look

end aux

section switch
variable (sw : ∀ c, Switch c → P c)
include sw

theorem acts_dropGid (g : Bool) : Acts P q (dropGid g) := by unfold dropGid; walk; exact sw _ (.gid 0)
theorem acts_dropUid (g : Bool) : Acts P q (dropUid g) := by unfold dropUid; walk; exact sw _ (.uid 0)
theorem acts_scopedGid (g : Nat) : Acts P q (scopedGid g) := by
  unfold scopedGid; walk [acts_unitCall]; exact sw _ (.gid g)
theorem acts_scopedUid (u : Nat) : Acts P q (scopedUid u) := by
  unfold scopedUid; walk [acts_unitCall]; exact sw _ (.uid u)
theorem acts_setCreds (u g : Nat) : Acts P q (setCreds u g) := by
  unfold setCreds; walk [acts_scopedGid, acts_scopedUid, acts_dropGid]
theorem acts_dropCreds (g : CredGuards) : Acts P q (dropCreds g) := by
  unfold dropCreds; walk [acts_dropGid, acts_dropUid]
omit sw in
theorem Acts.withCreds {u g : Nat} {body : M α} (hb : Acts P q body) (sw : ∀ c, Switch c → P c := by assumption) :
    Acts P q (withCreds u g body) := by
  unfold Fbr.PtHost.withCreds; walk [acts_setCreds, acts_dropCreds, hb]
theorem acts_dropCap : Acts P q dropCapFsetid := by
  unfold dropCapFsetid; walk <;> first | exact sw _ .capget | exact sw _ (.capset _)
theorem acts_raiseCap : Acts P q raiseCapFsetid := by
  unfold raiseCapFsetid; walk <;> first | exact sw _ .capget | exact sw _ (.capset _)
omit sw in
theorem Acts.withKillpriv {c : Bool} {body : M α} (hb : Acts P q body) (sw : ∀ c, Switch c → P c := by assumption) :
    Acts P q (withKillpriv c body) := by
  unfold Fbr.PtHost.withKillpriv; walk [acts_dropCap, acts_raiseCap, hb]

end switch

/-- the bracket structure of an action: blocks whose calls are in `P` and that leave the inode tables as they are; the two
    blocks that change them, `do_lookup` of the name `n` and `forget_one`; bind and `try'`; and the two scopes —
    `set_creds(u, g)` around a block whose calls are in `B`, `drop_cap_fsetid` around any such action.  The credential
    switches are those of the scopes, and no others. -/
inductive Br (cfg : Cfg) (n : Name) (u g : Nat) (P B : HCall → Prop) : {α : Type} → M α → Prop
  | of_acts {α : Type} {m : M α} : Acts P true m → Br cfg n u g P B m
  | lookup (p : Nat) : Br cfg n u g P B (doLookup cfg p n)
  | forget (i c : Nat) : Br cfg n u g P B (M.modify fun s => forgetOne cfg s i c)
  | bind {α β : Type} {m : M α} {f : α → M β} : Br cfg n u g P B m → (∀ a, Br cfg n u g P B (f a)) → Br cfg n u g P B (m >>= f)
  | try' {α : Type} {m : M α} : Br cfg n u g P B m → Br cfg n u g P B (M.try' m)
  | withCreds {α : Type} {body : M α} : Acts B true body → Br cfg n u g P B (withCreds u g body)
  | withKillpriv {α : Type} {c : Bool} {body : M α} : Br cfg n u g P B body → Br cfg n u g P B (withKillpriv c body)

theorem Br.acts {cfg : Cfg} {n : Name} {u g : Nat} {B Q : HCall → Prop} {m : M α} (hP : ∀ c, P c → Q c) (hB : ∀ c, B c → Q c)
    (aux : ∀ c, Aux c → Q c) (look : ∀ c, Look c → Q c) (sw : ∀ c, Switch c → Q c) (h : Br cfg n u g P B m) :
    Acts Q false m := by
  induction h with
  | of_acts h => exact (h.mono hP).any
  | lookup p => exact acts_doLookup aux look cfg p n
  | forget => exact acts_modify_any _
  | bind _ _ ih1 ih2 => exact ih1.bind ih2
  | try' _ ih => exact ih.try'
  | withCreds h => exact (h.mono hB).any.withCreds
  | withKillpriv _ ih => exact ih.withKillpriv

theorem acts_openInode (ro : ∀ c, Reopen c → P c) (cfg : Cfg) (i f : Nat) : Acts P q (openInode cfg i f) := by
  unfold openInode; walk [acts_fdOf]
  · exact ro _ (.proc _ _ _ (by simp_all))
  · exact ro _ (.byHandle _ _ _ (by simp_all))

theorem acts_getData (ro : ∀ c, Reopen c → P c) (cfg : Cfg) (d : Bool) (h i f : Nat) : Acts P q (getData cfg d h i f) := by
  unfold getData; walk [acts_openInode]

theorem br_doOpen {n : Name} {u g : Nat} {B : HCall → Prop} (ro : ∀ c, Reopen c → P c) (cfg : Cfg) (i f ff : Nat) :
    Br cfg n u g P B (doOpen cfg i f ff) := by
  unfold doOpen; walk [acts_newHandle, acts_openInode]

theorem br_createOpenExisting {n : Name} {B : HCall → Prop} (ro : ∀ c, Reopen c → B c) (cfg : Cfg) (c : Ctx) (e : Entry)
    (f ff : Nat) : Br cfg n c.uid c.gid P B (createOpenExisting cfg c e f ff) := by
  unfold createOpenExisting; walk [acts_openInode]; exact .forget _ 1

theorem acts_createFileExcl {d : Fd} {n : Name} {f m : Nat} :
    Acts P q (createFileExcl d n f m) ↔ P (.openat d n (f ||| O_CREAT ||| O_EXCL) m) := by
  refine ⟨fun h => (h.h default).1, fun h => ?_⟩
  unfold createFileExcl; walk; exact h

/-- requests that re-open the inode when they are not given a stored handle (or to create one) -/
def Req.opens : Req → Bool
  | .open .. | .opendir .. | .create .. | .read .. | .write .. | .fsync .. | .fsyncdir .. | .fallocate .. => true
  | _ => false

/-- the name a request hands to `do_lookup` (LOOKUP itself; the new name of symlink, mknod, mkdir, link, create);
    `[]` for the requests that do not look up -/
def Req.lookupName : Req → Name
  | .lookup _ n | .symlink _ _ _ n | .mknod _ _ n .. | .mkdir _ _ n .. | .link _ _ n | .create _ _ n .. => n
  | _ => []

/-- an I/O open: read-only unless it carries O_TRUNC -/
def IsOpenCall : HCall → Prop
  | .reopen .. | .openByHandle .. => True
  | _ => False

theorem Reopen.isOpen {c : HCall} (h : Reopen c) : IsOpenCall c := by cases h <;> trivial

/-- the host call(s) a request corresponds to: the only calls of the request that may change the
    host tree.  Descriptors are existentially quantified (the parent's / inode's / handle's). -/
def DirectCall : Req → HCall → Prop
  | .mkdir _ _ n m u, c => ∃ d, c = .mkdirat d n (clr m u)
  | .mknod _ _ n m r u, c => ∃ d, c = .mknodat d n (clr m u) r
  | .symlink _ t _ n, c => ∃ d, c = .symlinkat t d n
  | .unlink _ n, c => ∃ d, c = .unlinkat d n 0
  | .rmdir _ n, c => ∃ d, c = .unlinkat d n AT_REMOVEDIR
  | .rename _ on _ nn f, c => ∃ a b, c = .renameat2 a on b nn f
  | .link _ _ nn, c => ∃ a b, c = .linkat a [] b nn AT_EMPTY_PATH
  | .create _ _ n _ m u _, c => (∃ d fl, c = .openat d n fl (clr m (u &&& 0o777))) ∨ IsOpenCall c
  | .open .., c | .opendir .., c => IsOpenCall c
  | .setattr _ _ v m u g sz a an mt mn, c =>
      (has v FATTR_MODE = true ∧ ∃ f, c = .fchmod f m ∨ c = .fchmodatProc f m 0) ∨
      (has v (FATTR_UID ||| FATTR_GID) = true ∧ ∃ f, c = .fchownat f []
          (if has v FATTR_UID then u else U32_MAX) (if has v FATTR_GID then g else U32_MAX) (AT_EMPTY_PATH ||| AT_SYMLINK_NOFOLLOW)) ∨
      (has v FATTR_SIZE = true ∧ ((∃ f, c = .ftruncate f sz) ∨ IsOpenCall c)) ∨
      (has v (FATTR_ATIME ||| FATTR_MTIME) = true ∧ ∃ f,
          c = .futimens f (setattrTimes v a an mt mn).1.1 (setattrTimes v a an mt mn).1.2 (setattrTimes v a an mt mn).2.1 (setattrTimes v a an mt mn).2.2 ∨
          c = .utimensatProc f (setattrTimes v a an mt mn).1.1 (setattrTimes v a an mt mn).1.2 (setattrTimes v a an mt mn).2.1 (setattrTimes v a an mt mn).2.2 0)
  | .write _ _ d off _ _, c => (∃ f, c = .pwritev f d off) ∨ IsOpenCall c
  | .read .., c | .fsync .., c | .fsyncdir .., c => IsOpenCall c
  | .fallocate _ _ m o l, c => (∃ f, c = .fallocate f m o l) ∨ IsOpenCall c
  | .setxattr _ n v fl, c => ∃ f, c = .setxattr f n v fl
  | .removexattr _ n, c => ∃ f, c = .removexattr f n
  | _, _ => False

def Allowed (r : Req) (c : HCall) : Prop := c.readOnly = true ∨ DirectCall r c

/-- the caller a request creates objects for -/
def Req.caller : Req → Option Ctx
  | .symlink c .. | .mknod c .. | .mkdir c .. | .create c .. => some c
  | _ => none

/-- what the one-line specification leaves open about a call a request is made for: it is no credential switch, a re-open
    concerns an inode recorded as a regular file or a directory, a plain `openat` is an exclusive creation, and only a
    request made for a caller creates -/
def Tame (r : Req) : HCall → Prop
  | .reopen _ _ m | .openByHandle _ _ m => isSafeInode m = true
  | .openat _ _ fl _ => has fl O_CREAT = true ∧ has fl O_EXCL = true ∧ r.caller ≠ none
  | .mkdirat .. | .mknodat .. | .symlinkat .. => r.caller ≠ none
  | c => c.isCred = false

/-- the read-only calls a request is made for (`DirectCall` lists only those that may change the host tree) -/
inductive Reads : Req → HCall → Prop
  | readlink : Reads (.readlink i) (.readlinkat f [] PATH_MAX)
  | read : Reads (.read i h sz off fl) (.preadv f sz off)
  | fsync : Reads (.fsync i h ds) (.fsync f)
  | fdatasync : Reads (.fsync i h ds) (.fdatasync f)
  | fsyncdir : Reads (.fsyncdir i h ds) (.fsync f)
  | fdatasyncdir : Reads (.fsyncdir i h ds) (.fdatasync f)
  | lseek : Reads (.lseek i h o w) (.lseek f o w)
  | statfs : Reads (.statfs i) (.fstatvfs f)
  | getxattr : Reads (.getxattr i n sz) (.getxattr f n sz)
  | listxattr : Reads (.listxattr i sz) (.listxattr f sz)

/-- the calls a request is made for: what is left of its program without the auxiliary calls, the credential switches and
    the table bookkeeping.  Each is a call of the request's specification `DirectCall` (descriptors are the parent's,
    the inode's or the handle's, whichever the tables give) or one of `Reads`, and is `Tame`. -/
def Own (r : Req) (c : HCall) : Prop := (Reads r c ∨ DirectCall r c) ∧ Tame r c

theorem Own.allowed {r : Req} (c : HCall) (h : Own r c) : Allowed r c :=
  h.1.imp (fun h => by cases h <;> rfl) id

theorem Reopen.tame {r : Req} {c : HCall} (h : Reopen c) : Tame r c := by cases h <;> assumption

theorem Own.reopen {r : Req} {c : HCall} (hr : r.opens = true) (hc : Reopen c) : Own r c := by
  refine ⟨.inr ?_, hc.tame⟩
  cases r <;> first | exact hc.isOpen | exact Or.inr hc.isOpen | cases hr

section setattr
variable {i : Nat} {h : Option Nat} {v m u g sz a an b bn : Nat}
  (own : ∀ c, Own (.setattr i h v m u g sz a an b bn) c → P c)
include own

theorem acts_setattrMode (d : SetattrData) : Acts P q (setattrMode d v m) := by
  unfold setattrMode; walk [acts_unitCall]
  · exact own _ ⟨.inr (.inl ⟨‹_›, _, .inl rfl⟩), rfl⟩
  · exact own _ ⟨.inr (.inl ⟨‹_›, _, .inr rfl⟩), rfl⟩

theorem acts_setattrOwner (file : Fd) : Acts P q (setattrOwner file v u g) := by
  unfold setattrOwner
  by_cases hv : has v (FATTR_UID ||| FATTR_GID) = true
  · rw [if_pos hv]; exact acts_unitCall.2 (own _ ⟨.inr (.inr (.inl ⟨hv, _, rfl⟩)), rfl⟩)
  · rw [if_neg hv]; exact acts_pure _

theorem br_setattrSize {n : Name} {u g : Nat} {B : HCall → Prop} (cfg : Cfg) (d : SetattrData) :
    Br cfg n u g P B (setattrSize cfg i d v sz) := by
  unfold setattrSize
  split
  · have ro : ∀ c, Reopen c → P c := fun c hc => own c ⟨.inr (.inr (.inr (.inl ⟨‹_›, .inr hc.isOpen⟩))), hc.tame⟩
    walk [acts_unitCall, acts_openInode]
    all_goals exact own _ ⟨.inr (.inr (.inr (.inl ⟨‹_›, .inl ⟨_, rfl⟩⟩))), rfl⟩
  · exact .of_acts (acts_pure _)

theorem acts_setattrUtimens (d : SetattrData) : Acts P q (setattrUtimens d v a an b bn) := by
  unfold setattrUtimens; walk [acts_unitCall]
  · exact own _ ⟨.inr (.inr (.inr (.inr ⟨‹_›, _, .inl rfl⟩))), rfl⟩
  · exact own _ ⟨.inr (.inr (.inr (.inr ⟨‹_›, _, .inr rfl⟩))), rfl⟩

end setattr

/-- the calls a request makes outside its `set_creds` scope and outside `do_lookup`: auxiliary calls and — unless the
    request creates for a caller — its own -/
inductive Outer (r : Req) : HCall → Prop
  | aux : Aux c → Outer r c
  | own : r.caller = none → Own r c → Outer r c

/-- **the walk over the request kinds**: the blocks of a request with the calls they may issue whatever the host
    answers, the scopes around them, and where the inode tables change: in the `do_lookup` of the request's name and in
    `forget_one`, nowhere else.  `u`, `g` are the caller's ids (any, for a request that has no caller: it has no
    `set_creds` scope). -/
theorem br_handle (cfg : Cfg) (r : Req) :
    Br cfg r.lookupName (r.caller.getD default).uid (r.caller.getD default).gid (Outer r) (Own r) (handle cfg r) := by
  have aux : ∀ c, Aux c → Outer r c := fun _ => .aux
  have ro : r.opens = true → r.caller = none → ∀ c, Reopen c → Outer r c := fun h h' _ hc => .own h' (Own.reopen h hc)
  cases r <;> simp only [handle, Req.lookupName, Req.caller, Option.getD]
  case lookup p n => unfold lookup; walk; exact .lookup p
  case forget i c => unfold forget; walk; exact .forget i c
  case getattr i h => walk [acts_doGetattr]
  case setattr i h v m u g sz a an b bn =>
    have own : ∀ c, Own (.setattr i h v m u g sz a an b bn) c → Outer _ c := fun _ => .own rfl
    unfold setattr
    walk [acts_inodeData, acts_getFile, acts_setattrData, acts_setattrMode, acts_setattrOwner, br_setattrSize,
      acts_setattrUtimens, acts_doGetattr]
  case readlink i =>
    unfold readlink; walk [acts_inodeData, acts_getFile]
    exact .own rfl ⟨.inl .readlink, rfl⟩
  case symlink c t p n =>
    unfold symlink
    walk [acts_validateName, acts_inodeData, acts_getFile, acts_unitCall]
    · exact ⟨.inr ⟨_, rfl⟩, nofun⟩
    · exact .lookup p
  case mknod c p n m rd u =>
    unfold mknod
    walk [acts_validateName, acts_inodeData, acts_getFile, acts_unitCall]
    · exact ⟨.inr ⟨_, rfl⟩, nofun⟩
    · exact .lookup p
  case mkdir c p n m u =>
    unfold mkdir
    walk [acts_validateName, acts_inodeData, acts_getFile, acts_unitCall]
    · exact ⟨.inr ⟨_, rfl⟩, nofun⟩
    · exact .lookup p
  case unlink p n =>
    unfold unlink doUnlink
    walk [acts_validateName, acts_inodeData, acts_getFile, acts_unitCall]
    exact .own rfl ⟨.inr ⟨_, rfl⟩, rfl⟩
  case rmdir p n =>
    unfold rmdir doUnlink
    walk [acts_validateName, acts_inodeData, acts_getFile, acts_unitCall]
    exact .own rfl ⟨.inr ⟨_, rfl⟩, rfl⟩
  case rename od on nd nn fl =>
    unfold rename
    walk [acts_validateName, acts_inodeData, acts_getFile, acts_unitCall]
    exact .own rfl ⟨.inr ⟨_, _, rfl⟩, rfl⟩
  case link i np nn =>
    unfold link
    walk [acts_validateName, acts_inodeData, acts_getFile, acts_unitCall]
    · exact .own rfl ⟨.inr ⟨_, _, rfl⟩, rfl⟩
    · exact .lookup np
  case «open» i f ff =>
    have ro := ro rfl rfl
    unfold open_; walk [br_doOpen]
  case opendir i f =>
    have ro := ro rfl rfl
    unfold opendir; walk [br_doOpen]
  case create c p n f m u ff =>
    have ro : ∀ x, Reopen x → Own (.create c p n f m u ff) x := fun _ => Own.reopen rfl
    unfold create
    walk [acts_validateName, acts_inodeData, acts_getFile, acts_createFileExcl, br_createOpenExisting, acts_createHandle]
    · exact ⟨.inr (.inl ⟨_, _, rfl⟩), (has_creat_excl _).1, (has_creat_excl _).2, nofun⟩
    · exact .lookup p
  case read i h sz off f =>
    have ro := ro rfl rfl
    unfold read; walk [acts_getData, acts_checkFdFlags]
    exact .own rfl ⟨.inl .read, rfl⟩
  case write i h d off f ff =>
    have ro := ro rfl rfl
    unfold write; walk [acts_getData, acts_checkFdFlags]
    exact .own rfl ⟨.inr (.inl ⟨_, rfl⟩), rfl⟩
  case flush i h => unfold flush; walk
  case fsync i h ds =>
    have ro := ro rfl rfl
    unfold fsync; walk [acts_getData, acts_unitCall]
    · exact .own rfl ⟨.inl .fdatasync, rfl⟩
    · exact .own rfl ⟨.inl .fsync, rfl⟩
  case fsyncdir i h ds =>
    have ro := ro rfl rfl
    unfold fsync; walk [acts_getData, acts_unitCall]
    · exact .own rfl ⟨.inl .fdatasyncdir, rfl⟩
    · exact .own rfl ⟨.inl .fsyncdir, rfl⟩
  case release i h => unfold release; walk [acts_doRelease]
  case releasedir i h => unfold releasedir; walk [acts_doRelease]
  case fallocate i h m o l =>
    have ro := ro rfl rfl
    unfold fallocate; walk [acts_getData, acts_unitCall]
    exact .own rfl ⟨.inr (.inl ⟨_, rfl⟩), rfl⟩
  case lseek i h o w => unfold lseek; walk; exact .own rfl ⟨.inl .lseek, rfl⟩
  case statfs i => unfold statfs; walk [acts_inodeData, acts_getFile]; exact .own rfl ⟨.inl .statfs, rfl⟩
  case setxattr i n v f =>
    unfold setxattr; walk [acts_inodeData, acts_getFile, acts_unitCall]
    exact .own rfl ⟨.inr ⟨_, rfl⟩, rfl⟩
  case getxattr i n sz =>
    unfold getxattr; walk [acts_inodeData, acts_getFile]; exact .own rfl ⟨.inl .getxattr, rfl⟩
  case listxattr i sz =>
    unfold listxattr; walk [acts_inodeData, acts_getFile]; exact .own rfl ⟨.inl .listxattr, rfl⟩
  case removexattr i n =>
    unfold removexattr; walk [acts_inodeData, acts_getFile, acts_unitCall]
    exact .own rfl ⟨.inr ⟨_, rfl⟩, rfl⟩

/-- `br_handle` without the brackets: what holds of the auxiliary calls, of the calls of a lookup, of the request's own calls
    and of the credential switches holds of every call of the request -/
theorem only_handle (cfg : Cfg) (r : Req) {Q : HCall → Prop} (aux : ∀ c, Aux c → Q c) (look : ∀ c, Look c → Q c)
    (own : ∀ c, Own r c → Q c) (sw : ∀ c, Switch c → Q c) : OnlyM Q (handle cfg r) :=
  ((br_handle cfg r).acts (fun c h => by
    cases h with
    | aux h => exact aux c h
    | own _ h => exact own c h) own aux look sw).only

/-- the recorded mode says regular file or directory; plain `openat` is a lookup
    (`O_PATH|O_NOFOLLOW`) or the exclusive creation of a new file -/
def IoSafe : HCall → Prop
  | .reopen _ _ m => isSafeInode m = true
  | .openByHandle _ fl m => has fl O_PATH = true ∨ isSafeInode m = true
  | .openat _ _ fl _ => (has fl O_PATH = true ∧ has fl O_NOFOLLOW = true) ∨ (has fl O_CREAT = true ∧ has fl O_EXCL = true)
  | _ => True

theorem Tame.ioSafe {r : Req} {c : HCall} (h : Tame r c) : IoSafe c := by
  cases c <;> first | trivial | exact h | exact .inr h | exact .inr ⟨h.1, h.2.1⟩

theorem ioSafe_handle (cfg : Cfg) (r : Req) : OnlyM IoSafe (handle cfg r) :=
  only_handle cfg r (fun _ h => by cases h <;> first | trivial | exact Or.inl (by decide))
    (fun _ h => by cases h <;> first | trivial | exact Or.inl ⟨by decide, by decide⟩) (fun _ h => h.2.ioSafe)
    fun _ h => by cases h <;> trivial

end Fbr.PtHost
