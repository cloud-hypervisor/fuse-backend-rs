/-
  `GInv d0`, the invariant behind `lowers_never_mutated` and the theorems about the configuration without
  an upper layer: a real inode flagged `in_upper_layer` belongs to layer 0 — and can exist only if the
  disk `d0` the history started from has an upper layer —, every logged call is on layer 0, the lower
  layers are those of `d0`.  It needs no well-formedness of the layers, and every function of the overlay
  model keeps it, on success and on failure.  A modifying operation that succeeds has passed the check for an upper
  layer or made a call through an upper real inode, so `d0` has an upper layer (`runOp_wrote`): without one
  every modifying operation fails (`runOp_fails`).
-/
import Fbr.Lemmas.OvlHoare
import Fbr.Lemmas.OvlEval

namespace Fbr.Ovl

variable (d0 : Disk)

def RealOK (r : Real) : Prop := r.inUpper = true → r.layer = 0 ∧ d0.upper.isSome = true

def MOK (m : MNode) : Prop := ∀ r ∈ m.reals, RealOK d0 r

/-- the forest, the log, the disk; when `d0` has no upper layer the last two clauses say that nothing is
    ever logged and that the disk stays `d0` (`GInv.noUpper`) -/
def GInv (s : St) : Prop :=
  (∀ p m, s.mem p = some m → MOK d0 m) ∧ (∀ c ∈ s.log, c.layer = 0 ∧ d0.upper.isSome = true) ∧
    s.disk.lowers = d0.lowers ∧ (d0.upper = none → s.disk = d0)

variable {d0}

theorem RealOK.child {r c : Real} (h : RealOK d0 r) (hl : c.layer = r.layer) (hu : c.inUpper = r.inUpper) :
    RealOK d0 c := fun hc => by rw [hl]; exact h (hu ▸ hc)

/-- what the theorems read off the invariant -/
theorem GInv.upper {s : St} (h : GInv d0 s) : (∀ c ∈ s.log, c.layer = 0) ∧ s.disk.lowers = d0.lowers :=
  ⟨fun c hc => (h.2.1 c hc).1, h.2.2.1⟩

theorem GInv.noUpper {s : St} (h : GInv d0 s) (hd : d0.upper = none) : s.log = [] ∧ s.disk = d0 :=
  ⟨List.eq_nil_iff_forall_not_mem.2 fun c hc => (by have := (h.2.1 c hc).2; rw [hd] at this; cases this), h.2.2.2 hd⟩

theorem GInv.mem_set {s : St} {p : Path} {m : MNode} (h : GInv d0 s) (hm : MOK d0 m) :
    GInv d0 { s with mem := s.mem.set p (some m) } := by
  refine ⟨?_, h.2.1, h.2.2⟩
  intro q m' hq
  simp only [Mem.set] at hq
  split at hq
  · cases hq; exact hm
  · exact h.1 q m' hq

theorem GInv.of_mem {s : St} (h : GInv d0 s) {mem' : Mem}
    (hm : ∀ q m, mem' q = some m → MOK d0 m) : GInv d0 { s with mem := mem' } :=
  ⟨hm, h.2.1, h.2.2⟩

theorem lookupChild_ok {d : Disk} {r c : Real} {n : Name} (h : RealOK d0 r) (hc : lookupChild d r n = some c) :
    RealOK d0 c := by
  obtain ⟨hl, hu, _⟩ := of_lookupChild_some hc
  exact h.child hl hu

theorem newFromReals_ok {d : Disk} {l : List Real} {k : MNode} (hl : ∀ r ∈ l, RealOK d0 r)
    (hk : newFromReals d l = some k) : MOK d0 k := by
  cases l with
  | nil => simp [newFromReals] at hk
  | cons a rest =>
    simp only [newFromReals] at hk
    split at hk
    · cases hk
      intro r hr
      cases List.mem_singleton.1 hr
      exact hl _ (by simp)
    · cases hk
      intro r hr
      rcases List.mem_cons.1 hr with rfl | hr
      · exact hl _ (by simp)
      · exact hl _ (List.mem_cons_of_mem _ (takeDirs_sub d rest r hr))

theorem scanKids_ok {d : Disk} {m : MNode} (hm : MOK d0 m) :
    ∀ n k, (n, k) ∈ scanKids d m → MOK d0 k := by
  intro n k hk
  obtain ⟨n', _, hk⟩ := List.mem_filterMap.1 hk
  obtain ⟨k', hnf, hk⟩ := Option.map_eq_some_iff.1 hk
  cases hk
  refine newFromReals_ok (fun r hr => ?_) hnf
  obtain ⟨r0, hr0, hc⟩ := List.mem_filterMap.1 hr
  exact lookupChild_ok (hm r0 (takeDirs_sub d _ _ hr0)) hc

theorem insertKids_ok {s : St} {p : Path} {kids : List (Name × MNode)} (h : GInv d0 s)
    (hk : ∀ n k, (n, k) ∈ kids → MOK d0 k) : GInv d0 { s with mem := insertKids s.mem p kids } := by
  refine h.of_mem ?_
  intro q m hq
  unfold insertKids at hq
  split at hq
  · exact h.1 _ _ hq
  · split at hq
    · split at hq
      · rename_i n q' _ k hl
        cases hq
        have := lookup_mem hl
        exact hk _ _ this
      · exact h.1 _ _ hq
    · exact h.1 _ _ hq

theorem getNode_inv (p : Path) :
    Triple (GInv d0) (getNode p) (fun m s => MOK d0 m ∧ GInv d0 s) (GInv d0) :=
  (getNode_mem p).post fun m _ h => ⟨h.2.1 p m h.1, h.2⟩

theorem setNode_inv (p : Path) (m : MNode) (hm : MOK d0 m) :
    Triple (GInv d0) (setNode p m) (fun _ => GInv d0) (GInv d0) :=
  Triple.modifySt' fun _ hs => hs.mem_set hm

theorem freshId_inv : Triple (GInv d0) freshId (fun _ => GInv d0) (GInv d0) :=
  fun s hs => Triple.ok_at (freshId_eval s) hs

theorem layerCall_inv {r : Real} {m : Method} {f : Layer → Except Nat Layer} (hr : RealOK d0 r ∧ r.inUpper = true) :
    Triple (GInv d0) (layerCall r.layer m f) (fun _ => GInv d0) (GInv d0) := by
  obtain ⟨hr, hu⟩ := hr
  intro s hs
  have hlog : ∀ c ∈ s.log ++ [⟨r.layer, m⟩], c.layer = 0 ∧ d0.upper.isSome = true := by
    intro c hc
    rcases List.mem_append.1 hc with hc | hc
    · exact hs.2.1 c hc
    · rw [List.mem_singleton.1 hc]; exact hr hu
  cases hL : s.disk.layer r.layer with
  | none => exact Triple.err_at (layerCall_none m f hL) ⟨hs.1, hlog, hs.2.2⟩
  | some L =>
    cases hf : f L with
    | error e => exact Triple.err_at (layerCall_err m hL hf) ⟨hs.1, hlog, hs.2.2⟩
    | ok L' =>
      -- the call is on layer 0, which `d0` has: the lower layers stay
      refine Triple.ok_at (layerCall_ok m hL hf) ⟨hs.1, hlog, ?_, fun hd => ?_⟩
      · rw [(hr hu).1]; exact hs.2.2.1
      · have := (hr hu).2; rw [hd] at this; cases this

/-- the shape of `RealInode::{mkdir, create, mknod, symlink, link, create_whiteout}`: refuse a real
    inode that is not in the upper layer, make the call, wrap the entry made (`w`: as a whiteout) -/
theorem upperCall_inv (r : Real) (n : Name) (w : Bool) (m : Method) (f : Layer → Except Nat Layer) (hr : RealOK d0 r) :
    Triple (GInv d0) (if !r.inUpper then fail EROFS else do layerCall r.layer m f; pure { childReal r n with whiteout := w })
      (fun ri s => (RealOK d0 ri ∧ ri.inUpper = true) ∧ GInv d0 s) (GInv d0) := by
  refine Triple.ite' (fun _ => Triple.fail' fun _ h => h) fun hu => ?_
  have hu : r.inUpper = true := by simpa using hu
  refine Triple.bind (layerCall_inv ⟨hr, hu⟩) fun _ => ?_
  exact Triple.pure' fun s hs => ⟨⟨hr.child rfl (by simp [childReal, hu]), rfl⟩, hs⟩

theorem mkNode_inv (r : Real) (m : Method) (n : Name) (node : Node) (hr : RealOK d0 r) :
    Triple (GInv d0) (r.mkNode m n node) (fun ri s => (RealOK d0 ri ∧ ri.inUpper = true) ∧ GInv d0 s) (GInv d0) :=
  upperCall_inv r n false m _ hr

theorem link_inv (r : Real) (src : Path) (n : Name) (hr : RealOK d0 r) :
    Triple (GInv d0) (r.link src n) (fun ri s => (RealOK d0 ri ∧ ri.inUpper = true) ∧ GInv d0 s) (GInv d0) :=
  upperCall_inv r n false _ _ hr

theorem createWhiteout_inv (r : Real) (n : Name) (hr : RealOK d0 r) :
    Triple (GInv d0) (r.createWhiteout n) (fun ri s => (RealOK d0 ri ∧ ri.inUpper = true) ∧ GInv d0 s) (GInv d0) :=
  upperCall_inv r n true _ _ hr

theorem loadDirectory_inv (p : Path) : Triple (GInv d0) (loadDirectory p) (fun _ => GInv d0) (GInv d0) :=
  (loadDirectory_keeps p fun _ m hs hm _ =>
    (insertKids_ok hs (scanKids_ok (hs.1 p m hm))).mem_set (hs.1 p m hm)).post fun _ _ h => h.1

theorem upperReal_ok {m : MNode} {r : Real} (hm : MOK d0 m) (h : m.upperReal = some r) :
    RealOK d0 r ∧ r.inUpper = true := by
  unfold MNode.upperReal at h
  cases hr : m.reals with
  | nil => simp [hr] at h
  | cons r' rest =>
    simp only [hr] at h
    split at h
    · cases h; exact ⟨hm _ (by simp [hr]), ‹_›⟩
    · cases h

theorem getUpperReal_inv (p : Path) :
    Triple (GInv d0) (getUpperReal p) (fun r s => (RealOK d0 r ∧ r.inUpper = true) ∧ GInv d0 s) (GInv d0) := by
  unfold getUpperReal
  refine Triple.bind (getNode_inv p) fun m => Triple.pure_pre fun hm => ?_
  split
  · rename_i r hr
    exact Triple.pure' fun _ h => ⟨upperReal_ok hm hr, h⟩
  · exact Triple.fail' fun _ h => h

theorem addUpperInode_inv (p : Path) (ri : Real) (b : Bool) (hri : RealOK d0 ri ∧ ri.inUpper = true) :
    Triple (GInv d0) (addUpperInode p ri b) (fun _ s => UpAt p s ∧ GInv d0 s) (GInv d0) := by
  unfold addUpperInode
  refine Triple.bind (getNode_inv p) fun m => Triple.pure_pre fun hm => ?_
  unfold setNode
  have hok : MOK d0 (addUpperNode m ri b) := by
    intro r hr
    cases b <;> simp [addUpperNode] at hr
    · rcases hr with hr | hr
      · subst hr; exact hri.1
      · exact hm r hr
    · subst hr; exact hri.1
  refine Triple.modifySt' fun s hs => ⟨⟨addUpperNode m ri b, ?_, ?_⟩, hs.mem_set hok⟩
  · simp [Mem.set, addUpperNode]
  · cases b <;> exact (MNode.inUpper_cons rfl).trans hri.2

theorem createUpperDir_inv (p : Path) :
    Triple (GInv d0) (createUpperDir p) (fun _ s => UpAt p s ∧ GInv d0 s) (GInv d0) := by
  rw [createUpperDir_eq]
  refine Triple.bind (getNode_mem p) fun m => ?_
  refine Triple.bind ((nodeStat_ro m).onErr (fun _ h => h.2)) fun st => ?_
  refine Triple.guard' (fun _ h => h.2) ?_
  refine Triple.ite' (fun hu => Triple.pure' fun s h => ⟨⟨m, h.1, hu⟩, h.2⟩) fun _ => ?_
  refine Triple.pre (P := GInv d0) ?_ fun _ h => h.2
  cases p with
  | nil => exact Triple.fail' fun _ h => h
  | cons n pp =>
    refine Triple.bind (getNode_ro pp) fun pm => ?_
    refine Triple.bind (Triple.when ((createUpperDir_inv pp).post fun _ _ h => h.2)) fun _ => ?_
    unfold cudStep
    refine Triple.bind (getUpperReal_inv pp) fun pr => Triple.pure_pre fun hpr => ?_
    refine Triple.bind (mkNode_inv pr _ n _ hpr.1) fun ri => Triple.pure_pre fun hri => ?_
    exact addUpperInode_inv _ ri false hri

theorem parentUpperReal_inv (pp : Path) :
    Triple (GInv d0) (parentUpperReal pp) (fun r s => (RealOK d0 r ∧ r.inUpper = true) ∧ GInv d0 s) (GInv d0) := by
  unfold parentUpperReal
  refine Triple.bind (getNode_ro pp) fun pm => ?_
  refine Triple.bind (Triple.when ((createUpperDir_inv pp).post fun _ _ h => h.2)) fun _ => ?_
  exact getUpperReal_inv pp

theorem copyContent_inv (st : Node) (ri : Real) (hri : RealOK d0 ri ∧ ri.inUpper = true) :
    Triple (GInv d0) (copyContent st ri) (fun _ => GInv d0) (GInv d0) := by
  unfold copyContent
  split
  · exact layerCall_inv hri
  · exact Triple.skip

theorem copyFileUp_inv (st : Node) (pp : Path) (n : Name) :
    Triple (GInv d0) (copyFileUp st pp n) (fun _ s => UpAt (n :: pp) s ∧ GInv d0 s) (GInv d0) := by
  unfold copyFileUp
  refine Triple.bind (parentUpperReal_inv pp) fun pr => Triple.pure_pre fun hpr => ?_
  refine Triple.bind freshId_inv fun id => ?_
  refine Triple.bind (mkNode_inv pr _ n _ hpr.1) fun ri => Triple.pure_pre fun hri => ?_
  refine Triple.bind (copyContent_inv st ri hri) fun _ => ?_
  exact addUpperInode_inv _ ri true hri

theorem copyNodeUp_inv (p : Path) :
    Triple (GInv d0) (copyNodeUp p) (fun _ s => UpAt p s ∧ GInv d0 s) (GInv d0) := by
  unfold copyNodeUp
  refine Triple.bind (getNode_mem p) fun m => ?_
  refine Triple.ite' (fun hu => Triple.pure' fun s h => ⟨⟨m, h.1, hu⟩, h.2⟩) fun _ => ?_
  refine Triple.pre (P := (GInv d0)) ?_ fun _ h => h.2
  refine Triple.bind (nodeStat_ro m) fun st => ?_
  refine Triple.ite' (fun _ => createUpperDir_inv p) fun _ => ?_
  split
  · exact Triple.fail' fun _ h => h
  · exact copyFileUp_inv st _ _

theorem copyNodeUp_inv' (p : Path) : Triple (GInv d0) (copyNodeUp p) (fun _ => GInv d0) (GInv d0) :=
  (copyNodeUp_inv p).post fun _ _ h => h.2

theorem removeSubtree_ok {s : St} (p : Path) (h : GInv d0 s) :
    GInv d0 { s with mem := removeSubtree s.mem p } := by
  refine h.of_mem fun q m hq => ?_
  unfold removeSubtree at hq
  split at hq
  · cases hq
  · exact h.1 q m hq

theorem insertChild_inv (pp : Path) (n : Name) (m : MNode) (hm : MOK d0 m) :
    Triple (GInv d0) (insertChild pp n m) (fun _ => GInv d0) (GInv d0) := by
  unfold insertChild
  refine Triple.bind (getNode_inv pp) fun pm => Triple.pure_pre fun hpm => ?_
  refine Triple.bind (Q := fun _ => GInv d0) (Triple.modifySt' fun s hs => ?_) fun _ => ?_
  · exact (removeSubtree_ok (n :: pp) hs).mem_set hm
  · exact setNode_inv pp _ hpm

theorem removeChild_inv (pp : Path) (n : Name) : Triple (GInv d0) (removeChild pp n) (fun _ => GInv d0) (GInv d0) := by
  unfold removeChild
  refine Triple.bind (getNode_inv pp) fun pm => Triple.pure_pre fun hpm => ?_
  refine Triple.bind (Q := fun _ => GInv d0) (Triple.modifySt' fun s hs => removeSubtree_ok _ hs) fun _ => ?_
  exact setNode_inv pp _ hpm

theorem newNode_ok {ri : Real} (h : RealOK d0 ri) : MOK d0 (newNode ri) := by
  intro r hr
  simp [newNode] at hr
  subst hr; exact h

theorem checkOld_inv (old : Option MNode) : Triple (GInv d0) (checkOld old) (fun _ => GInv d0) (GInv d0) := by
  unfold checkOld
  split
  · exact Triple.guard Triple.skip
  · exact Triple.skip

theorem tryDeleteWhiteout_inv (pr : Real) (n : Name) (hr : RealOK d0 pr ∧ pr.inUpper = true) :
    Triple (GInv d0) (tryDeleteWhiteout pr n) (fun _ => GInv d0) (GInv d0) :=
  Triple.ignoreErr' (layerCall_inv hr)

theorem installChild_inv (pp : Path) (n : Name) (b : Bool) (old : Option MNode) (pr ri : Real)
    (hpr : RealOK d0 pr ∧ pr.inUpper = true) (hri : RealOK d0 ri ∧ ri.inUpper = true) :
    Triple (GInv d0) (installChild pp n b old pr ri) (fun _ => GInv d0) (GInv d0) := by
  unfold installChild
  split
  · refine Triple.ite' (fun _ => ?_) (fun _ => (addUpperInode_inv _ ri true hri).post fun _ _ h => h.2)
    refine Triple.bind (layerCall_inv hpr) fun _ => ?_
    exact insertChild_inv pp n _ (newNode_ok hri.1)
  · exact insertChild_inv pp n _ (newNode_ok hri.1)

/-- past the check for an upper layer the disk the history started from is known to have one: without one the
    disk is still that disk -/
theorem upperGuard_inv {α : Type} {rest : M α} {Q : α → St → Prop}
    (h : d0.upper.isSome = true → Triple (GInv d0) rest Q (GInv d0)) :
    Triple (GInv d0) (do let up ← hasUpper; if !up then fail EROFS else rest) Q (GInv d0) := by
  refine Triple.bind Triple.hasUpper' fun up => Triple.ite' (fun _ => Triple.fail' fun _ h => h.2) fun hup s hs => ?_
  refine h ?_ s hs.2
  cases hd : d0.upper with
  | some _ => rfl
  | none => rw [hs.1, hs.2.2.2.2 hd, hd] at hup; exact absurd rfl hup

theorem lookupOld_inv (pp : Path) (n : Name) :
    Triple (GInv d0) (catchEnoent (lookupNode pp n)) (fun _ => GInv d0) (GInv d0) :=
  Triple.catchEnoent' ((lookupNode_ro loadDirectory_inv pp n).conseq (fun _ h => h) (fun _ _ h => h.2) fun _ h => ⟨h, h⟩)

theorem doCreateLike_inv (pp : Path) (n : Name) (b : Bool) (meth : Method) (X : Node) :
    Triple (GInv d0) (doCreateLike pp n b (mkChildOf meth n X)) (fun _ s => d0.upper.isSome = true ∧ GInv d0 s) (GInv d0) := by
  unfold doCreateLike
  refine upperGuard_inv fun hup => ?_
  refine Triple.bind (getNode_ro pp) fun pm => ?_
  refine Triple.guard ?_
  refine Triple.bind (lookupOld_inv pp n) fun old => ?_
  refine Triple.bind (checkOld_inv old) fun _ => ?_
  refine Triple.bind (copyNodeUp_inv' pp) fun _ => ?_
  refine Triple.bind (getUpperReal_inv pp) fun pr => Triple.pure_pre fun hpr => ?_
  refine Triple.bind (Triple.when (tryDeleteWhiteout_inv pr n hpr)) fun _ => ?_
  refine Triple.bind (mkNode_inv pr meth n X hpr.1) fun ri => Triple.pure_pre fun hri => ?_
  exact (installChild_inv pp n b old pr ri hpr hri).post fun _ _ h => ⟨hup, h⟩

theorem doLink_inv (src pp : Path) (n : Name) :
    Triple (GInv d0) (doLink src pp n) (fun _ s => d0.upper.isSome = true ∧ GInv d0 s) (GInv d0) := by
  unfold doLink
  refine upperGuard_inv fun hup => ?_
  refine Triple.bind (getNode_ro src) fun sm => ?_
  refine Triple.bind (getNode_ro pp) fun pm => ?_
  refine Triple.guard ?_
  refine Triple.bind (nodeStat_ro sm) fun st => ?_
  refine Triple.guard ?_
  refine Triple.bind (copyNodeUp_inv' src) fun _ => ?_
  refine Triple.bind (copyNodeUp_inv' pp) fun _ => ?_
  refine Triple.bind (getNode_ro src) fun sm' => ?_
  split
  · exact Triple.fail' fun _ h => h
  · refine Triple.bind (lookupOld_inv pp n) fun old => ?_
    refine Triple.bind (checkOld_inv old) fun _ => ?_
    refine Triple.bind (getUpperReal_inv pp) fun pr => Triple.pure_pre fun hpr => ?_
    refine Triple.bind (Triple.when (tryDeleteWhiteout_inv pr n hpr)) fun _ => ?_
    refine Triple.bind (link_inv pr _ n hpr.1) fun ri => Triple.pure_pre fun hri => ?_
    exact (installChild_inv pp n false old pr ri hpr hri).post fun _ _ h => ⟨hup, h⟩

theorem countKids_inv (p : Path) : Triple (GInv d0) (countKids p) (fun _ => GInv d0) (GInv d0) := by
  intro s hs
  refine ⟨fun a s' h => ?_, fun e s' h => ?_⟩ <;> unfold countKids at h <;> split at h <;> cases h <;> exact hs

theorem emptyOne_inv (p : Path) (r : Real) (n : Name) (hr : RealOK d0 r ∧ r.inUpper = true) :
    Triple (GInv d0) (emptyOne p r n) (fun _ => GInv d0) (GInv d0) := by
  unfold emptyOne
  refine Triple.bind Triple.get fun s0 => ?_
  split
  · exact Triple.skip
  · rename_i c _
    refine Triple.ite' (fun _ => ?_) (fun _ => Triple.skip)
    refine Triple.bind (Q := fun _ => GInv d0) ?_ fun _ => removeChild_inv p n
    refine Triple.ite' (fun _ => layerCall_inv hr) fun _ => ?_
    refine Triple.bind (nodeStat_ro c) fun cs => ?_
    exact Triple.ite' (fun _ => layerCall_inv hr) (fun _ => layerCall_inv hr)

theorem emptyNodeDirectory_inv (p : Path) : Triple (GInv d0) (emptyNodeDirectory p) (fun _ => GInv d0) (GInv d0) := by
  unfold emptyNodeDirectory
  refine Triple.bind (getNode_inv p) fun m => Triple.pure_pre fun hm => ?_
  refine Triple.bind (nodeStat_ro m) fun st => ?_
  refine Triple.guard ?_
  split
  · exact Triple.skip
  · rename_i r hr
    exact Triple.forNames' (fun n => emptyOne_inv p r n (upperReal_ok hm hr)) _

theorem rmDirPrep_inv (p : Path) : Triple (GInv d0) (rmDirPrep p) (fun _ => GInv d0) (GInv d0) := by
  unfold rmDirPrep
  refine Triple.bind (loadDirectory_inv p) fun _ => ?_
  refine Triple.bind (getNode_ro p) fun node => ?_
  refine Triple.bind (nodeStat_ro node) fun st => ?_
  refine Triple.guard ?_
  refine Triple.bind (countKids_inv p) fun cw => ?_
  refine Triple.guard ?_
  exact Triple.when (emptyNodeDirectory_inv p)

theorem rmFinish_inv (pp : Path) (n : Name) (dir : Bool) (node pm : MNode) (nw : Bool) (hpm : MOK d0 pm) :
    Triple (GInv d0) (rmFinish pp n dir node pm nw) (fun _ => GInv d0) (GInv d0) := by
  unfold rmFinish
  split
  · exact Triple.guard (removeChild_inv pp n)
  · rename_i pr hpr
    have hr := upperReal_ok hpm hpr
    refine Triple.bind (Triple.when ?_) fun _ => ?_
    · exact Triple.ite' (fun _ => layerCall_inv hr) (fun _ => layerCall_inv hr)
    refine Triple.bind (removeChild_inv pp n) fun _ => ?_
    refine Triple.ite' (fun _ => ?_) (fun _ => Triple.skip)
    refine Triple.bind (createWhiteout_inv pr n hr.1) fun ri => Triple.pure_pre fun hri => ?_
    exact insertChild_inv pp n _ (newNode_ok hri.1)

theorem doRm_inv (pp : Path) (n : Name) (dir : Bool) :
    Triple (GInv d0) (doRm pp n dir) (fun _ s => d0.upper.isSome = true ∧ GInv d0 s) (GInv d0) := by
  unfold doRm
  refine upperGuard_inv fun hup => ?_
  refine Triple.bind (lookupSelf_ro loadDirectory_inv pp) fun _ => ?_
  refine Triple.bind ((lookupNode_ro loadDirectory_inv pp n).post fun _ _ h => h.2) fun node => ?_
  refine Triple.guard ?_
  refine Triple.bind (Triple.when (rmDirPrep_inv _)) fun _ => ?_
  refine Triple.bind (copyNodeUp_inv' pp) fun _ => ?_
  refine Triple.bind (getNode_ro (n :: pp)) fun node' => ?_
  refine Triple.bind (getNode_inv pp) fun pm => Triple.pure_pre fun hpm => ?_
  refine Triple.bind Triple.get fun s0 => ?_
  exact (rmFinish_inv pp n dir node' pm _ hpm).post fun _ _ h => ⟨hup, h⟩

theorem firstReal_up (p : Path) :
    Triple (fun s => UpAt p s ∧ GInv d0 s) (firstReal p) (fun r s => (RealOK d0 r ∧ r.inUpper = true) ∧ GInv d0 s) (GInv d0) := by
  intro s ⟨⟨m, hm, hu⟩, hinv⟩
  obtain ⟨r, rest, hr, hru, _⟩ := upperReal_of_inUpper hu
  exact Triple.ok_at (firstReal_ok hm hr) ⟨⟨hinv.1 p m hm r (by simp [hr]), hru⟩, hinv⟩

theorem attrKeeps_inv : AttrKeeps (fun _ _ => GInv d0) (fun p _ m s => s.mem p = some m ∧ GInv d0 s)
    (fun p _ s => UpAt p s ∧ GInv d0 s) (fun _ _ _ r s => (RealOK d0 r ∧ r.inUpper = true) ∧ GInv d0 s) (GInv d0) where
  look p _ := lookupSelf_mem loadDirectory_inv p
  copy p _ _ := (copyNodeUp_inv p).pre fun _ h => h.2
  first p _ := firstReal_up p
  call _ _ _ _ _ _ _ _ := Triple.pure_pre fun hr => (layerCall_inv hr).post fun _ _ h => ⟨hr, h⟩

/-- a modifying operation that succeeds has written to an upper layer: the history started with one.  Each
    resolves its path(s) and calls one `do_*` function; the LOOKUP that follows a creation changes nothing of this -/
theorem runOp_wrote (op : Op) (hm : op.isModifying = true) :
    Triple (GInv d0) (runOp op) (fun _ s => d0.upper.isSome = true ∧ GInv d0 s) (GInv d0) := by
  have hload := @loadDirectory_inv d0
  have hlookup : ∀ pp n, Triple (fun s => d0.upper.isSome = true ∧ GInv d0 s) (doLookup pp n)
      (fun _ s => d0.upper.isSome = true ∧ GInv d0 s) (GInv d0) := fun pp n =>
    Triple.pure_pre fun hup => (doLookup_ro hload pp n).post fun _ _ h => ⟨hup, h⟩
  have hcreate : ∀ (p : List Name) (b : Bool) (meth : Method) (X : Nat → Node) (withId : Bool),
      Triple (GInv d0) (createOp p b meth X withId) (fun _ s => d0.upper.isSome = true ∧ GInv d0 s) (GInv d0) := by
    intro p b meth X withId
    refine Triple.bind (resolveParent_ro hload p) fun r => ?_
    obtain ⟨pp, n⟩ := r
    refine Triple.bind (lookupSelf_ro hload pp) fun _ => ?_
    refine Triple.bind (Q := fun _ => GInv d0) ?_ fun id => ?_
    · cases withId with
      | true => exact freshId_inv
      | false => exact Triple.skip
    refine Triple.bind (doCreateLike_inv pp n b meth _) fun _ => ?_
    exact (hlookup pp n).then_pure
  have hrm : ∀ (p : List Name) (dir : Bool) (guard : Node → Bool) (e : Nat),
      Triple (GInv d0) (rmOp p dir guard e) (fun _ s => d0.upper.isSome = true ∧ GInv d0 s) (GInv d0) := by
    intro p dir guard e
    refine Triple.bind (resolveParent_ro hload p) fun r => ?_
    obtain ⟨pp, n⟩ := r
    refine Triple.bind (doLookup_ro hload pp n) fun st => ?_
    refine Triple.guard ?_
    exact (doRm_inv pp n dir).then_pure
  have hattr : ∀ {op p g}, op.attrChange = some (p, g) →
      Triple (GInv d0) (runOp op) (fun _ s => d0.upper.isSome = true ∧ GInv d0 s) (GInv d0) :=
    runOp_attr hload attrKeeps_inv fun _ _ _ _ _ h => ⟨(h.1.1 h.1.2).2, h.2⟩
  cases op with
  | create p mode => rw [runOp_create]; exact hcreate _ _ _ _ _
  | mkdir p mode => rw [runOp_mkdir]; exact hcreate _ _ _ _ _
  | mknod p mode => rw [runOp_mknod]; exact hcreate _ _ _ _ _
  | symlink p t => rw [runOp_symlink]; exact hcreate _ _ _ _ _
  | unlink p => rw [runOp_unlink]; exact hrm _ _ _ _
  | rmdir p => rw [runOp_rmdir]; exact hrm _ _ _ _
  | link src dst =>
    unfold runOp
    refine resolveThen hload src fun sp st => ?_
    refine Triple.guard ?_
    refine Triple.bind (resolveParent_ro hload dst) fun r => ?_
    obtain ⟨pp, n⟩ := r
    refine Triple.bind (lookupSelf_ro hload sp) fun sm => ?_
    refine Triple.guard ?_
    refine Triple.bind (lookupSelf_ro hload pp) fun pm => ?_
    refine Triple.guard ?_
    refine Triple.bind (doLink_inv sp pp n) fun _ => ?_
    exact (hlookup pp n).then_pure
  | «open» p fl => exact hattr (if_pos hm)
  | write | chmod | truncate | setx | rmx => exact hattr rfl
  | _ => cases hm

theorem runOp_inv (op : Op) : Triple (GInv d0) (runOp op) (fun _ => GInv d0) (GInv d0) := by
  cases hm : op.isModifying with
  | false => exact runOp_ro loadDirectory_inv op hm
  | true => exact (runOp_wrote op hm).post fun _ _ h => h.2

theorem runOp_fails (hd0 : d0.upper = none) (op : Op) (hm : op.isModifying = true) :
    Triple (GInv d0) (runOp op) (fun _ _ => False) (GInv d0) :=
  (runOp_wrote op hm).post fun _ _ h => by rw [hd0] at h; cases h.1

theorem run_inv (ops : List Op) : ∀ s, GInv d0 s → (GInv d0) (run s ops) :=
  run_keeps ops fun op _ => runOp_inv op

/-- the state in which `import` loads the root directory -/
def importSt0 (d : Disk) : St :=
  { disk := d, log := [], nextId := 1000000,
    mem := fun q => if q = [] then
      some { reals := d.indices.map (rootReal d), whiteout := false, loaded := false, kids := [] } else none }

theorem importFs_eq (d : Disk) : importFs d = (loadDirectory [] (importSt0 d)).st := rfl

theorem importSt0_mem {d : Disk} {p : Path} {m : MNode} (h : (importSt0 d).mem p = some m) :
    p = [] ∧ m = { reals := d.indices.map (rootReal d), whiteout := false, loaded := false, kids := [] } := by
  simp only [importSt0] at h
  split at h <;> cases h
  exact ⟨‹_›, rfl⟩

theorem import_inv (d : Disk) : GInv d (importFs d) := by
  rw [importFs_eq]
  refine (loadDirectory_inv []).st ⟨?_, fun c hc => (nomatch hc), rfl, fun _ => rfl⟩
  intro p m hm r hr hu
  rw [(importSt0_mem hm).2] at hr
  obtain ⟨i, hi, rfl⟩ := List.mem_map.1 hr
  -- only the root of layer 0 is flagged, and layer 0 is among the indices only if there is an upper layer
  have h0 : i = 0 := by simpa [rootReal] using hu
  subst h0
  refine ⟨rfl, ?_⟩
  cases hup : d.upper with
  | some L => rfl
  | none => simp [Disk.indices, hup] at hi

end Fbr.Ovl
