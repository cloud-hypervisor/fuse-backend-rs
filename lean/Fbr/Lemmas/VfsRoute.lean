/-
  The functions a request passes through, each with its lemmas (`getRealRootfs`, `second`, `dirErr`,
  `backendReply`, `dirFold`), and `Routed`: the outcome of `State.handle'` as a table over what its stages answered.
-/
import Fbr.Vfs
import Fbr.Lemmas.VfsInv

namespace Fbr.Lemmas.VfsRoute
open Fbr.Vfs Fbr.Lemmas.VfsInv

theorem fsIdx_lowIno {idx ino : Nat} (hidx : idx < 256) (hle : ino ≤ VFS_MAX_INO) :
    fsIdx (idx * SHIFT + ino) = idx ∧ lowIno (idx * SHIFT + ino) = ino := by
  have hs : 0 < SHIFT := by unfold SHIFT; exact Nat.two_pow_pos 56
  have hino : ino < SHIFT := Nat.lt_of_le_of_lt hle (Nat.sub_one_lt (Nat.ne_of_gt hs))
  unfold fsIdx lowIno
  rw [Nat.add_comm, Nat.add_mul_div_right _ _ hs, Nat.add_mul_mod_self_right, Nat.div_eq_of_lt hino,
    Nat.zero_add, Nat.mod_eq_of_lt hidx, Nat.mod_eq_of_lt hino]
  exact ⟨rfl, rfl⟩

theorem callArgs_head {r : Req} {i i2 au ag : Nat} : (callArgs r i i2 au ag).head? = some (.n i) := by
  unfold callArgs
  cases r.op <;> rfl

theorem getRealRootfs_slot (s : State) (ino : Nat) (h : fsIdx ino ≠ 0) :
    s.getRealRootfs ino = match s.supers (fsIdx ino) with
      | some b => some (.ok (.backend b (fsIdx ino) (lowIno ino)))
      | none => some (.error ENOENT) := by
  unfold State.getRealRootfs
  rw [if_neg h]
  cases s.supers (fsIdx ino) <;> rfl

theorem getRealRootfs_backend {s : State} {ino : Nat} {b : Bk} {idx i : Nat} :
    s.getRealRootfs ino = some (.ok (.backend b idx i)) → s.supers idx = some b := by
  fun_cases State.getRealRootfs s ino
  -- a backend is the target of node 1 under a mount on "/" and of a node of an occupied slot: the path found it in `supers`
  case case3 | case6 => intro h; cases h; assumption
  -- the other answers: the pseudo filesystem, `ENOENT` for an empty slot, the assertion of `VfsInode::new`
  all_goals intro h; cases h

/-- `id_remap_with_nodeid` repeats the case distinction of `get_real_rootfs` (node 1 under a mount on "/"), so the
    context of a request is translated with the mapping of the mount its node id resolves to -/
theorem remapIdx_of_target {s : State} {ino : Nat} {t : Target} :
    s.getRealRootfs ino = some (.ok t) → s.remapIdx ino = t.idx := by
  fun_cases State.getRealRootfs s ino
  -- `h` leaves the paths that answer a target (node 1 with and without a mount on "/", another node of the pseudo
  -- filesystem, a node of an occupied slot); there the conditions of the path decide the `if` and the `match` of `remapIdx`
  all_goals intro h; cases h <;>
    simp only [State.remapIdx, Target.idx, *, and_self, and_false, false_and, if_true, if_false]

/-- `get_real_rootfs` cannot hit the `VfsInode::new` assertion under the invariant -/
theorem getRealRootfs_some {s : State} (hinv : Inv s) (ino : Nat) : ∃ x, s.getRealRootfs ino = some x := by
  fun_cases State.getRealRootfs s ino
  -- the assertion: node 1 under a mount on "/" whose root inode is too large
  case case2 m hm _ _ h => exact absurd h (Nat.not_lt.mpr (hinv.inoOk _ _ hm))
  all_goals exact ⟨_, rfl⟩

theorem second_single {s : State} {r : Req} (hop : ¬ (r.op = .rename ∨ r.op = .link)) (t : Target) :
    s.second r t = some (.ok none) := by
  rw [State.second, if_neg hop]

theorem second_pair {s : State} {r : Req} (hop : r.op = .rename ∨ r.op = .link) (t : Target) :
    s.second r t = match s.getRealRootfs r.ino2 with
      | none => none
      | some (.error e) => some (.error e)
      | some (.ok t2) => if t.idx ≠ t2.idx then some (.error EINVAL) else some (.ok (some t2)) := by
  rw [State.second, if_pos hop]
  cases s.getRealRootfs r.ino2 with
  | none => rfl
  | some x => cases x <;> rfl

theorem second_same_slot {s : State} {r : Req} {t : Target} {t2 : Option Target} :
    s.second r t = some (.ok t2) → r.op = .rename ∨ r.op = .link → s.remapIdx r.ino2 = t.idx := by
  fun_cases State.second s r t
  -- the second node resolves to the slot of the first
  case case4 hg2 hi => exact fun _ _ => (remapIdx_of_target hg2).trans (Decidable.of_not_not hi).symm
  -- a request on a single node
  case case5 hop => exact fun _ h => absurd h hop
  -- the second node does not resolve, or resolves to another slot
  all_goals intro h; cases h

theorem second_some {s : State} (hinv : Inv s) (r : Req) (t : Target) : ∃ x, s.second r t = some x := by
  fun_cases State.second s r t
  -- the assertion of `VfsInode::new` on the second node
  case case1 h =>
    obtain ⟨_, hx⟩ := getRealRootfs_some hinv r.ino2
    cases h.symm.trans hx
  all_goals exact ⟨_, rfl⟩

/-- The outcome of `handle'` as a table indexed by what its stages answered: the name check, the
    OPEN/OPENDIR switch, `get_real_rootfs` of the request inode.  The rows are in the order of the code;
    those ending in `none` are the modelled panic sites.  With a stage's answer known (rewritten into the
    column), `cases` leaves only the rows that agree with it; a column that is not known has to be a
    variable first (`generalize … at hr`). -/
inductive Routed (s : State) (r : Req) : Bool → Bool → Option (Except Nat Target) → Option (Res × List Call) → Prop
  | ctxPanic {n bl g} (hc : remapPair (s.effectiveMap (s.remapIdx r.nodeid)) false r.uid r.gid = none) : Routed s r n bl g none
  | badName {bl g} : Routed s r false bl g (some (.err EINVAL, []))
  | blocked {g} : Routed s r true true g (some (.err ENOSYS, []))
  | rootPanic : Routed s r true false none none
  | rootErr (e : Nat) : Routed s r true false (some (.error e)) (some (if r.op = .forget then .unit else .err e, []))
  | secondPanic (t : Target) (hs : s.second r t = none) : Routed s r true false (some (.ok t)) none
  | secondErr (t : Target) (e : Nat) (hs : s.second r t = some (.error e)) :
      Routed s r true false (some (.ok t)) (some (.err e, []))
  | pseudoPanic (idata : Nat) (hp : s.pseudoReq r idata = none) : Routed s r true false (some (.ok (.pseudo idata))) none
  | pseudo (idata : Nat) (t2 : Option Target) (x : Res) (hs : s.second r (.pseudo idata) = some (.ok t2))
      (hp : s.pseudoReq r idata = some x) : Routed s r true false (some (.ok (.pseudo idata))) (some (x, []))
  | attrPanic (b : Bk) (idx i : Nat) (hop : r.op = .setattr)
      (ha : remapPair (s.effectiveMap idx) false r.setUid r.setGid = none) :
      Routed s r true false (some (.ok (.backend b idx i))) none
  | backend (cu cg : Nat) (b : Bk) (idx i : Nat) (t2 : Option Target) (au ag : Nat)
      (hc : remapPair (s.effectiveMap (s.remapIdx r.nodeid)) false r.uid r.gid = some (cu, cg))
      (hs : s.second r (.backend b idx i) = some (.ok t2))
      (ha : (if r.op = .setattr then remapPair (s.effectiveMap idx) false r.setUid r.setGid else some (0, 0)) = some (au, ag)) :
      Routed s r true false (some (.ok (.backend b idx i))) (some ((s.backendReply r idx i).getD .panic,
        [{ bk := b.id, method := .req r.op, uid := cu, gid := cg, args := callArgs r i (secondIno t2) au ag }]))

theorem handle'_routed (s : State) (r : Req) :
    Routed s r (nameCheck r) (s.blocked r) (s.getRealRootfs r.ino) (s.handle' r) := by
  unfold State.handle'
  split
  · exact .ctxPanic ‹_›
  · rename_i cu cg hc
    cases nameCheck r with
    | false => exact .badName
    | true =>
      cases s.blocked r with
      | true => exact .blocked
      | false =>
        simp only [Bool.not_true, Bool.false_eq_true, if_false]
        cases s.getRealRootfs r.ino with
        | none => exact .rootPanic
        | some x =>
          cases x with
          | error e => exact .rootErr e
          | ok t =>
            dsimp only
            split
            · exact .secondPanic t ‹_›
            · exact .secondErr t _ ‹_›
            · rename_i t2 hs
              cases t with
              | pseudo idata =>
                dsimp only
                cases hp : s.pseudoReq r idata with
                | none => exact .pseudoPanic idata hp
                | some x => exact .pseudo idata t2 x hs hp
              | backend b idx i =>
                dsimp only
                split
                · rename_i ha
                  split at ha
                  · exact .attrPanic b idx i ‹_› ha
                  · cases ha
                · exact .backend cu cg b idx i t2 _ _ hc hs ‹_›

theorem dirErr_of_not_dir {op : ReqOp} (h1 : op ≠ .readdir) (h2 : op ≠ .readdirplus) (res : Res) : dirErr op res = res := by
  unfold dirErr
  split
  · exact absurd rfl h1
  · exact absurd rfl h2
  · rfl

theorem dirErr_ne_panic {op : ReqOp} {res : Res} (h : res ≠ .panic) : dirErr op res ≠ .panic := by
  fun_cases dirErr op res
  -- what is not an error of READDIR or READDIRPLUS is passed on
  case case3 => exact h
  -- the error, with the empty list
  all_goals exact Res.noConfusion

theorem handle_routed {s : State} {r : Req} {res : Res} {calls : List Call} (h : s.handle r = some (res, calls)) :
    ∃ res', res = dirErr r.op res' ∧
      Routed s r (nameCheck r) (s.blocked r) (s.getRealRootfs r.ino) (some (res', calls)) := by
  unfold State.handle at h
  have hr := handle'_routed s r
  cases h' : s.handle' r with
  | none => rw [h'] at h; cases h
  | some x => rw [h'] at h hr; cases h; exact ⟨x.1, rfl, hr⟩

theorem handle_route_error {s : State} {r : Req} {res : Res} {calls : List Call} {e : Nat}
    (hg : s.getRealRootfs r.ino = some (.error e)) (h : s.handle r = some (res, calls)) :
    calls = [] ∧
    (res = .err EINVAL ∨ res = .err ENOSYS ∨ res = .err e ∨ (r.op = .forget ∧ res = .unit) ∨
      (r.op = .readdir ∧ ∃ e, res = .dirents (some e) []) ∨ (r.op = .readdirplus ∧ ∃ e, res = .plusents (some e) [])) := by
  obtain ⟨res', rfl, hr⟩ := handle_routed h
  rw [hg] at hr
  generalize nameCheck r = n, s.blocked r = bl at hr
  refine ⟨by cases hr <;> rfl, ?_⟩
  -- READDIR and READDIRPLUS report whatever error it is with the empty list
  by_cases h1 : r.op = .readdir
  · exact .inr (.inr (.inr (.inr (.inl ⟨h1, by cases hr <;> rw [h1] <;> exact ⟨_, rfl⟩⟩))))
  · by_cases h2 : r.op = .readdirplus
    · exact .inr (.inr (.inr (.inr (.inr ⟨h2, by cases hr <;> rw [h2] <;> exact ⟨_, rfl⟩⟩))))
    · rw [dirErr_of_not_dir h1 h2]
      cases hr with
      | badName => exact .inl rfl
      | blocked => exact .inr (.inl rfl)
      | rootErr =>
        split
        · exact .inr (.inr (.inr (.inl ⟨‹_›, rfl⟩)))
        · exact .inr (.inr (.inl rfl))

/-- the one row that produces a call -/
theorem Routed.delivered {s : State} {r : Req} {res : Res} {c : Call} {n bl : Bool}
    (hr : Routed s r n bl (s.getRealRootfs r.ino) (some (res, [c]))) :
    ∃ b idx i, s.getRealRootfs r.ino = some (.ok (.backend b idx i)) ∧ s.supers idx = some b ∧ c.bk = b.id ∧
      remapPair (s.effectiveMap idx) false r.uid r.gid = some (c.uid, c.gid) ∧
      (r.op = .setattr → ∃ au ag, remapPair (s.effectiveMap idx) false r.setUid r.setGid = some (au, ag) ∧
          c.args = [.n i, .n au, .n ag]) := by
  generalize hg : s.getRealRootfs r.ino = g at hr
  cases hr with
  | backend cu cg b idx i t2 au ag hc hs ha =>
    -- the node id of the header (for LINK: the directory the link goes into) resolves to the same slot
    have hnode : s.remapIdx r.nodeid = idx := by
      unfold Req.nodeid
      split
      · exact second_same_slot hs (Or.inr ‹_›)
      · exact remapIdx_of_target hg
    rw [hnode] at hc
    refine ⟨b, idx, i, rfl, getRealRootfs_backend hg, rfl, hc, fun hop => ?_⟩
    rw [if_pos hop] at ha
    exact ⟨au, ag, ha, by simp only [callArgs, hop]⟩

theorem lookupPseudo_mnt {s : State} {idata ino : Nat} {name : Name} {m : Mnt}
    (hl : s.pseudo.lookup (lowIno idata) name = .ok ino) (hm : s.mnts ino = some m) :
    s.lookupPseudo idata name = some (.entry m.rootEntry) := by
  unfold State.lookupPseudo
  simp only [hl, hm]

theorem backendReply_entry {s : State} {r : Req} {idx i ino uid gid : Nat} {e : Ent}
    (hop : r.op = .lookup ∨ r.op = .mkdir ∨ r.op = .mknod ∨ r.op = .symlink ∨ r.op = .link ∨ r.op = .create)
    (hans : r.ans = .ent ino uid gid) (h : s.backendReply r idx i = some (.entry e)) :
    s.convertEntry idx ino { inode := ino, stIno := ino, uid := uid, gid := gid } = some (.ok e) := by
  unfold State.backendReply at h
  -- for each of the six operations `h` becomes the same `match` on `convert_entry`; only its `.ok` arm is an entry
  rcases hop with ho | ho | ho | ho | ho | ho <;> simp only [hans, ho] at h <;>
    (split at h <;> cases h; assumption)

theorem backendReply_attr {s : State} {r : Req} {idx i st uid gid x u g : Nat}
    (hop : r.op = .getattr ∨ r.op = .setattr) (hans : r.ans = .ent st uid gid)
    (h : s.backendReply r idx i = some (.attr x u g)) :
    x = idx * SHIFT + i ∧ remapPair (s.effectiveMap idx) true uid gid = some (u, g) := by
  unfold State.backendReply at h
  rcases hop with ho | ho <;> simp only [hans, ho] at h <;>
    (cases hr : remapPair (s.effectiveMap idx) true uid gid <;> rw [hr] at h <;> cases h; exact ⟨rfl, rfl⟩)

theorem dirFold_mem {α β : Type} (f : α → Option (Except Nat β)) (stop : Nat) :
    ∀ (l : List α) (acc : List β) (e : Option Nat) (out : List β),
      dirFold f stop l acc = some (e, out) → ∀ y ∈ out, y ∈ acc ∨ ∃ x ∈ l, f x = some (.ok y) := by
  intro l acc e out
  fun_induction dirFold f stop l acc
  -- the callback panics
  case case2 => intro h; cases h
  -- the entry is taken and the fold goes on
  case case5 x _ _ _ hf _ ih =>
    intro h y hy
    rcases ih h y hy with h1 | ⟨x', hx', hfx'⟩
    · rcases List.mem_cons.mp h1 with h2 | h2
      · subst h2
        exact Or.inr ⟨x, by simp, hf⟩
      · exact Or.inl h2
    · exact Or.inr ⟨x', by simp [hx'], hfx'⟩
  -- the fold stops with what it has: the list ends, the callback reports an error, or the buffer is full
  all_goals intro h y hy; cases h; exact Or.inl (List.mem_reverse.mp hy)

theorem plusents_mem {α : Type} {f : α → Option (Except Nat PEnt)} {stop : Nat} {l : List α} {e : Option Nat} {out : List PEnt}
    (h : ((dirFold f stop l []).map fun (e, out) => Res.plusents e out) = some (.plusents e out)) :
    ∀ y ∈ out, ∃ x ∈ l, f x = some (.ok y) := by
  intro y hy
  cases hf : dirFold f stop l [] with
  | none => rw [hf] at h; cases h
  | some pr =>
    rw [hf] at h
    cases h
    exact (dirFold_mem f stop l [] _ _ hf y hy).resolve_left List.not_mem_nil

theorem dirFold_some {α β : Type} (f : α → Option (Except Nat β)) (stop : Nat) :
    ∀ (l : List α) (acc : List β), (∀ x ∈ l, f x ≠ none) → ∃ r, dirFold f stop l acc = some r := by
  intro l acc
  fun_induction dirFold f stop l acc
  -- the callback panics
  case case2 x _ _ hf => exact fun h => absurd hf (h x (by simp))
  -- the entry is taken and the fold goes on
  case case5 ih => exact fun h => ih fun z hz => h z (by simp [hz])
  -- the fold stops with what it has: the list ends, the callback reports an error, or the buffer is full
  all_goals exact fun _ => ⟨_, rfl⟩

end Fbr.Lemmas.VfsRoute
