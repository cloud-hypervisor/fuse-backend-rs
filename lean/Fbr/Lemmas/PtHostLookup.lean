/-
  Fbr.Lemmas.PtHostLookup — the table update at the end of `do_lookup` keeps the joint invariant `J`
  (`j_commit`).  The update is the model's own text, named `lookupCommit` (`doLookup_eq`, by `rfl`).
  It never gives the export root a second number: a lookup that reaches the export root finds the root
  entry (`getAlt_root`), so an entry that is added is for another object, and the number allocated for
  it is not 1 (`allocate_ne_root`).
-/
import Fbr.Lemmas.PtHostTable

namespace Fbr.PtHost
open Fbr.Host

/-- the table update at the end of `do_lookup` (no host call): the text of `doLookup` (Fbr/PtHost.lean)
    after `openFileAndHandle`, literals included — `10005` is its `io::Error::other`, written as
    10000 + the code sent, like `E_KIND_PERM` in Fbr/Host.lean.  `doLookup_eq` holds by `rfl`. -/
def lookupCommit (cfg : Cfg) (pathFd : Fd) (hOpt : Option Nat) (st : Stat) : M Entry := do
  let id := st.obj
  let s ← M.get
  let inode ← (match s.getAlt id hOpt with
    | some d => do
      M.set (s.setRefcount d.inode (d.refcount + 1))
      pure d.inode
    | none => do
      let handle := match hOpt with | some h => IHandle.handle h | none => IHandle.file pathFd
      let (inode, s') := allocateInode cfg s id hOpt
      if inode > VFS_MAX_INO then M.throw 10005 else
      M.set (s'.insert { inode := inode, handle := handle, id := id, refcount := 1, mode := st.mode })
      pure inode : M Nat)
  let (et, at_) := if isDir st.mode then (cfg.dirEntryTimeout, cfg.dirAttrTimeout) else (cfg.entryTimeout, cfg.attrTimeout)
  pure { inode := inode, attr := st, attrFlags := 0, entryTimeout := et, attrTimeout := at_ }

/-- `do_lookup` = the host calls, then the table update -/
theorem doLookup_eq (cfg : Cfg) (parent : Nat) (name : Name) : doLookup cfg parent name = (do
    let s ← M.get
    let dir ← M.ofOption EBADF (s.get parent)
    let dirFile ← getFile dir
    let x ← openFileAndHandle cfg dirFile
      (if parent == ROOT_ID && startsWith (withNul name) PARENT_DIR_CSTR then [DOT] else name)
    lookupCommit cfg x.1 x.2.1 x.2.2) := rfl

theorem getAlt_of_locked {pt : PtState} {id : Obj} {hOpt : Option Nat} {i : Nat} {d : InodeData}
    (hl : pt.getInodeLocked id hOpt = some i) (hd : pt.get i = some d) : pt.getAlt id hOpt = some d := by
  unfold PtState.getAlt
  cases hOpt with
  | none =>
    simp only [PtState.getInodeLocked] at hl
    simp only [Option.bind, hl, hd, Option.isNone_none, Bool.true_or, if_true]
  | some k =>
    simp only [PtState.getInodeLocked] at hl
    simp only [Option.bind, hl, hd]

/-- **a lookup that reaches the export root finds the root entry**: by id, or — with file handles —
    by the root's handle (one handle id per inode in the host) -/
theorem getAlt_root {pt : PtState} {h : Ref.State} (j : J pt h) (hOpt : Option Nat)
    (hh : ∀ k, hOpt = some k → h.handles k = some h.exportRoot) : pt.getAlt h.exportRoot hOpt ≠ none := by
  obtain ⟨dR, hdR⟩ := j.getRoot
  obtain ⟨hmem, hino⟩ := get_mem hdR
  cases hOpt with
  | none => rw [getAlt_of_locked (hOpt := none) j.byId hdR]; exact Option.some_ne_none _
  | some k =>
    cases hdh : dR.handle with
    | handle k0 =>
      -- a root entry held by file handle is found under that handle: one handle id per inode
      have hden := j.den dR hmem
      rw [hdh, j.rootId dR hmem hino] at hden
      have hk : pt.byHandle.lookup k = some ROOT_ID := by
        rw [← j.wf.hInj k0 k _ hden (hh k rfl)]
        exact j.byH dR hmem k0 hino hdh
      rw [getAlt_of_locked (hOpt := some k) hk hdR]; exact Option.some_ne_none _
    | file f =>
      -- an entry under handle `k` is an answer; without one the root entry is found by id, and taken
      -- because it holds a descriptor
      unfold PtState.getAlt
      simp only [Option.bind, PtState.inodeByHandle, PtState.inodeById, j.byId, hdR, hdh]
      cases pt.byHandle.lookup k with
      | none => simp only [Option.isNone_some, Bool.false_or, if_true]; exact Option.some_ne_none _
      | some i =>
        simp only []
        cases pt.get i with
        | some d => exact Option.some_ne_none _
        | none => simp only [Option.isNone_some, Bool.false_or, if_true]; exact Option.some_ne_none _

theorem allocate_ne_root {pt : PtState} {h : Ref.State} (j : J pt h) (cfg : Cfg) (id : Obj) (hOpt : Option Nat)
    (hg : pt.getAlt id hOpt = none) : (allocateInode cfg pt id hOpt).1 ≠ ROOT_ID := by
  obtain ⟨dR, hdR⟩ := j.getRoot
  unfold allocateInode
  split
  · split
    · rename_i i hl
      rintro (rfl : i = ROOT_ID)
      rw [getAlt_of_locked hl hdR] at hg
      cases hg
    · exact Nat.ne_of_gt j.next
  · -- with `use_host_ino` the number is `2 ^ 47 + id` (`MAX_HOST_INO + 1 + id`)
    exact Nat.ne_of_gt (Nat.lt_of_lt_of_le (by decide : 1 < 2 ^ 47) (Nat.le_add_right _ _))

theorem allocateInode_tables (cfg : Cfg) (pt : PtState) (id : Obj) (hOpt : Option Nat) :
    (allocateInode cfg pt id hOpt).2.inodes = pt.inodes ∧ (allocateInode cfg pt id hOpt).2.byId = pt.byId ∧
    (allocateInode cfg pt id hOpt).2.byHandle = pt.byHandle ∧ pt.nextInode ≤ (allocateInode cfg pt id hOpt).2.nextInode := by
  unfold allocateInode
  split
  · split
    · exact ⟨rfl, rfl, rfl, Nat.le_refl _⟩
    · exact ⟨rfl, rfl, rfl, Nat.le_succ _⟩
  · exact ⟨rfl, rfl, rfl, Nat.le_refl _⟩

/-- **the table update of `do_lookup` keeps the invariant**: it makes no host call, and either re-counts an
    entry or enters one for an object other than the export root under a number other than 1 -/
theorem j_commit (cfg : Cfg) {pt : PtState} {h : Ref.State} (j : J pt h) {pathFd : Fd} {hOpt : Option Nat} {st : Stat}
    (hfd : Ref.fdObj h pathFd = some st.obj) (hh : ∀ k, hOpt = some k → h.handles k = some st.obj) :
    Safe (fun r h' => J r.2 h') (lookupCommit cfg pathFd hOpt st pt) h := by
  unfold lookupCommit
  simp only [bind_def, M.bind', M.get, Prog.bind, pure_def]
  cases hg : pt.getAlt st.obj hOpt with
  | some d => exact j_setRefcount j _ _
  | none =>
    simp only []
    split
    · exact j
    · have hne : st.obj ≠ h.exportRoot := by
        intro e
        rw [e] at hg hh
        exact getAlt_root j hOpt hh hg
      obtain ⟨a1, a2, a3, a4⟩ := allocateInode_tables cfg pt st.obj hOpt
      refine j.insert a1 a2 a3 a4 _ (allocate_ne_root j cfg _ _ hg) hne ?_
      cases hOpt with
      | none => exact hfd
      | some k => exact hh k rfl

end Fbr.PtHost
