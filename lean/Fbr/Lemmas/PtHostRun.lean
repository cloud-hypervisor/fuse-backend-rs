/-
  Fbr.Lemmas.PtHostRun — running `Prog`s and request-monad actions against a host; the
  credential-preservation predicates `Inert` / `Neutral` and their composition lemmas; the definitions
  the C05 and C06 theorems are stated with (`runHistory`, `okAns`, `setattrPlan`).
-/
import Fbr.Host
import Fbr.PtHost

namespace Fbr.PtHost
open Fbr.Host

variable {σ : Type} {α β : Type}

@[simp] theorem run_pure (H : HostOps σ) (a : α) (s : σ) : (Prog.pure a).run H s = (a, s, []) := rfl

theorem run_call (H : HostOps σ) (c : HCall) (k : HAns → Prog α) (s : σ) :
    (Prog.call c k).run H s =
      (((k (H.step s c).1).run H (H.step s c).2).1, ((k (H.step s c).1).run H (H.step s c).2).2.1,
       (c, (H.step s c).1) :: ((k (H.step s c).1).run H (H.step s c).2).2.2) := rfl

def fin (H : HostOps σ) (p : Prog α) (s : σ) : σ := (p.run H s).2.1
def val (H : HostOps σ) (p : Prog α) (s : σ) : α := (p.run H s).1

@[simp] theorem fin_pure (H : HostOps σ) (a : α) (s : σ) : fin H (Prog.pure a) s = s := rfl
@[simp] theorem val_pure (H : HostOps σ) (a : α) (s : σ) : val H (Prog.pure a) s = a := rfl
@[simp] theorem fin_call (H : HostOps σ) (c : HCall) (k : HAns → Prog α) (s : σ) :
    fin H (Prog.call c k) s = fin H (k (H.step s c).1) (H.step s c).2 := rfl
@[simp] theorem val_call (H : HostOps σ) (c : HCall) (k : HAns → Prog α) (s : σ) :
    val H (Prog.call c k) s = val H (k (H.step s c).1) (H.step s c).2 := rfl

theorem fin_bind (H : HostOps σ) (p : Prog α) (f : α → Prog β) (s : σ) :
    fin H (p.bind f) s = fin H (f (val H p s)) (fin H p s) := by
  induction p generalizing s with
  | pure a => rfl
  | call c k ih => simp only [Prog.bind, fin_call, val_call]; exact ih _ _

theorem val_bind (H : HostOps σ) (p : Prog α) (f : α → Prog β) (s : σ) :
    val H (p.bind f) s = val H (f (val H p s)) (fin H p s) := by
  induction p generalizing s with
  | pure a => rfl
  | call c k ih => simp only [Prog.bind, fin_call, val_call]; exact ih _ _

/-- what may differ after a balanced block: effective CAP_FSETID may have been refreshed from the
    permitted set by a uid round trip -/
def CredsKept (c c' : Creds) : Prop :=
  c'.euid = c.euid ∧ c'.egid = c.egid ∧ c'.permFsetid = c.permFsetid ∧
  (c'.effFsetid = c.effFsetid ∨ c'.effFsetid = c.permFsetid)

/-- the serving thread between guarded blocks: effective ids 0, effective ⊆ permitted -/
def Base (c : Creds) : Prop := c.euid = 0 ∧ c.egid = 0 ∧ (c.effFsetid = true → c.permFsetid = true)

theorem Base.of_root {c : Creds} (h : c.Root) : Base c := ⟨h.1, h.2.1, fun e => by rw [← h.2.2]; exact e⟩

theorem CredsKept.refl (c : Creds) : CredsKept c c := ⟨rfl, rfl, rfl, Or.inl rfl⟩

theorem CredsKept.base {c c' : Creds} (h : CredsKept c c') (b : Base c) : Base c' := by
  obtain ⟨h1, h2, h3, h4⟩ := h
  obtain ⟨b1, b2, b3⟩ := b
  refine ⟨by omega, by omega, ?_⟩
  intro he
  rcases h4 with h4 | h4
  · rw [h3]; exact b3 (by rw [← h4]; exact he)
  · rw [h3, ← h4]; exact he

theorem CredsKept.trans {a b c : Creds} (h1 : CredsKept a b) (h2 : CredsKept b c) : CredsKept a c := by
  obtain ⟨a1, a2, a3, a4⟩ := h1
  obtain ⟨b1, b2, b3, b4⟩ := h2
  refine ⟨by omega, by omega, by rw [b3, a3], ?_⟩
  rcases b4 with b4 | b4
  · rcases a4 with a4 | a4
    · exact Or.inl (by rw [b4, a4])
    · exact Or.inr (by rw [b4, a4])
  · exact Or.inr (by rw [b4, a3])

theorem CredsKept.root {c c' : Creds} (h : CredsKept c c') (r : c.Root) : c' = c := by
  obtain ⟨h1, h2, h3, h4⟩ := h
  obtain ⟨_, _, r3⟩ := r
  have : c'.effFsetid = c.effFsetid := by
    rcases h4 with h4 | h4
    · exact h4
    · rw [h4, r3]
  cases c; cases c'; simp_all

def Inert (H : HostOps σ) (p : Prog α) : Prop := ∀ s, H.creds (fin H p s) = H.creds s

def Neutral (H : HostOps σ) (p : Prog α) : Prop := ∀ s, Base (H.creds s) → CredsKept (H.creds s) (H.creds (fin H p s))

theorem Inert.neutral {H : HostOps σ} {p : Prog α} (h : Inert H p) : Neutral H p := by
  intro s _; rw [h s]; exact CredsKept.refl _

theorem inert_pure (H : HostOps σ) (a : α) : Inert H (Prog.pure a) := fun _ => rfl

theorem inert_bind {H : HostOps σ} {p : Prog α} {f : α → Prog β} (hp : Inert H p) (hf : ∀ a, Inert H (f a)) :
    Inert H (p.bind f) := by
  intro s; rw [fin_bind, hf, hp]

theorem neutral_bind {H : HostOps σ} {p : Prog α} {f : α → Prog β} (hp : Neutral H p) (hf : ∀ a, Neutral H (f a)) :
    Neutral H (p.bind f) := by
  intro s b
  rw [fin_bind]
  have h1 := hp s b
  exact h1.trans (hf _ _ (h1.base b))

theorem inert_call {H : HostOps σ} [L : HostLaws H] {c : HCall} {k : HAns → Prog α} (hc : c.isCred = false)
    (hk : ∀ a, Inert H (k a)) : Inert H (Prog.call c k) := by
  intro s; rw [fin_call, hk, L.creds_other s c hc]

structure InertM (H : HostOps σ) (m : M α) : Prop where
  h : ∀ s, Inert H (m s)
structure NeutralM (H : HostOps σ) (m : M α) : Prop where
  h : ∀ s, Neutral H (m s)

theorem InertM.neutral {H : HostOps σ} {m : M α} (h : InertM H m) : NeutralM H m := ⟨fun s => (h.h s).neutral⟩

theorem NeutralM.root {H : HostOps σ} {m : M α} (hm : NeutralM H m) (pt : PtState) (s : σ) (hroot : (H.creds s).Root) :
    H.creds (fin H (m pt) s) = H.creds s :=
  (hm.h pt s (.of_root hroot)).root hroot

theorem bind_def (m : M α) (f : α → M β) : (m >>= f) = M.bind' m f := rfl
theorem pure_def (a : α) : (pure a : M α) = M.pure' a := rfl

theorem inertM_pure' (H : HostOps σ) (a : α) : InertM H (M.pure' a : M α) := ⟨fun _ => inert_pure H _⟩
theorem inertM_ofExcept (H : HostOps σ) (o : Except Nat α) : InertM H (M.ofExcept o) := by
  cases o <;> exact ⟨fun _ => inert_pure H _⟩

theorem NeutralM.bind {H : HostOps σ} {m : M α} {f : α → M β} (hm : NeutralM H m) (hf : ∀ a, NeutralM H (f a)) :
    NeutralM H (m >>= f) := by
  refine ⟨fun s => ?_⟩
  show Neutral H (M.bind' m f s)
  unfold M.bind'
  apply neutral_bind (hm.h s)
  intro r
  cases h : r.1 with
  | ok a => simp only []; exact (hf a).h r.2
  | error e => simp only []; exact (inert_pure H _).neutral

theorem inertM_try {H : HostOps σ} {m : M α} (hm : InertM H m) : InertM H (M.try' m) := by
  refine ⟨fun s => ?_⟩
  unfold M.try'
  exact inert_bind (hm.h s) (fun _ => inert_pure H _)

theorem NeutralM.try' {H : HostOps σ} {m : M α} (hm : NeutralM H m) : NeutralM H (M.try' m) := by
  refine ⟨fun s => ?_⟩
  unfold M.try'
  exact neutral_bind (hm.h s) (fun _ => (inert_pure H _).neutral)

def runHistory (H : HostOps σ) (cfg : Cfg) : PtState → σ → List Req → PtState × σ
  | s, h, [] => (s, h)
  | s, h, r :: rs => runHistory H cfg (val H (step cfg s r) h).2 (fin H (step cfg s r) h) rs

/-- answers under which every call of a SETATTR without a handle succeeds: a re-open yields descriptor 100 on the object of
    `st`, a stat reports `st`, `capget` reports no capability; every other call is answered `.ok` (which the model reads as
    success of a call that returns nothing, and as EIO where it expects a descriptor or data) -/
def okAns (st : Stat) : HCall → HAns
  | .reopen .. => .fd 100 st.obj
  | .openByHandle .. => .fd 100 st.obj
  | .fstatat .. => .st st
  | .statx .. => .st st
  | .capget => .caps false
  | _ => .ok

/-- the attribute-changing calls `setattr` makes for a `valid` set, on an inode held by an O_PATH
    descriptor `f`, without a handle (the /proc paths) -/
def setattrPlan (cfg : Cfg) (f : Fd) (dmode valid mode uid gid size a an m mn : Nat) : List HCall :=
  (if has valid FATTR_MODE then [HCall.fchmodatProc f mode 0] else []) ++
  (if has valid (FATTR_UID ||| FATTR_GID) then
    [HCall.fchownat f [] (if has valid FATTR_UID then uid else U32_MAX) (if has valid FATTR_GID then gid else U32_MAX)
      (AT_EMPTY_PATH ||| AT_SYMLINK_NOFOLLOW)] else []) ++
  (if has valid FATTR_SIZE then
    [HCall.reopen f (reopenFlags (openInodeFlags cfg (O_NONBLOCK ||| O_RDWR))) dmode, HCall.ftruncate 100 size] else []) ++
  (if has valid (FATTR_ATIME ||| FATTR_MTIME) then
    [HCall.utimensatProc f (setattrTimes valid a an m mn).1.1 (setattrTimes valid a an m mn).1.2
      (setattrTimes valid a an m mn).2.1 (setattrTimes valid a an m mn).2.2 0] else []) ++
  [HCall.fstatat f [] STATX_FLAGS]

end Fbr.PtHost
