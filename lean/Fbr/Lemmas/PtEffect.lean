/-
  What `do_lookup` does to the inode store, the id / handle maps, the ghosts and the number
  allocator (`next_inode`, and under `use_host_ino` the `UniqueInodeGenerator`): one relation,
  `LkEff`, for every configuration.
-/
import Fbr.PtRefs
import Fbr.Lemmas.PtMap
import Fbr.Lemmas.PtProj
import Fbr.Lemmas.PtRefsBasic

namespace Fbr.PtRefs

/-- the parts of the state the number allocator does not touch -/
structure AllocFrame (s s' : St) : Prop where
  data : s'.data = s.data
  clobbered : s'.clobbered = s.clobbered
  lookups : s'.lookups = s.lookups
  byId : s'.byId = s.byId
  byHandle : s'.byHandle = s.byHandle
  fds : s'.fds = s.fds
  mountRefs : s'.mountRefs = s.mountRefs
  handles : s'.handles = s.handles
  cookies : s'.cookies = s.cookies
  nextHandle : s'.nextHandle = s.nextHandle
  next : s.next ≤ s'.next

theorem AllocFrame.refl (s : St) : AllocFrame s s :=
  ⟨rfl, rfl, rfl, rfl, rfl, rfl, rfl, rfl, rfl, rfl, Nat.le_refl _⟩

/-- the unique-inode allocator is untouched -/
structure AllocSame (s s' : St) : Prop where
  devMap : s'.devMap = s.devMap
  nextUid : s'.nextUid = s.nextUid
  nextVirt : s'.nextVirt = s.nextVirt

theorem AllocSame.refl (s : St) : AllocSame s s := ⟨rfl, rfl, rfl⟩

theorem AllocSame.of_tables {s s' : St} (h : s'.tables = s.tables) : AllocSame s s' :=
  ⟨congrArg Tables.devMap h, congrArg Tables.nextUid h, congrArg Tables.nextVirt h⟩

theorem AllocSame.trans {a b c : St} (h1 : AllocSame a b) (h2 : AllocSame b c) : AllocSame a c :=
  ⟨by rw [h2.devMap, h1.devMap], by rw [h2.nextUid, h1.nextUid], by rw [h2.nextVirt, h1.nextVirt]⟩

/-- invariant of the allocator: small ids 1 … 254 handed out in order, one per (dev, mnt) pair;
    the virtual counter has not passed `MAX_HOST_INO + 1` -/
structure DInv (s : St) : Prop where
  uidPos : 1 ≤ s.nextUid
  uidLe : s.nextUid ≤ 255
  rng : ∀ k u, mget s.devMap k = some u → 1 ≤ u ∧ u < s.nextUid
  inj : ∀ k k' u, mget s.devMap k = some u → mget s.devMap k' = some u → k = k'
  virt : s.nextVirt ≤ MAX_HOST_INO + 1

theorem DInv.uid_range {s : St} (d : DInv s) {k : Nat × Nat} {u : Nat} (h : mget s.devMap k = some u) :
    1 ≤ u ∧ u < 255 :=
  ⟨(d.rng k u h).1, Nat.lt_of_lt_of_le (d.rng k u h).2 d.uidLe⟩

/-- the allocator only grows -/
structure AllocExt (s s' : St) : Prop where
  inv : DInv s → DInv s'
  ext : ∀ k u, mget s.devMap k = some u → mget s'.devMap k = some u
  virt : s.nextVirt ≤ s'.nextVirt

theorem AllocSame.ext {s s' : St} (h : AllocSame s s') : AllocExt s s' := by
  refine ⟨fun d => ⟨by rw [h.nextUid]; exact d.uidPos, by rw [h.nextUid]; exact d.uidLe, ?_, ?_,
      by rw [h.nextVirt]; exact d.virt⟩,
    fun k u x => by rw [h.devMap]; exact x, by rw [h.nextVirt]; exact Nat.le_refl _⟩
  · intro k u x; rw [h.devMap] at x; rw [h.nextUid]; exact d.rng k u x
  · intro k k' u x y; rw [h.devMap] at x y; exact d.inj k k' u x y

theorem AllocExt.refl (s : St) : AllocExt s s := (AllocSame.refl s).ext

theorem AllocExt.trans {a b c : St} (h1 : AllocExt a b) (h2 : AllocExt b c) : AllocExt a c :=
  ⟨fun d => h2.inv (h1.inv d), fun k u x => h2.ext k u (h1.ext k u x), Nat.le_trans h1.virt h2.virt⟩

theorem AllocExt.of_tables {s s' : St} (h : s'.tables = s.tables) : AllocExt s s' :=
  (AllocSame.of_tables h).ext

theorem devUid_alloc {s s' : St} {id : InodeId} {r : Option Nat} : devUid s id = (s', r) →
    AllocFrame s s' ∧ AllocExt s s' ∧ s'.nextVirt = s.nextVirt ∧
    ∀ u, r = some u → mget s'.devMap (id.dev, id.mnt) = some u := by
  fun_cases devUid s id <;> (intro h; cases h)
  -- the pair has its id
  case case1 hm => exact ⟨.refl s, .refl s, rfl, fun u' hu => by cases hu; exact hm⟩
  -- all 254 ids are taken
  case case2 => exact ⟨.refl s, .refl s, rfl, nofun⟩
  -- the pair gets `nextUid`
  case case3 hm _ =>
    refine ⟨⟨rfl, rfl, rfl, rfl, rfl, rfl, rfl, rfl, rfl, rfl, Nat.le_refl _⟩,
      ⟨fun d => ?_, ?_, Nat.le_refl _⟩, rfl, fun u' hu => by cases hu; simp⟩
    · refine ⟨Nat.le_succ_of_le d.uidPos, ?_, ?_, ?_, d.virt⟩
      · have := d.uidLe; show s.nextUid + 1 ≤ 255; omega
      · exact forall_mget_mput ⟨d.uidPos, Nat.lt_succ_self _⟩
          fun k u hk => ⟨(d.rng k u hk).1, Nat.lt_succ_of_lt (d.rng k u hk).2⟩
      · intro k k' u hk hk'
        simp only [mget_mput] at hk hk'
        split at hk <;> split at hk'
        · rename_i e1 e2; rw [← e1, ← e2]
        · cases hk; have := (d.rng k' _ hk').2; exact absurd this (Nat.lt_irrefl _)
        · cases hk'; have := (d.rng k _ hk).2; exact absurd this (Nat.lt_irrefl _)
        · exact d.inj k k' u hk hk'
    · exact fun k u hk => mget_mput_of_some hk fun e1 => by rw [← e1, hm] at hk; cases hk

/-- a number freshly formed by `get_unique_inode`: `(uid << 47) | st_ino`, or — host inode number
    above `MAX_HOST_INO` — `(uid << 47) | next_virtual_inode | (1 << 55)` -/
def UFresh (s s' : St) (id : InodeId) (ino : Ino) : Prop :=
  (id.ino ≤ MAX_HOST_INO ∧ ∃ u, mget s'.devMap (id.dev, id.mnt) = some u ∧ ino = packIno u id.ino)
  ∨ (id.ino > MAX_HOST_INO ∧ ∃ u, mget s'.devMap (id.dev, id.mnt) = some u
      ∧ ino = packIno u (s.nextVirt ||| VIRTUAL_INODE_FLAG) ∧ s.nextVirt ≤ MAX_HOST_INO ∧ s'.nextVirt = s.nextVirt + 1)

/-- how a number handed out by `allocate_inode` under `use_host_ino` is formed: the remembered one
    (only for host inode numbers above `MAX_HOST_INO`), or a fresh one -/
def UForm (s s' : St) (id : InodeId) (fh : Option FhId) (ino : Ino) : Prop :=
  (id.ino > MAX_HOST_INO ∧ getInodeLocked s id fh = some ino) ∨ UFresh s s' id ino

theorem getUniqueInode_alloc {s s' : St} {id : InodeId} {r : Except Errno Ino} : getUniqueInode s id = (s', r) →
    AllocFrame s s' ∧ AllocExt s s' ∧ ∀ ino, r = .ok ino → UFresh s s' id ino := by
  fun_cases getUniqueInode s id <;> (intro h; cases h)
  -- no id for the pair; the virtual numbers are used up
  case case1 heq | case3 heq _ =>
    exact ⟨(devUid_alloc heq).1, (devUid_alloc heq).2.1, nofun⟩
  -- the host number fits
  case case2 uid hle heq =>
    obtain ⟨h0, h1, _, h3⟩ := devUid_alloc heq
    exact ⟨h0, h1, fun ino h => by cases h; exact Or.inl ⟨hle, uid, h3 uid rfl, rfl⟩⟩
  -- a virtual number
  case case4 s1 uid heq hgt hv =>
    obtain ⟨h0, h1, h2, h3⟩ := devUid_alloc heq
    have hv' : s1.nextVirt ≤ MAX_HOST_INO := Nat.le_of_not_lt hv
    refine ⟨⟨h0.data, h0.clobbered, h0.lookups, h0.byId, h0.byHandle, h0.fds, h0.mountRefs,
      h0.handles, h0.cookies, h0.nextHandle, h0.next⟩, ⟨fun d => ?_, h1.ext, ?_⟩, fun ino h => ?_⟩
    · have d1 := h1.inv d
      exact ⟨d1.uidPos, d1.uidLe, d1.rng, d1.inj, by show s1.nextVirt + 1 ≤ MAX_HOST_INO + 1; omega⟩
    · show s.nextVirt ≤ s1.nextVirt + 1
      rw [h2]; exact Nat.le_succ _
    · cases h
      refine Or.inr ⟨Nat.lt_of_not_le hgt, uid, h3 uid rfl, by rw [h2], by rw [← h2]; exact hv', ?_⟩
      show s1.nextVirt + 1 = s.nextVirt + 1
      rw [h2]

/-- how a number handed out by `allocate_inode` without `use_host_ino` is formed: the remembered
    one, or `next_inode`, which then advances to `next'` -/
def KForm (s : St) (id : InodeId) (fh : Option FhId) (ino : Ino) (next' : Nat) : Prop :=
  (getInodeLocked s id fh = some ino ∧ next' = s.next)
  ∨ (getInodeLocked s id fh = none ∧ ino = s.next ∧ next' = s.next + 1)

theorem KForm.same {s : St} {id : InodeId} {fh : Option FhId} {ino i : Ino} {n : Nat} (h : KForm s id fh ino n)
    (hm : getInodeLocked s id fh = some i) : ino = i := by
  rcases h with ⟨a, _⟩ | ⟨a, _⟩ <;> rw [hm] at a
  · exact (Option.some.inj a).symm
  · cases a

theorem KForm.of_tables {s s1 : St} {id : InodeId} {fh : Option FhId} {ino : Ino} {n : Nat}
    (ht : s1.tables = s.tables) (h : KForm s1 id fh ino n) : KForm s id fh ino n := by
  unfold KForm at h ⊢
  rw [← getInodeLocked_of_tables ht, ← next_of_tables ht]
  exact h

theorem allocateInode_alloc {e : Env} {s s' : St} {id : InodeId} {fh : Option FhId} {r : Except Errno Ino} :
    allocateInode e s id fh = (s', r) →
    AllocFrame s s' ∧ AllocExt s s' ∧
    ∀ ino, r = .ok ino →
      (e.useHostIno = false → KForm s id fh ino s'.next) ∧ (e.useHostIno = true → UForm s s' id fh ino) := by
  fun_cases allocateInode e s id fh
  -- own numbering, the file is remembered
  case case1 hk _ hl =>
    intro h; cases h
    exact ⟨.refl s, .refl s, fun ino h => by cases h; exact ⟨fun _ => Or.inl ⟨hl, rfl⟩, fun hu => nomatch hu ▸ hk⟩⟩
  -- own numbering, `next_inode`
  case case2 hk hl =>
    intro h; cases h
    exact ⟨⟨rfl, rfl, rfl, rfl, rfl, rfl, rfl, rfl, rfl, rfl, Nat.le_succ _⟩, AllocSame.ext ⟨rfl, rfl, rfl⟩,
      fun ino h => by cases h; exact ⟨fun _ => Or.inr ⟨hl, rfl, rfl⟩, fun hu => nomatch hu ▸ hk⟩⟩
  -- `use_host_ino`, a host number above `MAX_HOST_INO` that is remembered
  case case3 hk hgt _ hl =>
    intro h; cases h
    exact ⟨.refl s, .refl s, fun ino h => by cases h; exact ⟨fun hu => absurd (hu ▸ rfl) hk, fun _ => Or.inl ⟨hgt, hl⟩⟩⟩
  -- `use_host_ino` otherwise: `get_unique_inode`
  case case4 hk _ _ | case5 hk _ =>
    intro h
    have hu := getUniqueInode_alloc h
    exact ⟨hu.1, hu.2.1, fun ino hr => ⟨fun hu => absurd (hu ▸ rfl) hk, fun _ => Or.inr (hu.2.2 ino hr)⟩⟩

/-- `InodeStore::insert` on the tables -/
def Tables.insert (T : Tables) (ino : Ino) (d : IData) : Tables :=
  { T with
    byId := mput T.byId d.id ino,
    byHandle := (match d.fh with
      | some h => mput T.byHandle h ino
      | none => T.byHandle),
    data := mput T.data ino d,
    clobbered := T.clobbered || (decide (ino ≠ ROOT_ID) && (mget T.data ino).isSome) }

theorem tables_insertInode (s : St) (ino : Ino) (d : IData) :
    (insertInode s ino d).tables = s.tables.insert ino d := by
  unfold insertInode
  cases h : mget s.data ino with
  | none => rfl
  | some old =>
    -- the entry stored under `ino` is dropped first, which leaves the tables alone
    show (dropIData s old).tables.insert ino d = _
    rw [tables_dropIData]

/-- the inode store, the id / handle maps and the ghosts are as before; the allocator may have
    advanced -/
structure Unchanged (s s' : St) : Prop where
  data : s'.data = s.data
  clobbered : s'.clobbered = s.clobbered
  lookups : s'.lookups = s.lookups
  byId : s'.byId = s.byId
  byHandle : s'.byHandle = s.byHandle
  next : s.next ≤ s'.next
  alloc : AllocExt s s'

theorem Unchanged.of_store {s s' : St}
    (h : { s'.tables with handles := s.handles, cookies := s.cookies, nextHandle := s.nextHandle } = s.tables) :
    Unchanged s s' :=
  ⟨congrArg Tables.data h, congrArg Tables.clobbered h, congrArg Tables.lookups h, congrArg Tables.byId h,
    congrArg Tables.byHandle h, Nat.le_of_eq (congrArg Tables.next h).symm,
    AllocSame.ext ⟨congrArg Tables.devMap h, congrArg Tables.nextUid h, congrArg Tables.nextVirt h⟩⟩

theorem Unchanged.of_tables {s s' : St} (h : s'.tables = s.tables) : Unchanged s s' :=
  .of_store (by rw [h]; rfl)

theorem Unchanged.trans {a b c : St} (h1 : Unchanged a b) (h2 : Unchanged b c) : Unchanged a c :=
  ⟨h2.data.trans h1.data, h2.clobbered.trans h1.clobbered, h2.lookups.trans h1.lookups,
    h2.byId.trans h1.byId, h2.byHandle.trans h1.byHandle, Nat.le_trans h1.next h2.next, h1.alloc.trans h2.alloc⟩

theorem AllocFrame.unchanged {s s' : St} (h : AllocFrame s s') (hx : AllocExt s s') : Unchanged s s' :=
  ⟨h.data, h.clobbered, h.lookups, h.byId, h.byHandle, h.next, hx⟩

/-- `InodeStore::insert` of `d` under `ino`, read off two states: the three maps and the ghost flag; the handle
    table is kept -/
structure Inserted (s s' : St) (ino : Ino) (d : IData) : Prop where
  data : s'.data = mput s.data ino d
  byId : s'.byId = mput s.byId d.id ino
  byHandle : s'.byHandle = (match d.fh with
    | some h => mput s.byHandle h ino
    | none => s.byHandle)
  clobbered : s'.clobbered = (s.clobbered || (decide (ino ≠ ROOT_ID) && (mget s.data ino).isSome))
  handles : s'.handles = s.handles

theorem Inserted.of_tables {s s' : St} {ino : Ino} {d : IData} {l : Nat}
    (ht : s'.tables = { s.tables.insert ino d with lookups := l }) : Inserted s s' ino d :=
  ⟨congrArg Tables.data ht, congrArg Tables.byId ht, congrArg Tables.byHandle ht, congrArg Tables.clobbered ht,
    congrArg Tables.handles ht⟩

theorem Inserted.after {s s1 s' : St} {ino : Ino} {d : IData} (u : Unchanged s s1) (hh : s1.handles = s.handles)
    (x : Inserted s1 s' ino d) : Inserted s s' ino d :=
  ⟨by rw [← u.data]; exact x.data, by rw [← u.byId]; exact x.byId, by rw [← u.byHandle]; exact x.byHandle,
    by rw [← u.data, ← u.clobbered]; exact x.clobbered, x.handles.trans hh⟩

theorem Inserted.clobbered_root {s s' : St} {d : IData} (x : Inserted s s' ROOT_ID d) : s'.clobbered = s.clobbered :=
  x.clobbered.trans (by simp)

/-- the entry `d` found under `ino` counts one more reference and the ghost `lookups` one more lookup; nothing
    else in the tables moves -/
structure Counted (s s' : St) (ino : Ino) (d : IData) : Prop where
  data : s'.data = mput s.data ino { d with refs := satAdd d.refs 1 }
  clobbered : s'.clobbered = s.clobbered
  lookups : s'.lookups = s.lookups + 1
  byId : s'.byId = s.byId
  byHandle : s'.byHandle = s.byHandle
  handles : s'.handles = s.handles
  next : s'.next = s.next
  alloc : AllocSame s s'

/-- how the part of `do_lookup` that follows the resolution of the name to the host file `f`
    changes the inode store and the allocator: it fails, or finds the entry of `f` and counts one
    more reference, or inserts a new entry under a number from `allocate_inode` -/
inductive LkEff (e : Env) (s s' : St) (f : HFile) : Except Errno Ino → Prop
  | err (er : Errno) (h : Unchanged s s') (hh : s'.handles = s.handles) : LkEff e s s' f (.error er)
  | hit {ino : Ino} {d : IData} (hg : getAlt s f.id f.fh = some (ino, d)) (x : Counted s s' ino d) :
      LkEff e s s' f (.ok ino)
  | ins {ino : Ino} (hg : getAlt s f.id f.fh = none)
      (x : Inserted s s' ino { id := f.id, fh := f.fh, refs := 1, safe := f.safe })
      (hl : s'.lookups = s.lookups + 1) (ha : AllocExt s s')
      (hk : e.useHostIno = false → KForm s f.id f.fh ino s'.next)
      (hu : e.useHostIno = true → UForm s s' f.id f.fh ino) : LkEff e s s' f (.ok ino)

theorem getAlt_data {s : St} {id : InodeId} {fh : Option FhId} {ino : Ino} {d : IData} :
    getAlt s id fh = some (ino, d) → mget s.data ino = some d := by
  -- `getByHandle` and `getById` end in the same lookup of the stored entry
  have key : ∀ o : Option Ino, (match o with
      | none => none
      | some i => (mget s.data i).map fun d => (i, d)) = some (ino, d) → mget s.data ino = some d := by
    intro o e
    split at e
    · cases e
    · rename_i i
      cases hm : mget s.data i with
      | none => simp [hm] at e
      | some d' => simp [hm] at e; obtain ⟨a, b⟩ := e; subst a; subst b; exact hm
  fun_cases getAlt s id fh
  -- found by handle
  case case1 hx =>
    intro h; cases h
    cases fh with
    | none => cases hx
    | some h' => exact key (mget s.byHandle h') hx
  -- found by id, and no handle on one side
  case case2 hx _ => intro h; cases h; exact key (mget s.byId id) hx
  -- nothing found
  all_goals intro h; cases h

theorem not_live_of_mapping {s : St} {id : InodeId} {fh : Option FhId} {ino : Ino}
    (hg : getAlt s id fh = none) (hm : getInodeLocked s id fh = some ino) : mget s.data ino = none := by
  cases hd : mget s.data ino with
  | none => rfl
  | some d =>
    exfalso
    unfold getAlt at hg
    unfold getInodeLocked at hm
    cases fh with
    | some h =>
      simp only at hm
      simp [getByHandle, hm, hd] at hg
    | none =>
      simp only at hm
      simp [getById, hm, hd] at hg

theorem getAlt_none_byId {s : St} {id : InodeId} {fh : Option FhId} (hg : getAlt s id fh = none)
    {j : Ino} {dj : IData} (hb : mget s.byId id = some j) (hd : mget s.data j = some dj) :
    dj.fh ≠ none := by
  intro hf
  unfold getAlt at hg
  split at hg
  · cases hg
  · simp [getById, hb, hd, hf] at hg

theorem getAlt_fd_byId {s : St} {id : InodeId} {i : Ino} {d : IData}
    (hg : getAlt s id none = some (i, d)) : mget s.byId id = some i := by
  unfold getAlt at hg
  simp only [Option.bind_none] at hg
  unfold getById at hg
  cases hb : mget s.byId id with
  | none => simp [hb] at hg
  | some j =>
    cases hm : mget s.data j with
    | none => simp [hb, hm] at hg
    | some d' => simp [hb, hm] at hg; rw [hg.1]

theorem lookupInsert_eff (e : Env) (s : St) (f : HFile) (hg : getAlt s f.id f.fh = none) :
    LkEff e s (lookupInsert e s f).1 f (lookupInsert e s f).2 := by
  unfold lookupInsert
  split
  · rename_i s1 er heq
    have ht : (freeFd s1).tables = s.tables := tables_of_toOpenable (s' := s1) heq
    exact .err er (.of_tables ht) (handles_of_tables ht)
  · rename_i s1 heq
    have h1 := tables_of_toOpenable heq
    -- whatever `allocate_inode` returns, the store and the handle table are still those of `s`
    have upto : ∀ s2, AllocFrame s1 s2 → AllocExt s1 s2 → Unchanged s s2 ∧ s2.handles = s.handles :=
      fun s2 hf hx => ⟨(Unchanged.of_tables h1).trans (hf.unchanged hx), by rw [hf.handles, handles_of_tables h1]⟩
    have herr : ∀ (s2 : St) (er : Errno), AllocFrame s1 s2 → AllocExt s1 s2 →
        LkEff e s (dropPending s2 f.fh) f (.error er) := by
      intro s2 er hf hx
      have hp := tables_dropPending s2 f.fh
      exact .err er ((upto s2 hf hx).1.trans (.of_tables hp)) (by rw [handles_of_tables hp]; exact (upto s2 hf hx).2)
    split
    · rename_i s2 er heq2
      exact herr s2 er (allocateInode_alloc heq2).1 (allocateInode_alloc heq2).2.1
    · rename_i s2 ino heq2
      obtain ⟨hfr, hex, hform⟩ := allocateInode_alloc heq2
      split
      · exact herr s2 EOTHER hfr hex
      · have ht : (settlePath { insertInode s2 ino { id := f.id, fh := f.fh, refs := 1, safe := f.safe }
            with lookups := s2.lookups + 1 } f.fh).tables
            = { (insertInode s2 ino { id := f.id, fh := f.fh, refs := 1, safe := f.safe }).tables
                with lookups := s2.lookups + 1 } := tables_settlePath _ _
        rw [tables_insertInode] at ht
        generalize settlePath _ _ = s3 at ht ⊢
        have hfin : AllocSame s2 s3 :=
          ⟨congrArg Tables.devMap ht, congrArg Tables.nextUid ht, congrArg Tables.nextVirt ht⟩
        have hnext : s3.next = s2.next := congrArg Tables.next ht
        have a1 : AllocSame s s1 := .of_tables h1
        obtain ⟨u2, hh2⟩ := upto s2 hfr hex
        obtain ⟨hk, hu⟩ := hform ino rfl
        refine .ins hg ((Inserted.of_tables ht).after u2 hh2) ((congrArg Tables.lookups ht).trans (by rw [← u2.lookups]))
          (u2.alloc.trans hfin.ext) ?_ ?_
        · intro hke
          rw [hnext]
          exact (hk hke).of_tables h1
        · intro hke
          rcases hu hke with ⟨hgt, hl⟩ | ⟨hle, u, hu, hi⟩ | ⟨hgt, u, hu, hi, hv, hn⟩
          · exact Or.inl ⟨hgt, by rw [← getInodeLocked_of_tables h1]; exact hl⟩
          · exact Or.inr (Or.inl ⟨hle, u, by rw [hfin.devMap]; exact hu, hi⟩)
          · exact Or.inr (Or.inr ⟨hgt, u, by rw [hfin.devMap]; exact hu, by rw [← a1.nextVirt]; exact hi,
              by rw [← a1.nextVirt]; exact hv, by rw [hfin.nextVirt, hn, a1.nextVirt]⟩)

theorem lookupCore_eff (e : Env) (s : St) (f : HFile) :
    LkEff e s (lookupCore e s f).1 f (lookupCore e s f).2 := by
  unfold lookupCore
  split
  · rename_i ino d hg
    exact .hit hg ⟨rfl, rfl, rfl, rfl, rfl, rfl, rfl, ⟨rfl, rfl, rfl⟩⟩
  · rename_i hg
    exact lookupInsert_eff e s f hg

/-- a `do_lookup` that resolved the name to `f` and returns a number takes the tables of `s` to those of its result by
    `LkEff`: the descriptors it opens and closes around `lookupCore` leave the tables alone -/
theorem doLookup_core {e : Env} {s : St} {p : Ino} {pst : Bool} {f : HFile} {ino : Ino}
    (h : (doLookup e s p pst (.ok f)).2 = .ok ino) :
    ∃ s1 s2, s1.tables = s.tables ∧ (doLookup e s p pst (.ok f)).1.tables = s2.tables ∧ LkEff e s1 s2 f (.ok ino) := by
  revert h
  unfold doLookup
  split
  · intro h; cases h
  · rename_i dir _
    have h1 := tables_getFile e s dir pst
    split
    · intro h; cases h
    · rename_i s1 heq
      rw [heq] at h1
      split
      · intro h; cases h
      · rename_i s2 heq2
        exact fun h => ⟨s2, _, by rw [tables_of_allocFd heq2, h1], tables_closeTemp _ _, h ▸ lookupCore_eff e s2 f⟩

/-- the host answer carries no file handle (`inode_file_handles` off: `name_to_handle_at` is never called) -/
def HAns.NoFh : HAns → Prop
  | .ok f => f.fh = none
  | .err _ => True

end Fbr.PtRefs
