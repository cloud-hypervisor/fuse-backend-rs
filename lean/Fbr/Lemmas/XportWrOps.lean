/-
  CONTENT of writer operations.  `WrC D b w b' w'`: the cursor advanced by `D.length`; region sizes
  are kept; no byte outside the addresses passed changed; and — when the cursor's addresses are
  pairwise distinct — those addresses hold `D` afterwards.  Proved for `write`, `write_vectored`,
  `write_from(_at)` and `write_all_from` with any scripted source (`writerRun_wrc`), each with the
  count it reports.
-/
import Fbr.Lemmas.XportOps

namespace Fbr.Xport

structure WrC (D : Bytes) (b : IoBufs) (w : World) (b' : IoBufs) (w' : World) : Prop where
  adv : AdvBy D.length true true b w b' w'
  len : ∀ x, (w'.mem.get x).length = (w.mem.get x).length
  frame : ∀ a, a ∉ (addrs b.segs).take D.length → w'.mem.byteAt a = w.mem.byteAt a
  content : (addrs b.segs).Nodup → ((addrs b.segs).take D.length).map w'.mem.byteAt = D

theorem WrC.refl (b : IoBufs) (w : World) : WrC [] b w b w :=
  ⟨AdvBy.refl, fun _ => rfl, fun _ _ => rfl, fun _ => by simp⟩

theorem WrC.toAdv {D : Bytes} {b b' : IoBufs} {w w' : World} (h : WrC D b w b' w') : Adv true true b w b' w' :=
  ⟨_, h.adv⟩

section
variable {D : Bytes} {b b' : IoBufs} {w w' : World}

theorem WrC.delta (h : WrC D b w b' w') : b'.consumed - b.consumed = D.length := by
  have := h.adv.consumed; omega

theorem WrC.addrs' (h : WrC D b w b' w') : addrs b'.segs = (addrs b.segs).drop D.length := h.adv.addrs'

theorem WrC.inMem (h : WrC D b w b' w') (hin : InMem w.mem (addrs b.segs)) : InMem w'.mem (addrs b'.segs) := by
  intro a ha
  rw [h.addrs'] at ha
  rw [h.len]; exact hin a (List.mem_of_mem_drop ha)

theorem WrC.hov (h : WrC D b w b' w') (hov : b.consumed + total b.segs < USIZE) :
    b'.consumed + total b'.segs < USIZE := by
  rw [h.adv.inv]; exact hov

end

theorem disjoint_take_drop {α : Type} {A : List α} (hnd : A.Nodup) (n : Nat) : ∀ a ∈ A.take n, a ∉ A.drop n := by
  intro a ha hb
  rw [← List.take_append_drop n A] at hnd
  exact (List.nodup_append.mp hnd).2.2 a ha a hb rfl

theorem WrC.trans {D1 D2 : Bytes} {b1 b2 b3 : IoBufs} {w1 w2 w3 : World}
    (h1 : WrC D1 b1 w1 b2 w2) (h2 : WrC D2 b2 w2 b3 w3) : WrC (D1 ++ D2) b1 w1 b3 w3 := by
  have h7 := h1.addrs'
  have htk : (addrs b1.segs).take (D1.length + D2.length)
      = (addrs b1.segs).take D1.length ++ (addrs b2.segs).take D2.length := by
    rw [h7, List.take_add]
  refine ⟨by rw [List.length_append]; exact h1.adv.trans h2.adv, fun x => by rw [h2.len, h1.len], ?_, ?_⟩
  · intro a ha
    rw [List.length_append, htk, List.mem_append, not_or] at ha
    rw [h2.frame a ha.2, h1.frame a ha.1]
  · intro hnd
    rw [List.length_append, htk, List.map_append]
    have hnd2 : (addrs b2.segs).Nodup := by rw [h7]; exact (List.drop_sublist _ _).nodup hnd
    rw [h2.content hnd2]
    congr 1
    refine Eq.trans ?_ (h1.content hnd)
    apply List.map_congr_left
    intro a ha
    apply h2.frame
    rw [h7]
    exact fun hm => disjoint_take_drop hnd _ a ha (List.mem_of_mem_take hm)

theorem consume_wrc {β : Type} (C : Except IoErr Nat × World × β → Prop) (S : Nat → Bytes) (b : IoBufs) (w : World)
    (count : Nat) (hS : ∀ n, n ≤ count → (S n).length = n) (aux0 : β)
    (f : World → List Seg → Except IoErr Nat × World × β) (hov : b.consumed + total b.segs < USIZE)
    {o : Out Nat β} (ho : consume b w true count aux0 f = o)
    (hok : FOk true w (allocate b.segs count) (f w (allocate b.segs count)))
    (hwr : FWr S w (allocate b.segs count) (f w (allocate b.segs count)))
    (h0 : C (.ok 0, w, aux0)) (hf : C (f w (allocate b.segs count))) :
    ∃ r, C r ∧ moved r.1 ≤ count ∧ o.res = r.1 ∧ o.aux = r.2.2 ∧ WrC (S (moved r.1)) b w o.b o.w := by
  obtain ⟨r, ⟨⟨hl, hfr, hc⟩, hr⟩, hk, e1, e2, e3, hadv⟩ := consume_spec (fun r => FWr S w (allocate b.segs count) r ∧ C r)
    b w true true count aux0 f hov ho hok
    (fun _ => ⟨fwr_same S (List.eq_nil_of_length_eq_zero (hS 0 (Nat.zero_le _))) rfl, h0⟩) ⟨hwr, hf⟩
  rw [take_allocate _ hk] at hfr hc
  have hSl := hS _ hk
  refine ⟨r, hr, hk, e1, e2, hSl.symm ▸ hadv, fun x => e3 ▸ hl x, ?_, ?_⟩
  · intro a ha
    rw [hSl] at ha
    rw [e3]; exact hfr a ha
  · intro hnd
    rw [hSl, e3]
    exact hc (by rw [addrs_allocate]; exact (List.take_sublist _ _).nodup hnd)

/-- writer handle `b` became `b'` storing `D`: memory went from `m` to `m'` -/
structure WrH (D : Bytes) (b : IoBufs) (m m' : Mem) (b' : IoBufs) : Prop where
  fits : D.length ≤ total b.segs
  addrs' : addrs b'.segs = (addrs b.segs).drop D.length
  consumed : b'.consumed = b.consumed + D.length
  content : ((addrs b.segs).take D.length).map m'.byteAt = D
  rest : ∀ a ∈ (addrs b.segs).drop D.length, m'.byteAt a = m.byteAt a

theorem WrH.same {b : IoBufs} {m m' : Mem} (h : ∀ a ∈ addrs b.segs, m'.byteAt a = m.byteAt a) : WrH [] b m m' b :=
  ⟨Nat.zero_le _, by simp, rfl, by simp, by simpa using h⟩

theorem WrH.trans {D1 D2 : Bytes} {b1 b2 b3 : IoBufs} {m m2 m3 : Mem} (h1 : WrH D1 b1 m m2 b2) (h2 : WrH D2 b2 m2 m3 b3)
    (hfr : ∀ a ∈ (addrs b1.segs).take D1.length, m3.byteAt a = m2.byteAt a) : WrH (D1 ++ D2) b1 m m3 b3 := by
  obtain ⟨a1, a2, a3, a4, a5⟩ := h1
  obtain ⟨c1, c2, c3, c4, c5⟩ := h2
  have ht : total b2.segs = total b1.segs - D1.length := by
    have := congrArg List.length a2; simpa using this
  refine ⟨by rw [List.length_append]; omega, ?_, by rw [List.length_append]; omega, ?_, ?_⟩
  · rw [c2, a2, List.drop_drop, List.length_append]
  · rw [List.length_append, List.take_add, List.map_append, ← a2, c4]
    congr 1
    exact (List.map_congr_left hfr).trans a4
  · intro a ha
    rw [List.length_append, ← List.drop_drop, ← a2] at ha
    rw [c5 a ha]
    apply a5
    rw [← a2]; exact List.mem_of_mem_drop ha

theorem WrH.flat {D : Bytes} {b b' : IoBufs} {m m' : Mem} (h : WrH D b m m' b') (hin : InMem m (addrs b.segs))
    (hlen : ∀ x, (m'.get x).length = (m.get x).length) :
    flat m' b.segs = D ++ (flat m b.segs).drop D.length :=
  flat_written hin hlen h.content h.rest

theorem WrC.toWrH {D : Bytes} {b b' : IoBufs} {w w' : World} (h : WrC D b w b' w') (hnd : (addrs b.segs).Nodup) :
    WrH D b w.mem w'.mem b' :=
  ⟨h.adv.1, h.addrs', h.adv.consumed, h.content hnd,
    fun a ha => h.frame a (fun hm => disjoint_take_drop hnd _ a hm ha)⟩

theorem vwrite_wrc (b : IoBufs) (w : World) (data : Bytes)
    (hin : InMem w.mem (addrs b.segs)) (hov : b.consumed + total b.segs < USIZE) :
    WrC (data.take ((VirtioW.write b w data).b.consumed - b.consumed)) b w
      (VirtioW.write b w data).b (VirtioW.write b w data).w := by
  rw [(vwrite_advBy b w data hov).delta]
  rcases checkAvail_cases b data.length with hc | hc
  · obtain ⟨r, _, _, e1, _, h⟩ := consume_wrc (fun _ => True)
      (fun n => data.take n) b w data.length (fun n hn => by rw [List.length_take]; omega) () _ hov
      (vwrite_of_ok w data hc).symm
      (fok_copyIn w _ data _) (copyIn_fwr w _ data (by rw [addrs_allocate]; exact hin.take _) ()) trivial trivial
    rw [e1]; exact h
  · rw [vwrite_of_err w data hc]
    exact WrC.refl _ _

theorem vwrite_delta (b : IoBufs) (w : World) (data : Bytes) (hov : b.consumed + total b.segs < USIZE) :
    (VirtioW.write b w data).b.consumed - b.consumed = moved (VirtioW.write b w data).res
    ∧ ∀ k, (VirtioW.write b w data).res = .ok k → k = data.length := by
  refine ⟨(vwrite_advBy b w data hov).delta, fun k hk => ?_⟩
  -- a successful `write` passed the space check, and then the whole buffer is written
  have hfit : data.length ≤ total b.segs := by
    rw [← checkAvail_ok_iff b data.length hov]
    unfold VirtioW.write at hk
    split at hk
    · cases hk
    · assumption
  rw [vwrite_res_ok b w data hov hfit] at hk
  cases hk; rfl

theorem vwrite_fits (b : IoBufs) (w : World) (data : Bytes) (hin : InMem w.mem (addrs b.segs))
    (hov : b.consumed + total b.segs < USIZE) (hfit : data.length ≤ total b.segs) :
    WrC data b w (VirtioW.write b w data).b (VirtioW.write b w data).w := by
  have h := vwrite_wrc b w data hin hov
  rwa [((take_all_or_nothing (vwrite_delta b w data hov)).1 _ (vwrite_res_ok b w data hov hfit)).2] at h

theorem writeEach_wrc (b : IoBufs) (w : World) (bufs : List Bytes) (count : Nat)
    (hin : InMem w.mem (addrs b.segs)) (hov : b.consumed + total b.segs < USIZE) :
    ∃ n, n ≤ bufs.flatten.length
      ∧ WrC (bufs.flatten.take n) b w (VirtioW.writeEach b w bufs count).b (VirtioW.writeEach b w bufs count).w
      ∧ ∀ c, (VirtioW.writeEach b w bufs count).res = .ok c → c = count + n := by
  fun_induction VirtioW.writeEach b w bufs count
  -- no buffer left
  case case1 => exact ⟨0, Nat.le_refl _, WrC.refl _ _, by intro c hc; cases hc; rfl⟩
  -- an empty buffer is skipped
  case case2 hd ih => rw [List.isEmpty_iff.mp hd]; exact ih hin hov
  -- `write` fails: nothing of this buffer is stored
  case case3 b w d _ _ _ _ e he =>
    have h1 := vwrite_wrc b w d hin hov
    rw [(take_all_or_nothing (vwrite_delta b w d hov)).2 e he] at h1
    exact ⟨0, Nat.zero_le _, h1, nofun⟩
  -- `write` succeeds: the whole buffer is stored, then the loop goes on
  case case4 b w d _ _ _ _ k hk ih =>
    have h1 := vwrite_wrc b w d hin hov
    obtain ⟨e2, ht⟩ := (take_all_or_nothing (vwrite_delta b w d hov)).1 k hk
    rw [ht] at h1
    obtain ⟨n, hn, h2, hc⟩ := ih (h1.inMem hin) (h1.hov hov)
    refine ⟨d.length + n, by rw [List.flatten_cons, List.length_append]; omega, ?_,
      fun c h => by rw [hc c h, e2]; omega⟩
    rw [List.flatten_cons, List.take_length_add_append]
    exact h1.trans h2

theorem writeVectored_wrc (b : IoBufs) (w : World) (bufs : List Bytes)
    (hin : InMem w.mem (addrs b.segs)) (hov : b.consumed + total b.segs < USIZE) :
    WrC (bufs.flatten.take ((VirtioW.writeVectored b w bufs).b.consumed - b.consumed)) b w
      (VirtioW.writeVectored b w bufs).b (VirtioW.writeVectored b w bufs).w
    ∧ ∀ c, (VirtioW.writeVectored b w bufs).res = .ok c → (VirtioW.writeVectored b w bufs).b.consumed - b.consumed = c := by
  have key : ∃ n, n ≤ bufs.flatten.length
      ∧ WrC (bufs.flatten.take n) b w (VirtioW.writeVectored b w bufs).b (VirtioW.writeVectored b w bufs).w
      ∧ ∀ c, (VirtioW.writeVectored b w bufs).res = .ok c → c = n := by
    unfold VirtioW.writeVectored
    split
    · exact ⟨0, Nat.zero_le _, WrC.refl b w, nofun⟩
    · simpa using writeEach_wrc b w bufs 0 hin hov
  obtain ⟨n, hn, h, hc⟩ := key
  have hd : (VirtioW.writeVectored b w bufs).b.consumed - b.consumed = n := by
    rw [h.delta, List.length_take]; omega
  rw [hd]
  exact ⟨h, fun c hr => (hc c hr).symm⟩

theorem writeFrom_wrc (b : IoBufs) (w : World) (src : Script) (count : Nat) (at_ : Option Nat)
    (hin : InMem w.mem (addrs b.segs)) (hov : b.consumed + total b.segs < USIZE) {o : Out Nat Script}
    (ho : VirtioW.writeFrom b w src count at_ = o) :
    WrC (patBytes src.seed (at_.getD src.pos) (o.b.consumed - b.consumed)) b w o.b o.w
    ∧ o.aux.seed = src.seed
    ∧ o.aux.pos = srcPos at_ src.pos (o.b.consumed - b.consumed)
    ∧ o.b.consumed - b.consumed = moved o.res
    ∧ o.b.consumed - b.consumed ≤ count := by
  unfold VirtioW.writeFrom at ho
  split at ho
  · subst ho
    simp only [Nat.sub_self, patBytes_zero]
    exact ⟨WrC.refl _ _, trivial, by cases at_ <;> rfl, rfl, Nat.zero_le _⟩
  · have hsp := readVectored_spec src w (allocate b.segs count) at_
    obtain ⟨r, ⟨hs, hp⟩, hk, e1, e2, h⟩ := consume_wrc
      (fun r => r.2.2.seed = src.seed ∧ r.2.2.pos = srcPos at_ src.pos (moved r.1))
      (fun n => patBytes src.seed (at_.getD src.pos) n) b w count (fun _ _ => length_patBytes ..) src _ hov ho
      hsp.1 (hsp.2.2.2.2 (by rw [addrs_allocate]; exact hin.take _)) ⟨rfl, by cases at_ <;> rfl⟩ ⟨hsp.2.1, hsp.2.2.1⟩
    rw [h.delta, length_patBytes, e1, e2]
    exact ⟨h, hs, hp, rfl, hk⟩

theorem writeAllFrom_wrc (b : IoBufs) (w : World) (src : Script) (count : Nat)
    (hin : InMem w.mem (addrs b.segs)) (hov : b.consumed + total b.segs < USIZE) :
    WrC (patBytes src.seed src.pos ((VirtioW.writeAllFrom b w src count).b.consumed - b.consumed)) b w
      (VirtioW.writeAllFrom b w src count).b (VirtioW.writeAllFrom b w src count).w
    ∧ ((VirtioW.writeAllFrom b w src count).res = .ok () →
        (VirtioW.writeAllFrom b w src count).b.consumed - b.consumed = count) := by
  have key : ∃ n, WrC (patBytes src.seed src.pos n) b w (VirtioW.writeAllFrom b w src count).b
      (VirtioW.writeAllFrom b w src count).w ∧ ((VirtioW.writeAllFrom b w src count).res = .ok () → n = count) := by
    unfold VirtioW.writeAllFrom
    split
    · exact ⟨0, WrC.refl b w, nofun⟩
    · -- invariant of the loop: `n` bytes of the stream stored so far, `c` still to go
      refine (fun hrule => ?_) (writeAllLoop_rule
        (fun b' w' s c => ∃ n, WrC (patBytes src.seed src.pos n) b w b' w' ∧ s.seed = src.seed
          ∧ s.pos = src.pos + n ∧ n + c = count)
        ?_ (count + src.answers.length + 1) b w src count ⟨0, WrC.refl b w, rfl, rfl, Nat.zero_add _⟩)
      · obtain ⟨c', ⟨n, h, _, _, hc⟩, hz⟩ := hrule
        exact ⟨n, h, fun hr => by have := hz hr; omega⟩
      · rintro b' w' s c ⟨n, h, hs, hpos, hc⟩
        obtain ⟨h1, hs1, hpos1, dm, dle⟩ := writeFrom_wrc b' w' s c none (h.inMem hin) (h.hov hov) rfl
        simp only [Option.getD_none, srcPos, hs, hpos] at h1 hpos1
        have hn := h.trans h1
        rw [← patBytes_add] at hn
        exact ⟨_, hn, hs1.trans hs, by rw [hpos1, Nat.add_assoc], by rw [← dm]; omega⟩
  obtain ⟨n, h, hc⟩ := key
  have := h.delta
  rw [this, length_patBytes]; exact ⟨h, hc⟩

theorem writerRun_wrc (b : IoBufs) (w : World) (op : Op) (hin : InMem w.mem (addrs b.segs))
    (hov : b.consumed + total b.segs < USIZE) : WrC (writerIn b w op) b w (writerRun b w op).1 (writerRun b w op).2 := by
  cases op with
  | wr _ data => exact vwrite_wrc b w data hin hov
  | wv _ datas => exact (writeVectored_wrc b w datas hin hov).1
  | wf _ count at_ sc => exact (writeFrom_wrc b w sc count at_ hin hov rfl).1
  | wa _ count sc => exact (writeAllFrom_wrc b w sc count hin hov).1
  | _ => exact WrC.refl b w

end Fbr.Xport
