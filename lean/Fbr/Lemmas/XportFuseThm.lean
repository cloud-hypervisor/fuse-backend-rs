/-
  The fusedev table from the start state of a /dev/fuse reply (`FStart`, `fstart_finv`); ONE
  buffered FuseDevWriter through ANY operation list: its buffer grows by exactly what was appended
  through it, in operation order (`fuse_slice_run`), so two of them committed together send one
  record (`fuse_commit_after_run`; with the split that made them in front, on any table:
  `fuse_split_commit_run`); and "no operation ever reallocates": whatever a FuseDevWriter operation
  fails with is an ordinary error (`Benign`).
-/
import Fbr.Lemmas.XportFuseInv
import Fbr.Lemmas.XportCRun

namespace Fbr.Xport

theorem nodup_fahead {R base0 cap0 : Nat} {m0 : Mem} {s : St} (h : FInv R base0 cap0 m0 s) : (fahead s.fws).Nodup :=
  h.part.nodup_iff.mpr (nodup_segAddrs _)

theorem step_fuse_handle {R base0 cap0 : Nat} {m0 : Mem} {s : St} (h : FInv R base0 cap0 m0 s) (op : Op) (i : Nat) (f0 : FuseW)
    (hg : s.fws[i]? = some f0) (hb : f0.buffered = true) (hns : ∀ k, op ≠ .fs i k) :
    ∃ f1, (step s op).1.fws[i]? = some f1 ∧ f1 = { f0 with len := f0.len + (fplaced s i op).length }
      ∧ f1.slice (step s op).1.w.mem = f0.slice s.w.mem ++ fplaced s i op := by
  obtain ⟨hok0, hin0⟩ := h.ok_inMem hg
  have hlen := h.step_len op
  -- nothing appended through `i`, and its buffer reads as before
  have same : (∀ a ∈ segAddrs ⟨f0.region, f0.base, f0.len⟩, (step s op).1.w.mem.byteAt a = s.w.mem.byteAt a) →
      f0.slice (step s op).1.w.mem = f0.slice s.w.mem ++ [] := fun e => by
    unfold FuseW.inMem FuseW.ok at *
    rw [List.append_nil]; exact slice_congr (by omega) hlen e
  rcases step_fws s op h.nowr with ⟨e1, e2, ek, hz⟩ | ⟨j, f, hfh, hgj, e⟩
      | ⟨j, k, f, a, o, eop, hgj, hsp, e⟩ | ⟨j, o, f, eop, hgj, e⟩
  · rw [hz i]; exact ⟨f0, by rw [e1]; exact hg, rfl, same fun _ _ => by rw [ek.1]⟩
  · rw [fplaced_eq hfh hgj i]
    have hs := h.run_fws hgj op
    by_cases hi : i = j
    · subst hi
      rw [hg] at hgj; cases hgj
      rw [if_pos rfl]
      have hc := fuseRun_fwc f0 s.w op hb hok0 hin0
      rw [e]
      exact ⟨_, List.getElem?_set_self (lt_length_of_getElem? hg), hc.s.eq, hc.slice hin0⟩
    · rw [if_neg hi]
      refine ⟨f0, by rw [e]; simp only; rw [List.getElem?_set_ne (Ne.symm hi)]; exact hg, rfl, same ?_⟩
      -- the windows of distinct writers are disjoint
      intro a ha
      rw [e]
      apply hs.frame
      intro hm
      have hd := ahead_disjoint_handles (nodup_fahead h) (l := s.fws.map FuseW.asBufs) (i := i) (h := j)
        (b0 := f0.asBufs) (b := f.asBufs) (by rw [List.getElem?_map, hg]; rfl) (by rw [List.getElem?_map, hgj]; rfl)
        (Ne.symm hi) a
      rw [addrs_asBufs, addrs_asBufs] at hd
      have hfit := hs.fits
      have hle : f0.len ≤ f0.cap := hok0
      exact hd (segAddrs_subset (Nat.le_refl _) (by omega) a ha) (segAddrs_subset (by omega) (by omega) a hm)
  · rw [show fplaced s i op = [] by rw [eop]; exact fplaced_fs s j k i]
    exact ⟨f0, by rw [e]; exact getElem?_set_append_ne hg (fun e' => hns k (by rw [eop, e'])), rfl, same fun _ _ => by rw [e]⟩
  · rw [show fplaced s i op = [] by rw [eop]; exact fplaced_fc s j o i]
    exact ⟨f0, by rw [e]; exact hg, rfl, same fun _ _ => by rw [e, (fcommit_world f s.w _).1]⟩

theorem fuse_slice_run {R base0 cap0 : Nat} {m0 : Mem} (ops : List Op) {s : St} (h : FInv R base0 cap0 m0 s) (i : Nat) (f0 : FuseW)
    (hg : s.fws[i]? = some f0) (hb : f0.buffered = true) (hns : ∀ k, Op.fs i k ∉ ops) :
    ∃ ff, (exec s ops).fws[i]? = some ff ∧ ff.buffered = true
      ∧ ff = { f0 with len := f0.len + (fplacedAll s i ops).length }
      ∧ ff.slice (exec s ops).w.mem = f0.slice s.w.mem ++ fplacedAll s i ops := by
  induction ops generalizing s f0 with
  | nil => exact ⟨f0, hg, hb, (f0.with_len_self).symm, (List.append_nil _).symm⟩
  | cons op rest ih =>
    obtain ⟨f1, hg1, e1, s1⟩ := step_fuse_handle h op i f0 hg hb
      (by intro k e; exact hns k (by rw [e]; exact List.mem_cons_self))
    obtain ⟨ff, hgf, hbf, e2, s2⟩ := ih (step_finv h op) f1 hg1 (by rw [e1]; exact hb)
      (by intro k hk; exact hns k (List.mem_cons_of_mem _ hk))
    subst e1
    exact ⟨ff, hgf, hbf, by rw [e2, fplacedAll, List.length_append]; simp only [Nat.add_assoc],
      by rw [fplacedAll, ← List.append_assoc, ← s1]; exact s2⟩

/-- header and data writers committed together, on any table: after ANY operation list without
    commits on a table whose writers are all buffered, `i.commit(Some(j))` sends exactly one record —
    the buffer of `i` followed by the buffer of `j`, each grown by what was appended through it —
    and nothing reached the descriptor before -/
theorem fuse_commit_after_run {R base0 cap0 : Nat} {m0 : Mem} (ops : List Op) {s : St} (h : FInv R base0 cap0 m0 s) (hab : AllBuf s)
    (hnc : ∀ i o, Op.fc i o ∉ ops) (i j : Nat) (f0 g0 : FuseW) (hi : s.fws[i]? = some f0) (hj : s.fws[j]? = some g0)
    (hns : ∀ k, Op.fs i k ∉ ops ∧ Op.fs j k ∉ ops) :
    ∃ r : Bytes, r = (f0.slice s.w.mem ++ fplacedAll s i ops) ++ (g0.slice s.w.mem ++ fplacedAll s j ops)
      ∧ (exec s ops).w.fd = s.w.fd
      ∧ (step (exec s ops) (.fc i (some j))).2.res = .ok r.length
      ∧ (step (exec s ops) (.fc i (some j))).1.w.fd = (if r.isEmpty then s.w.fd else s.w.fd ++ [r]) := by
  obtain ⟨_, hfd⟩ := exec_allbuf ops h hab hnc
  obtain ⟨ff, hgf, hbf, _, sf⟩ := fuse_slice_run ops h i f0 hi (hab f0 (List.mem_of_getElem? hi)) (fun k => (hns k).1)
  obtain ⟨gf, hgg, _, _, sg⟩ := fuse_slice_run ops h j g0 hj (hab g0 (List.mem_of_getElem? hj)) (fun k => (hns k).2)
  obtain ⟨r, hr, c1, c2, _⟩ := fcommit_spec ff (exec s ops).w (some gf) hbf
  simp only at hr
  rw [sf, sg] at hr
  rw [hfd] at c2
  refine ⟨r, hr, hfd, ?_, ?_⟩
  · simp only [step, hgf, Option.bind_some, hgg]
    exact c1
  · simp only [step, hgf, Option.bind_some, hgg]
    exact c2

/-- the same with the split in front, on ANY table: split writer `i` (fresh or partly written, buffered or not) at
    `k`, every other writer being buffered, run ANY operation list that neither commits nor splits the two halves
    again, then `i.commit(Some(new half))`: one record, what the first half held and received followed by what the
    second held and received -/
theorem fuse_split_commit_run {R base0 cap0 : Nat} {m0 : Mem} (ops : List Op) {s : St} (h : FInv R base0 cap0 m0 s)
    {i k : Nat} {f a o : FuseW} (hi : s.fws[i]? = some f) (hs : f.splitAt k = .ok (a, o))
    (hob : ∀ g ∈ s.fws.eraseIdx i, g.buffered = true)
    (hns : ∀ k', Op.fs i k' ∉ ops ∧ Op.fs s.fws.length k' ∉ ops) (hnc : ∀ i o, Op.fc i o ∉ ops) :
    ∃ r : Bytes, r = (a.slice s.w.mem ++ fplacedAll (step s (.fs i k)).1 i ops)
          ++ (o.slice s.w.mem ++ fplacedAll (step s (.fs i k)).1 s.fws.length ops)
      ∧ (exec (step s (.fs i k)).1 ops).w.fd = s.w.fd
      ∧ (step (exec (step s (.fs i k)).1 ops) (.fc i (some s.fws.length))).2.res = .ok r.length
      ∧ (step (exec (step s (.fs i k)).1 ops) (.fc i (some s.fws.length))).1.w.fd
          = (if r.isEmpty then s.w.fd else s.w.fd ++ [r]) := by
  have h1 := step_finv h (.fs i k)
  have e1 : (step s (.fs i k)).1 = { s with fws := s.fws.set i a ++ [o] } := by simp only [step, hi, hs, setAt]
  generalize (step s (.fs i k)).1 = s1 at *
  subst e1
  obtain ⟨_, _, _, _, _, _, hab, hobuf, _, _⟩ := fsplit_ok (h.ok_inMem hi).1 hs
  exact fuse_commit_after_run ops h1 (forall_set_append_others hob hab hobuf) hnc i s.fws.length a o
    (getElem?_set_append_self a o (lt_length_of_getElem? hi)) (getElem?_set_append_new _ i a o) hns

/-- a /dev/fuse reply before the server touched it: one fresh `FuseDevWriter::new` over the
    buffer `[base, base+cap)` of region `R` (inside memory), no virtio-fs writer, nothing logged;
    any readers -/
def FStart (st : St) (R base cap : Nat) : Prop :=
  st.writers = [] ∧ st.fws = [FuseW.new R base cap] ∧ base + cap ≤ (st.w.mem.get R).length ∧ st.w.log = []

theorem FStart.fws {st : St} {R base cap : Nat} (h : FStart st R base cap) : st.fws = [FuseW.new R base cap] := h.2.1

theorem fstart_finv {st : St} {R base cap : Nat} (h : FStart st R base cap) : FInv R base cap st.w.mem st := by
  obtain ⟨h1, h2, h3, h4⟩ := h
  refine ⟨h1, h3, ?_, ?_, (by rw [h4]; intro a ha; cases ha), fun _ => rfl, fun _ _ => rfl⟩
  · intro f hf
    rw [h2] at hf
    simp only [List.mem_singleton] at hf
    subst hf
    exact ⟨Nat.zero_le _, rfl, Nat.le_refl _, Nat.le_refl _⟩
  · rw [h2, fahead_cons]
    exact (List.append_nil _) ▸ List.Perm.refl _

theorem length_fahead (l : List FuseW) : (fahead l).length = (l.map FuseW.cap).sum := by
  induction l with
  | nil => rfl
  | cons f rest ih =>
    rw [fahead_cons, List.length_append, length_segAddrs, ih, List.map_cons, List.sum_cons]

theorem fwrite_benign (f : FuseW) (w : World) (data : Bytes) (hok : f.ok) {e : IoErr}
    (h : (FuseW.write f w data).res = .error e) : Benign e := by
  cases hc : f.checkAvail data.length with
  | error e' => rw [fwrite_of_err w hc] at h; cases h; exact fcheckAvail_benign hok hc
  | ok u =>
    cases hb : f.buffered with
    | true =>
      obtain ⟨w1, e1⟩ := extend_ok w (fcheckAvail_ok_any hok hc)
      rw [fwrite_buffered w hb hc, e1] at h; cases h
    | false => rw [fwrite_unbuffered w hb hc] at h; cases h

theorem fwriteVectored_benign (f : FuseW) (w : World) (bufs : List Bytes) (hok : f.ok) (hin : f.inMem w.mem) {e : IoErr}
    (h : (FuseW.writeVectored f w bufs).res = .error e) : Benign e := by
  unfold FuseW.writeVectored at h
  cases hc : f.checkAvail (bufs.foldl (fun acc x => acc + x.length) 0) with
  | error e' => rw [hc] at h; cases h; exact fcheckAvail_benign hok hc
  | ok u =>
    rw [hc] at h
    have hfit := fcheckAvail_ok_any hok hc
    simp only at h
    split at h
    · obtain ⟨f1, w1, e1, _⟩ := extendAll_fwc f w bufs 0 hok hin (by rw [foldl_len_eq_flatten] at hfit; exact hfit)
      rw [e1] at h; cases h
    · split at h <;> cases h

theorem fwriteFrom_benign (f : FuseW) (w : World) (src : Script) (count : Nat) (at_ : Option Nat) (hok : f.ok) {e : IoErr}
    (h : (FuseW.writeFrom f w src count at_).res = .error e) : Benign e := by
  unfold FuseW.writeFrom at h
  cases hc : f.checkAvail count with
  | error e' => rw [hc] at h; cases h; exact fcheckAvail_benign hok hc
  | ok u =>
    rw [hc] at h
    simp only at h
    rcases hr : src.readVectored w [⟨f.region, f.base + f.len, count⟩] at_ with ⟨res, w1, s1⟩
    rw [hr] at h
    cases res with
    | error e' =>
      simp only at h; cases h
      rcases (readVectored_spec src w _ at_).2.2.2.1 _ (by rw [hr]) with rfl | rfl <;> exact ⟨by decide, by decide⟩
    | ok cnt =>
      simp only at h
      split at h <;> cases h

theorem fwriteAllLoop_benign (fuel : Nat) (f : FuseW) (w : World) (src : Script) (count : Nat) (hok : f.ok)
    (hin : f.inMem w.mem) {e : IoErr} : (FuseW.writeAllLoop fuel f w src count).res = .error e → Benign e := by
  fun_induction FuseW.writeAllLoop fuel f w src count
  -- a short count, or `Interrupted`: the loop goes on with a writer that is still in order
  case case4 ih | case5 ih =>
    exact have hs := (fwriteFrom_fws _ _ _ _ none hok hin rfl).1; ih hs.ok (hs.inMem hin)
  -- any other error of the call is the loop's
  case case6 hr => intro h; cases h; exact fwriteFrom_benign _ _ _ _ none hok hr
  -- out of fuel (`fuel`), nothing written (`writeZero`); with nothing left to write there is no error
  all_goals intro h; cases h <;> exact ⟨by decide, by decide⟩

theorem fwriteAllFrom_benign (f : FuseW) (w : World) (src : Script) (count : Nat) (hok : f.ok)
    (hin : f.inMem w.mem) {e : IoErr} (h : (FuseW.writeAllFrom f w src count).res = .error e) : Benign e := by
  unfold FuseW.writeAllFrom at h
  cases hc : f.checkAvail count with
  | error e' => rw [hc] at h; cases h; exact fcheckAvail_benign hok hc
  | ok u => rw [hc] at h; exact fwriteAllLoop_benign _ f w src count hok hin h

/-- a 64-byte /dev/fuse buffer at offset 64 of region 2, one fresh writer, one reader over a
    request buffer in region 1 -/
def exampleFuse : St :=
  { w := { p := 4096, mem := ⟨[(1, List.replicate 40 7), (2, List.replicate 192 0)]⟩, dirty := [], log := [], fd := [] },
    readers := [{ segs := [⟨1, 0, 40⟩], consumed := 0 }],
    writers := [],
    fws := [FuseW.new 2 64 64] }

end Fbr.Xport
