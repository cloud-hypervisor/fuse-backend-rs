/-
  rmdir.  `empty_node_directory` as `do_rm` reaches it (every child of the directory is a whiteout
  node) deletes every upper whiteout below the directory and drops those children from the forest;
  `EmptyInv` is what its loop maintains.  Between that and the removal of the directory itself the
  forest is NOT a valid cache of the disk (a lower entry may show through where an upper whiteout was
  just deleted); `RmReady` describes that window exactly, relative to the consistent state the
  clearing started from, and the end of `do_rm` re-establishes the invariant from it.  Then `do_rm`
  for both kinds of entry (`doRm_spec`) and UNLINK and RMDIR as whole operations (`rmOp_spec`).
-/
import Fbr.Lemmas.OvlRm

namespace Fbr.Ovl

theorem setLayer0_setLayer0 (d : Disk) (A B : Layer) : (d.setLayer 0 A).setLayer 0 B = d.setLayer 0 B := rfl

theorem layer0_setLayer0 (d : Disk) (A : Layer) : (d.setLayer 0 A).layer 0 = some A := rfl

/-- what the loop maintains, relative to the consistent state `s0` it started from (`L` = upper
    layer then, `m` = the directory node at `p`); `Lt` = upper layer of `t` -/
structure EmptyInv (s0 : St) (L : Layer) (p : Path) (m : MNode) (t : St) (Lt : Layer) : Prop where
  disk : t.disk = s0.disk.setLayer 0 Lt
  out : ∀ q, p.isSuffixOf q = false → Lt q = L q
  self : Lt p = L p
  tree : TreeOK Lt
  kid : ∀ c, (t.mem (c :: p) = s0.mem (c :: p) ∧ Lt (c :: p) = L (c :: p)) ∨
    (t.mem (c :: p) = none ∧ (Lt (c :: p)).isAbsent = true)
  memOut : ∀ q, p.isSuffixOf q = false → t.mem q = s0.mem q
  node : ∃ mt, t.mem p = some mt ∧ mt.reals = m.reals

theorem EmptyInv.start {s0 : St} {L : Layer} (hc : Consistent s0) (hup : s0.disk.upper = some L)
    {p : Path} {m : MNode} (hm : s0.mem p = some m) : EmptyInv s0 L p m s0 L :=
  ⟨setLayer0_self hup, fun _ _ => rfl, rfl, hc.trees 0 L hup, fun _ => Or.inl ⟨rfl, rfl⟩, fun _ _ => rfl,
    m, hm, rfl⟩

/-- a loop over names that cannot fail: `I rest` holds while `rest` is still to be processed -/
theorem forNames_run {f : Name → M Unit} {I : List Name → St → Prop}
    (h : ∀ c rest t, I (c :: rest) t → ∃ t', f c t = .ok () t' ∧ I rest t') :
    ∀ (l : List Name) (t : St), I l t → ∃ t', forNames f l t = .ok () t' ∧ I [] t'
  | [], t, hi => ⟨t, rfl, hi⟩
  | c :: rest, t, hi => by
    obtain ⟨t1, h1, hi1⟩ := h c rest t hi
    obtain ⟨t2, h2, hi2⟩ := forNames_run h rest t1 hi1
    exact ⟨t2, by unfold forNames; rw [bind_ok h1]; exact h2, hi2⟩

/-- one round of the loop: besides `EmptyInv`, no name that has had its turn (is not in `rest`) has a node in the
    upper layer any more -/
theorem emptyOne_step {s0 : St} (hc : Consistent s0) {L : Layer} (hup : s0.disk.upper = some L)
    {p : Path} {m : MNode} {r : Real} (hrl : r.layer = 0) (hrp : r.path = p)
    (hwh : ∀ c cm, s0.mem (c :: p) = some cm → cm.whiteout = true)
    (c : Name) (rest : List Name) (t : St)
    (h : ∃ Lt, EmptyInv s0 L p m t Lt ∧ ∀ c', c' ∉ c :: rest → ∀ cm, t.mem (c' :: p) = some cm → cm.inUpper = false) :
    ∃ t', emptyOne p r c t = .ok () t' ∧
      ∃ Lt', EmptyInv s0 L p m t' Lt' ∧ ∀ c', c' ∉ rest → ∀ cm, t'.mem (c' :: p) = some cm → cm.inUpper = false := by
  obtain ⟨Lt, hi, hcl⟩ := h
  -- a name that is not in `rest` is `c` or has had its turn before
  have hold : ∀ c', c' ∉ rest → c' ≠ c → ∀ cm, t.mem (c' :: p) = some cm → cm.inUpper = false :=
    fun c' h1 h2 => hcl c' (by simp [h1, h2])
  unfold emptyOne
  rw [bind_ok (getSt_eval t)]
  cases hcm : t.mem (c :: p) with
  | none =>
    refine ⟨t, rfl, Lt, hi, fun c' hc' cm h => ?_⟩
    by_cases hcc : c' = c
    · rw [hcc, hcm] at h; cases h
    · exact hold c' hc' hcc cm h
  | some cm =>
    simp only []
    by_cases hu : cm.inUpper = true
    · -- an upper whiteout: delete it, drop the child
      have hk : t.mem (c :: p) = s0.mem (c :: p) ∧ Lt (c :: p) = L (c :: p) := by
        rcases hi.kid c with h | ⟨h, _⟩
        · exact h
        · rw [h] at hcm; cases hcm
      obtain ⟨hk1, hk2⟩ := hk
      have hcm0 : s0.mem (c :: p) = some cm := by rw [← hk1]; exact hcm
      have hw := hwh c cm hcm0
      have hLq : Lt (c :: p) = .whiteout := by rw [hk2]; exact upper_whiteout_entry hc hup hcm0 hu hw
      simp only [hu, hw, if_true]
      have hdel : hDeleteWhiteout Lt r.path c = .ok (Lt.set (c :: p) .absent) := by
        simp [hDeleteWhiteout, hrp, hLq, hUnlink]
      have hL0 : t.disk.layer r.layer = some Lt := by rw [hrl, hi.disk]; rfl
      obtain ⟨t1, h1, hd1, hm1⟩ := layerCall_ok' (f := fun L => hDeleteWhiteout L r.path c) Method.deleteWhiteout hL0 hdel
      rw [bind_ok h1]
      obtain ⟨mt, hmt, hmtr⟩ := hi.node
      obtain ⟨t2, h2, hd2, hm2⟩ := removeChild_ok' (s := t1) c (by rw [hm1]; exact hmt)
      -- of the children only `c` goes
      have hkids : ∀ c', t2.mem (c' :: p) = if c' = c then none else t.mem (c' :: p) := by
        intro c'
        rw [hm2, hm1, removedMem_apply, if_neg (List.cons_ne_self c' p)]
        by_cases hcc : c' = c
        · rw [hcc, below_self, if_pos rfl, if_pos rfl]
        · rw [sibling_not_below p hcc, if_neg hcc]; rfl
      refine ⟨t2, h2, Lt.set (c :: p) .absent, ⟨?_, ?_, ?_, ?_, ?_, ?_, ?_⟩, fun c' hc' cm' h => ?_⟩
      · rw [hd2, hd1, hrl, hi.disk]; rfl
      · intro q hq
        rw [Lt.set_ne _ fun h => by rw [h, below_child] at hq; cases hq]
        exact hi.out q hq
      · rw [Lt.set_ne _ (List.cons_ne_self c p).symm]
        exact hi.self
      · exact treeOK_set hi.tree .absent (fun h => by cases h) (leaf_of_nondir hi.tree (by rw [hLq]; rfl))
      · intro c'
        rw [hkids]
        by_cases hcc : c' = c
        · rw [hcc, if_pos rfl, Lt.set_self]; exact Or.inr ⟨rfl, rfl⟩
        · rw [if_neg hcc, Lt.set_ne _ fun h => hcc (List.cons.inj h).1]; exact hi.kid c'
      · intro q hq
        have h2' : (c :: p).isSuffixOf q = false := by
          cases hb : (c :: p).isSuffixOf q with
          | false => rfl
          | true => rw [below_trans (below_child c p) hb] at hq; cases hq
        rw [hm2, hm1, removedMem_apply, if_neg (ne_of_not_below hq), h2']
        exact hi.memOut q hq
      · exact ⟨{ mt with kids := mt.kids.filter (· != c) }, by rw [hm2, hm1, removedMem_apply]; simp, hmtr⟩
      · rw [hkids] at h
        split at h
        · cases h
        · exact hold c' hc' ‹_› cm' h
    · simp only [hu, Bool.false_eq_true, if_false]
      refine ⟨t, rfl, Lt, hi, fun c' hc' cm' h => ?_⟩
      by_cases hcc : c' = c
      · rw [hcc, hcm] at h; cases h
        simpa using hu
      · exact hold c' hc' hcc cm' h

theorem upper_entry_has_node {s : St} (hc : Consistent s) {L : Layer} (hup : s.disk.upper = some L)
    {p : Path} {m : MNode} (hm : s.mem p = some m) (hmu : m.inUpper = true) (hlo : m.loaded = true)
    (hdir : (L p).isDir = true) (c : Name) (hpres : (L (c :: p)).isAbsent = false) :
    c ∈ m.kids ∧ ∃ cm, s.mem (c :: p) = some cm ∧ cm.inUpper = true := by
  have hn0 := nodeAt_zero hup
  obtain ⟨t0, ht0⟩ := inUpper_stack hc hm hmu
  obtain ⟨tl, htl, _⟩ := dirs_upper_first ht0 (by rw [hn0]; exact hdir)
  obtain ⟨t, ht⟩ := stackWith_present (d := s.disk) (n := c) (pp := p) (lowerCands s.disk c p tl)
    (show (s.disk.nodeAt 0 (c :: p)).isAbsent = false by rw [hn0]; exact hpres)
  have hst := (expIdx_below_upper c p htl).trans ht
  have hin := (hc.kidsLoaded p m hm hlo c).2 (by rw [expReals_eq _ hc.roots, hst]; simp [needsNode, realOf])
  obtain ⟨cm, hcm⟩ := hc.kidsMem p m c hm hin
  exact ⟨hin, cm, hcm, (inUpper_iff_stack hc hcm).2 ⟨t, hst⟩⟩

/-- `empty_node_directory` on an upper directory node whose children are all whiteouts: afterwards
    the upper directory is empty -/
theorem emptyNodeDirectory_spec {s0 : St} (hc : Consistent s0) {L : Layer} (hup : s0.disk.upper = some L)
    {p : Path} {m : MNode} (hm : s0.mem p = some m) (hmu : m.inUpper = true) (hlo : m.loaded = true)
    {r : Real} {rest : List Real} (hr : m.reals = r :: rest) (hd : (s0.disk.statReal r).isDir = true)
    (hwh : ∀ c cm, s0.mem (c :: p) = some cm → cm.whiteout = true) :
    ∃ t Lt, emptyNodeDirectory p s0 = .ok () t ∧ EmptyInv s0 L p m t Lt ∧
      ∀ c, (Lt (c :: p)).isAbsent = true := by
  obtain ⟨r0, hur, hrl, hrp, _, _, rest0, hr0⟩ := upper_head hc hm hmu
  rw [hr] at hr0; cases hr0
  have hdirL : (L p).isDir = true := statReal_upper hc hup hm hmu hr ▸ hd
  have hst := nodeStat_eq hc hm
  rw [hr] at hst
  obtain ⟨t, hloop, Lt, hi, hpost⟩ := forNames_run (I := fun rest t => ∃ Lt, EmptyInv s0 L p m t Lt ∧
      ∀ c, c ∉ rest → ∀ cm, t.mem (c :: p) = some cm → cm.inUpper = false)
    (emptyOne_step hc hup hrl hrp hwh) m.kids s0
    ⟨L, EmptyInv.start hc hup hm, fun c hcn cm hcm => absurd (hc.listed hm hcm) hcn⟩
  refine ⟨t, Lt, ?_, hi, fun c => ?_⟩
  · unfold emptyNodeDirectory
    rw [bind_ok (getNode_ok hm), bind_ok hst]
    simp only [hd, Bool.not_true, Bool.false_eq_true, if_false, hur]
    exact hloop
  · rcases hi.kid c with ⟨hk1, hk2⟩ | ⟨_, hk2⟩
    · cases ha : (Lt (c :: p)).isAbsent with
      | true => rfl
      | false =>
        exfalso
        rw [hk2] at ha
        obtain ⟨hin, cm, hcm, hcu⟩ := upper_entry_has_node hc hup hm hmu hlo hdirL c ha
        have := hpost c (by simp) cm (by rw [hk1]; exact hcm)
        rw [hcu] at this; cases this
    · exact hk2

theorem lowerEntryExists_congr {s : St} (hc : Consistent s) {p : Path} {pm : MNode} (hpm : s.mem p = some pm)
    (d' : Disk) (hlow : d'.lowers = s.disk.lowers) (n : Name) :
    lowerEntryExists d' pm n = lowerEntryExists s.disk pm n := by
  unfold lowerEntryExists
  have : (pm.reals.filter (!·.inUpper)).filterMap (lookupChild d' · n) =
      (pm.reals.filter (!·.inUpper)).filterMap (lookupChild s.disk · n) := by
    apply filterMap_congr'
    intro r hr
    obtain ⟨hrm, hru⟩ := List.mem_filter.1 hr
    have hl : r.layer ≠ 0 := by
      intro h0
      simp [(real_inUpper_iff hc hpm hrm).2 h0] at hru
    unfold lookupChild
    rw [nodeAt_of_lowers hlow hl]
  rw [this]

/-- the state in which `do_rm` of a directory continues after `rmDirPrep`: `s0` is the (consistent)
    state after loading the directory; either nothing was touched (the directory has no upper
    real inode) or the upper directory has been emptied -/
def RmReady (d0 : Disk) (pp : Path) (n : Name) (s' : St) : Prop :=
  ∃ (s0 : St) (m : MNode), Consistent s0 ∧ s0.disk = d0 ∧ s0.mem (n :: pp) = some m ∧
    ((m.inUpper = false ∧ s'.disk = s0.disk ∧ s'.mem = s0.mem) ∨
     (m.inUpper = true ∧ ∃ L Lt, s0.disk.upper = some L ∧ (L (n :: pp)).isDir = true ∧ EmptyInv s0 L (n :: pp) m s' Lt ∧
        ∀ c, (Lt (c :: n :: pp)).isAbsent = true))

theorem countKids_eval {s : St} {p : Path} {m : MNode} (hm : s.mem p = some m) :
    countKids p s = .ok (((m.kids.filterMap fun n => s.mem (n :: p)).filter (!·.whiteout)).length,
      ((m.kids.filterMap fun n => s.mem (n :: p)).filter (·.whiteout)).length) s := by
  simp [countKids, hm]

theorem rmDirPrep_spec (pp : Path) (n : Name) (s : St) (hc : Consistent s) :
    Outcome (rmDirPrep (n :: pp) s) (fun _ s' => RmReady s.disk pp n s') (CD s.disk) := by
  unfold rmDirPrep
  have hld := loadDirectory_loaded s.disk (n :: pp) s ⟨hc, rfl⟩
  cases hres : loadDirectory (n :: pp) s with
  | err e s1 => rw [bind_err hres]; exact hld.2 e s1 hres
  | ok u s1 =>
    obtain ⟨hcd1, m, hm, hlo⟩ := hld.1 u s1 hres
    have hc1 : Consistent s1 := hcd1.1
    have hd1 : s1.disk = s.disk := hcd1.2
    rw [bind_ok hres, bind_ok (getNode_ok hm)]
    refine Outcome.nodeStat hc1 hm hcd1 fun r rest hr => ?_
    refine Outcome.guard hcd1 fun hd => ?_
    replace hd : (s1.disk.statReal r).isDir = true := by simpa using hd
    rw [bind_ok (countKids_eval hm)]
    generalize hks : (m.kids.filterMap fun c => s1.mem (c :: n :: pp)) = ks
    refine Outcome.guard hcd1 fun hcnt => ?_
    have hallw : ∀ k ∈ ks, k.whiteout = true := by
      intro k hk
      have hnil : ks.filter (!·.whiteout) = [] := List.eq_nil_of_length_eq_zero (by omega)
      have := List.filter_eq_nil_iff.1 hnil k hk
      simpa using this
    have hwh : ∀ c cm, s1.mem (c :: n :: pp) = some cm → cm.whiteout = true := by
      intro c cm hcm
      apply hallw
      rw [← hks]
      exact List.mem_filterMap.2 ⟨c, hc1.listed hm hcm, hcm⟩
    by_cases hmu : m.inUpper = true
    rotate_left
    · simp only [hmu, Bool.and_false, whenM_false]
      exact ⟨s1, m, hc1, hd1, hm, Or.inl ⟨by simpa using hmu, rfl, rfl⟩⟩
    obtain ⟨L, hup⟩ := exists_upper hc1 hm hmu
    have hdirL : (L (n :: pp)).isDir = true := statReal_upper hc1 hup hm hmu hr ▸ hd
    by_cases hw2 : (ks.filter (·.whiteout)).length > 0
    · simp only [hw2, hmu, decide_true, Bool.and_self, whenM_true]
      obtain ⟨t, Lt, hrun, hi, hempty⟩ := emptyNodeDirectory_spec hc1 hup hm hmu hlo hr hd hwh
      rw [hrun]
      exact ⟨s1, m, hc1, hd1, hm, Or.inr ⟨hmu, L, Lt, hup, hdirL, hi, hempty⟩⟩
    · simp only [hw2, decide_false, Bool.false_and, whenM_false]
      refine ⟨s1, m, hc1, hd1, hm, Or.inr ⟨hmu, L, L, hup, hdirL, EmptyInv.start hc1 hup hm, fun c => ?_⟩⟩
      -- a name in the upper directory would have a child node, a whiteout, which `countKids` would have counted
      cases ha : (L (c :: n :: pp)).isAbsent with
      | true => rfl
      | false =>
        exfalso
        obtain ⟨hin, cm, hcm, _⟩ := upper_entry_has_node hc1 hup hm hmu hlo hdirL c ha
        have hmem : cm ∈ ks := by rw [← hks]; exact List.mem_filterMap.2 ⟨c, hin, hcm⟩
        exact hw2 (List.length_pos_of_mem (List.mem_filter.2 ⟨hmem, hallw cm hmem⟩))

/-- the rest of `do_rm` for a directory, from the state `rmDirPrep` leaves -/
theorem rmdirTail_cons (d0 : Disk) (pp : Path) (n : Name) (s' : St) (h : RmReady d0 pp n s') :
    Outcome (rmTail pp n true s')
      (fun _ s'' => Consistent s'' ∧ Leaves .none (n :: pp) s''.disk ∧ FrameD d0 s''.disk (n :: pp))
      (fun s'' => Consistent s'' ∧ ViewD d0 s''.disk) := by
  obtain ⟨s0, m, hc0, hd0, hm, hcase⟩ := h
  subst hd0
  unfold rmTail
  obtain ⟨pm, hpm, _⟩ := hc0.reach n pp m hm
  rcases hcase with ⟨hmu, hd', hm'⟩ | ⟨hmu, L, Lt, hup, hdirL, hi, hempty⟩
  · -- only lower layers have the directory: like unlink of a lower-only entry
    have hc' : Consistent s' := hc0.congr hd' hm'
    have hm1 : s'.mem (n :: pp) = some m := by rw [hm']; exact hm
    exact (rmTail_cons hc' pp n true hm1 (fun _ => hmu)).imp
      (fun _ _ h => ⟨h.1, h.2.1, by rw [← hd']; exact h.2.2.toD⟩) (fun _ h => ⟨h.1, by rw [← hd']; exact h.2⟩)
  · -- the upper directory has been emptied: remove it, then decide about the whiteout
    have hpu := parent_inUpper hc0 hm hpm hmu
    obtain ⟨pr, hpr, hprl, hprp, _⟩ := upper_head hc0 hpm hpu
    have hnpp : (n :: pp).isSuffixOf pp = false := not_below_parent n pp
    have hpm' : s'.mem pp = some pm := by rw [hi.memOut pp hnpp]; exact hpm
    obtain ⟨mt, hmt, hmtr⟩ := hi.node
    have hmtu : mt.inUpper = true := (MNode.inUpper_congr hmtr).trans hmu
    have hmtulo : mt.upperLayerOnly = m.upperLayerOnly := by simp [MNode.upperLayerOnly, hmtr]
    -- copy_node_up(parent): nothing to do
    have hcp : copyNodeUp pp s' = .ok () s' := by
      unfold copyNodeUp
      rw [bind_ok (getNode_ok hpm')]
      simp only [hpu, if_true]
      rfl
    rw [bind_ok hcp, bind_ok (getNode_ok hmt), bind_ok (getNode_ok hpm'), bind_ok (getSt_eval s')]
    unfold rmFinish
    rw [hpr]
    simp only [hmtu, whenM_true, ↓reduceIte, Bool.true_and]
    -- rmdir of the emptied upper directory
    obtain ⟨dm, dop, dx, hLd⟩ := Node.exists_dir (hi.self ▸ hdirL : (Lt (n :: pp)).isDir = true)
    have hnokids : Lt.hasKids (n :: pp) = false := by
      simp only [Layer.hasKids, List.any_eq_false]
      intro c _
      simp [hempty c]
    have hrmd : hRmdir Lt pr.path n = .ok (Lt.set (n :: pp) .absent) := by
      simp [hRmdir, hprp, hLd, hnokids]
    have hL0 : s'.disk.layer pr.layer = some Lt := by rw [hprl, hi.disk]; rfl
    obtain ⟨s3, h3, hd3, hm3⟩ := layerCall_ok' (f := fun L => hRmdir L pr.path n) Method.rmdir hL0 hrmd
    rw [bind_ok h3, lowerEntryExists_congr hc0 hpm s'.disk (by rw [hi.disk]; rfl) n, hmtulo]
    exact rmEnd_cons hc0 hup pp n hpm hpu hm hpr s3 _ (by rw [hd3, hprl, hi.disk]; rfl)
      (fun q hq => by rw [hm3]; exact hi.memOut q hq) (by rw [Lt.set_self]; rfl)
      (fun q hq => by rw [Lt.set_ne _ (ne_of_not_below hq)]; exact hi.out q hq)
      (treeOK_set hi.tree .absent (fun h => by cases h) hempty)
      (fun c => by rw [Lt.set_ne _ (List.cons_ne_self c _)]; exact hempty c) _ whiteout_unneeded

/-- `do_rm`: the cache stays valid (also on failure); on success the name is gone and the union outside
    its subtree is what it was, up to xattrs of parent directories that had to be copied up; a failure
    changes the union nowhere.  That the parent is a loaded directory node is read off the node
    `lookup_node` found below it. -/
theorem doRm_spec (d : Disk) (pp : Path) (n : Name) (dir : Bool) :
    Triple (CD d) (doRm pp n dir) (fun _ s => Consistent s ∧ Leaves .none (n :: pp) s.disk ∧ FrameD d s.disk (n :: pp))
      (fun s => Consistent s ∧ ViewD d s.disk) := by
  have hE : ∀ s, CD d s → Consistent s ∧ ViewD d s.disk :=
    fun s h => ⟨h.1, by rw [h.2]; exact ViewD.refl d⟩
  unfold doRm
  refine Triple.bind (Triple.hasUpper'.post fun _ _ h => h.2) fun up => ?_
  refine Triple.guard' hE ?_
  refine Triple.bind ((lookupSelf_ro (loadDirectory_cd d) pp).onErr hE) fun _ => ?_
  refine Triple.bind ((lookupNode_ro (loadDirectory_cd d) pp n).onErr hE) fun node => ?_
  refine Triple.guard' (fun s h => hE s h.2) ?_
  apply Triple.ofOutcome
  intro s ⟨hnode, hc, hd⟩
  subst hd
  cases dir with
  | true =>
    simp only [whenM_true]
    exact ((rmDirPrep_spec pp n s hc).imp (fun _ _ h => h) hE).bind fun _ s1 hprep =>
      rmdirTail_cons s.disk pp n s1 hprep
  | false =>
    simp only [whenM_false]
    rw [bind_ok (pure_eval () s)]
    exact rmTail_cons hc pp n false hnode (fun h => by cases h)

/-- UNLINK and RMDIR as whole operations (they differ in the guard on the entry's kind and in the flag
    they pass to `do_rm`): on success the union shows nothing at the path or below it -/
theorem rmOp_spec (d : Disk) (p : List Name) (dir : Bool) (guard : Node → Bool) (e : Nat) :
    Triple (CD d) (rmOp p dir guard e)
      (fun _ s => Consistent s ∧ Leaves .none p.reverse s.disk ∧ FrameD d s.disk p.reverse)
      (fun s => Consistent s ∧ ViewD d s.disk) := by
  have hE : ∀ s, CD d s → Consistent s ∧ ViewD d s.disk :=
    fun s h => ⟨h.1, by rw [h.2]; exact ViewD.refl d⟩
  unfold rmOp
  refine Triple.bind ((resolveParent_cd d p).conseq (fun _ h => h) (fun _ _ h => ⟨h.1.1, h.2⟩) hE) fun r => Triple.pure_pre fun hpath => ?_
  obtain ⟨pp, n⟩ := r
  simp only at hpath
  refine Triple.bind ((doLookup_ro (loadDirectory_cd d) pp n).onErr hE) fun st => ?_
  refine Triple.guard' hE ?_
  rw [← hpath]
  exact (doRm_spec d pp n dir).then_pure

/-- the six operations that add or remove one name: the path, and what the union shows there after a success -/
def Op.nsChange : Op → Option (List Name × VNode)
  | .create p mode => some (p, .file mode [] 0)
  | .mkdir p mode => some (p, .dir mode 0)
  | .mknod p mode => some (p, .other mode)
  | .symlink p t => some (p, .symlink t)
  | .unlink p => some (p, .none)
  | .rmdir p => some (p, .none)
  | _ => none

/-- each of the six leaves at its path what `Op.nsChange` says and nothing below it, and, success or failure, the union
    outside the subtree there as it was up to xattrs (of parent directories that had to be copied up) -/
theorem runOp_ns_spec (d : Disk) {op : Op} {p : List Name} {v : VNode} (hop : op.nsChange = some (p, v)) :
    Triple (CD d) (runOp op) (fun _ s => Consistent s ∧ Leaves v p.reverse s.disk ∧ FrameD d s.disk p.reverse)
      (fun s => Consistent s ∧ FrameD d s.disk p.reverse) := by
  unfold Op.nsChange at hop
  split at hop <;> cases hop
  · rw [runOp_create]
    exact createOp_spec d p false .create (fun id => .file id _ [] 0) (fun _ => newEntry_nondir rfl rfl rfl) _
      (fun _ => rfl) true
  · rw [runOp_mkdir]
    exact createOp_spec d p true .mkdir (fun _ => .dir _ 0 0) (fun _ => newEntry_dir _) _ (fun _ => rfl) false
  · rw [runOp_mknod]
    exact createOp_spec d p false .mknod (fun id => .other id _) (fun _ => newEntry_nondir rfl rfl rfl) _
      (fun _ => rfl) true
  · rw [runOp_symlink]
    exact createOp_spec d p false .symlink (fun _ => .symlink _) (fun _ => newEntry_nondir rfl rfl rfl) _
      (fun _ => rfl) false
  · rw [runOp_unlink]; exact (rmOp_spec d p false _ _).onErr fun _ h => ⟨h.1, h.2.frame _⟩
  · rw [runOp_rmdir]; exact (rmOp_spec d p true _ _).onErr fun _ h => ⟨h.1, h.2.frame _⟩

/-- a successful one of the six, from any state with a valid cache -/
theorem runOp_ns_view {s : St} (hc : Consistent s) {op : Op} {p : List Name} {v : VNode} (hop : op.nsChange = some (p, v))
    {r : Reply} {s' : St} (h : runOp op s = .ok r s') : Consistent s' ∧ Leaves v p.reverse s'.disk :=
  have h1 := (runOp_ns_spec s.disk hop s ⟨hc, rfl⟩).1 r s' h
  ⟨h1.1, h1.2.1⟩

end Fbr.Ovl
