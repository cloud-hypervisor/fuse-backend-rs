/-
  Fbr.Lemmas.SrvAsyncEq — the asynchronous path observes like the synchronous one.  `forget` turns
  each asynchronous building block into its synchronous twin (`forget_*`); with these the
  dispatcher is opened once, `forget_handleBodyA`, and everything after the remap call once,
  `forget_afterRemapA`: the asynchronous path is the synchronous one, except that a WRITE asking for
  more than 1 MiB is refused and OPEN and CREATE cannot pass on a passthrough id.  The shapes of
  the asynchronous results (`handleA_built`) and C20 are read off these two.
-/
import Fbr.SrvAsync
import Fbr.Lemmas.SrvBuilt

namespace Fbr.SrvAsync
open Fbr.Srv Fbr.Wire Fbr.Conv

theorem forget_ofSync (r : Res) : forget (ofSync r) = r := by
  cases r; rfl

theorem aEmit_out (cfg : Cfg) (m : Bytes) (p : Bool) :
    ({ sys := (aEmit cfg m p).sys, area := (aEmit cfg m p).area } : Out) = emit cfg m := by
  unfold aEmit emit
  cases cfg.fusedev <;> rfl

theorem forget_aErrRes {cfg : Cfg} {u : Nat} {calls : List Call} {al : List Nat} {e : IoErr} :
    forget (aErrRes cfg u calls al e) = errRes cfg u calls al e := by
  unfold forget aErrRes errRes aReplyErr replyErr COMMIT_UNBUFFERED
  by_cases h : OUT_HDR > cfg.cap
  · simp [h]
  · simp only [h, if_false, Bool.and_false, Bool.false_eq_true, aEmit_out]

theorem forget_aOkRes {cfg : Cfg} {u : Nat} {calls : List Call} {al : List Nat} {b d : Bytes} :
    forget (aOkRes cfg u calls al b d) = okRes cfg u calls al b d cfg.minor := by
  unfold forget aOkRes okRes aReplyOk replyOk
  by_cases h : OUT_HDR + b.length + d.length > cfg.cap
  · simp [h]
  · simp only [h, if_false, aEmit_out]

theorem forget_aFinish {cfg : Cfg} {u : Nat} {calls : List Call} {al : List Nat} {a : Ans}
    {okb : Ans → Option (Bytes × Bytes)} :
    forget (aFinish cfg u calls al a okb) = finish cfg u calls al a okb := by
  cases a with
  | err e => exact forget_aErrRes
  | _ =>
    simp only [aFinish, finish]
    split
    · next b d heq => simp only [heq]; exact forget_aOkRes
    · next heq => simp only [heq]; exact forget_aErrRes

theorem forget_aBail (cfg : Cfg) (calls : List Call) (al : List Nat) (e : SrvErr) :
    forget (aBail cfg calls al e) = bail cfg calls al e := rfl

theorem forget_aSimple (cfg : Cfg) (fs : Call → Ans) (u : Nat) (calls0 : List Call) (c : Call)
    (al : List Nat) (okb : Ans → Option (Bytes × Bytes)) :
    forget (aSimple cfg fs u calls0 c al okb) = simple cfg fs u calls0 c al okb :=
  forget_aFinish

theorem forget_ite (c : Prop) [Decidable c] (a b : ARes) :
    forget (if c then a else b) = if c then forget a else forget b := by
  split <;> rfl

theorem forget_aWithObj (cfg : Cfg) (calls0 : List Call) (r : Bytes) (n : Nat) (k : Bytes → ARes) :
    forget (aWithObj cfg calls0 r n k) = withObj cfg calls0 r n fun b => forget (k b) :=
  forget_ite _ _ _

theorem forget_aNamed (cfg : Cfg) (u : Nat) (calls0 : List Call) (hdrLen : Nat) (r : Bytes) (sub : Nat)
    (k : Bytes → List Nat → ARes) :
    forget (aNamed cfg u calls0 hdrLen r sub k) =
      named cfg u calls0 hdrLen r sub fun nm al => forget (k nm al) := by
  unfold aNamed named
  cases getBody hdrLen sub (r.drop sub) with
  | error e => rfl
  | ok bn =>
    obtain ⟨body, n⟩ := bn
    dsimp only
    cases cstr body with
    | none =>
      exact congrArg (fun r : Res => { r with ret := .err .invalidCString }) forget_aErrRes
    | some name => rfl

theorem forget_aLookupReply (cfg : Cfg) (u : Nat) (calls : List Call) (al : List Nat) (a : Ans) :
    forget (aLookupReply cfg u calls al a) = lookupReply cfg u calls al a := by
  cases a with
  | entry e =>
    simp only [aLookupReply, lookupReply]
    split
    · exact forget_aErrRes
    · exact forget_aFinish
  | _ => exact forget_aFinish

theorem forget_aSplitErr {cfg : Cfg} {u : Nat} {calls : List Call} {e : IoErr} :
    forget (aSplitErr cfg u calls e) = splitErr cfg u calls e [] := by
  unfold forget aSplitErr splitErr aEmit
  cases cfg.fusedev <;> simp

theorem forget_aSplitOk {cfg : Cfg} {u : Nat} {calls : List Call} {p : Bytes} :
    forget (aSplitOk cfg u calls p) = splitOk cfg u calls p := by
  simp only [forget, aSplitOk, splitOk, aEmit_out]

theorem forget_aReadReply (cfg : Cfg) (u : Nat) (calls : List Call) (a : Ans) :
    forget (aReadReply cfg u calls a) = readReply cfg u calls a := by
  cases a with
  | data d =>
    simp only [aReadReply, readReply]
    split
    · exact forget_aSplitErr
    · exact forget_aSplitOk
  | _ => exact forget_aSplitErr

/-- an answer as the `AsyncFileSystem` trait can carry it: `async_open` and `async_create` return no
    passthrough id -/
def Ans.noPt : Ans → Ans
  | .opened fh o _ => .opened fh o none
  | .created e fh o _ => .created e fh o none
  | a => a

/-- the file system as the asynchronous handlers of opcode `op` see it: OPEN (14) and CREATE (35)
    lose the passthrough id -/
def seenBy (op : Nat) (fs : Call → Ans) : Call → Ans := if op = 14 ∨ op = 35 then Ans.noPt ∘ fs else fs

theorem fsSane_seenBy {fs : Call → Ans} (op : Nat) (h : FsSane fs) : FsSane (seenBy op fs) := by
  unfold seenBy
  split
  · intro c e he
    cases hc : fs c <;> rw [Function.comp_apply, hc] at he <;> cases he
    exact h c e hc
  · exact h

theorem seenBy_eq {fs : Call → Ans} (op : Nat) (ho : ∀ c fh o pt, fs c = .opened fh o pt → pt = none)
    (hc : ∀ c e fh o pt, fs c = .created e fh o pt → pt = none) : seenBy op fs = fs := by
  unfold seenBy
  split
  · funext c
    rw [Function.comp_apply]
    cases h : fs c <;> try rfl
    · rw [ho c _ _ _ h]; rfl
    · rw [hc c _ _ _ _ h]; rfl
  · rfl

theorem finish_noPt {okbA okbS : Ans → Option (Bytes × Bytes)} (h : ∀ a, okbA a = okbS (Ans.noPt a))
    {cfg : Cfg} {u : Nat} {calls : List Call} {al : List Nat} {a : Ans} :
    finish cfg u calls al a okbA = finish cfg u calls al (Ans.noPt a) okbS := by
  cases a <;> simp only [finish, Ans.noPt, h]

/-- The first branch is the size check of `async_write`, which the synchronous handler does not make. -/
theorem forget_handleBodyA (cfg : Cfg) (fs : Call → Ans) (ctx : Ctx) (calls0 : List Call)
    (hdrLen op u nodeid : Nat) (r : Bytes) :
    forget (handleBodyA cfg fs ctx calls0 hdrLen op u nodeid r) =
      if op = 16 ∧ 40 ≤ r.length ∧ u32At (r.take 40) 16 > MAX_BUFFER_SIZE then errRes cfg u calls0 [] (.os ENOMEM)
      else handleBody cfg (seenBy op fs) ctx calls0 hdrLen op u nodeid r := by
  unfold seenBy
  by_cases h16 : op = 16
  · subst h16
    rw [if_neg (by decide : ¬(16 = 14 ∨ 16 = 35)), handleBodyA, handleBody]
    simp only [forget_aWithObj, forget_ite, forget_aErrRes, forget_aSimple]
    unfold withObj
    by_cases h40 : r.length < 40
    · rw [if_pos h40, if_pos h40, if_neg fun h => absurd h.2.1 (Nat.not_le.mpr h40)]
    · rw [if_neg h40, if_neg h40]
      by_cases hs : u32At (r.take 40) 16 > MAX_BUFFER_SIZE
      · rw [if_pos ⟨trivial, Nat.not_lt.mp h40, hs⟩]; exact if_pos hs
      · rw [if_neg fun h => hs h.2.2]; exact if_neg hs
  · rw [if_neg (mt And.left h16)]
    by_cases hp : op = 14 ∨ op = 35
    · rw [if_pos hp]
      rcases hp with rfl | rfl <;> rw [handleBodyA, handleBody] <;>
        simp only [forget_aWithObj, forget_aNamed, forget_aSimple]
      · exact congrArg _ (funext fun _ => finish_noPt fun a => by cases a <;> rfl)
      · exact congrArg _ (funext fun _ => congrArg _ (funext fun _ => funext fun _ =>
          finish_noPt fun a => by cases a <;> rfl))
    · rw [if_neg hp]
      unfold handleBodyA
      split <;> simp only [forget_aWithObj, forget_aNamed, forget_aSimple, forget_aLookupReply, forget_aReadReply,
        forget_aBail, forget_ite, forget_ofSync]
      · rw [handleBody]  -- LOOKUP
      · rw [handleBody]  -- GETATTR
      · rw [handleBody]  -- SETATTR
      · exact absurd (.inl rfl) hp  -- OPEN
      · rw [handleBody]  -- READ
      · exact absurd rfl h16  -- WRITE
      · rw [handleBody]  -- FSYNC
      · rw [handleBody]  -- FSYNCDIR
      · exact absurd (.inr rfl) hp  -- CREATE
      · rw [handleBody]  -- FALLOCATE

theorem handleBody_unrouted {cfg : Cfg} {fs : Call → Ans} {ctx : Ctx} {calls0 : List Call}
    {hdrLen op u nodeid : Nat} {r : Bytes} (h1 : asyncOps.contains op = false) (h2 : syncRouted op = false) :
    handleBody cfg fs ctx calls0 hdrLen op u nodeid r = errRes cfg u calls0 [] (.os ENOSYS) := by
  -- the equation of the last arm asks that the opcode be none of the literals of the other arms; each
  -- of them is in one of the two lists
  rw [handleBody] <;> (rintro rfl; revert h1 h2; decide)

/-- A header length over the buffer limit needs no clause of its own: both paths refuse it the same
    way, and for a WRITE that refusal is the ENOMEM reply of the first branch. -/
theorem forget_afterRemapA (cfg : Cfg) (fs : Call → Ans) (req : Bytes) (a : Ans) :
    forget (afterRemapA cfg fs req a) =
      if opOf req = 16 ∧ 40 ≤ (req.drop IN_HDR).length ∧ u32At ((req.drop IN_HDR).take 40) 16 > MAX_BUFFER_SIZE then
        errRes cfg (uniqueOf req) [remapCall req] [] (.os ENOMEM)
      else afterRemap cfg (seenBy (opOf req) fs) req a := by
  unfold afterRemapA afterRemap
  simp only [forget_ite, forget_aErrRes]
  by_cases hl : hdrLenOf req > MAX_BUFFER_SIZE + BUFFER_HEADER_SIZE
  · rw [if_pos hl, if_pos hl]
    by_cases hf : isForget (opOf req) = true
    · rw [if_pos hf, if_pos hf, if_neg]
      · rfl
      · rintro ⟨h16, _⟩
        rw [h16] at hf
        exact absurd hf (by decide)
    · rw [if_neg hf, if_neg hf, ite_self]
  · rw [if_neg hl, if_neg hl]
    split
    · exact forget_handleBodyA ..
    · next hn =>
      have hb := Bool.or_eq_false_iff.mp (Bool.eq_false_iff.mpr hn)
      rw [handleBody_unrouted hb.1 hb.2, if_neg]
      rintro ⟨h16, _⟩
      rw [h16] at hb
      exact absurd hb.1 (by decide)

theorem handleA_built (cfg : Cfg) (fs : Call → Ans) (req : Bytes) :
    Built cfg (seenBy (opOf req) fs) (uniqueOf req) (max (MAX_BUFFER_SIZE + BUFFER_HEADER_SIZE) req.length)
      (forget (SrvAsync.handle cfg fs req)) := by
  unfold SrvAsync.handle
  rw [forget_ite]
  refine .ite (fun _ => .bail allLe_nil) fun _ => ?_
  split
  · exact .bail allLe_nil
  · rw [forget_afterRemapA]
    exact .ite (fun _ => .errRes (by decide) allLe_nil) fun _ => afterRemap_built cfg _ req _

end Fbr.SrvAsync
