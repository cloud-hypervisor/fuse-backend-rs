/-
  Fbr.Lemmas.PtHostBits — bit-level facts about `clr` / `|||` on flag words (all naturals), and
  `Prog.runFn` over the request monad.
-/
import Fbr.Host
import Fbr.PtHost
import Fbr.Lemmas.Bits

namespace Fbr.PtHost
open Fbr.Host

theorem clr_testBit (x m i : Nat) : (clr x m).testBit i = (x.testBit i && !m.testBit i) := by
  unfold clr
  simp only [Nat.testBit_xor, Nat.testBit_and]
  cases x.testBit i <;> cases m.testBit i <;> rfl

theorem clr_pow_self (x k : Nat) : (clr x (2 ^ k)).testBit k = false := by
  rw [clr_testBit, Nat.testBit_two_pow_self]; simp

theorem clr_pow_other (x k i : Nat) (h : i ≠ k) : (clr x (2 ^ k)).testBit i = x.testBit i := by
  rw [clr_testBit, Nat.testBit_two_pow]
  have : ¬ k = i := fun e => h e.symm
  simp [this]

theorem or_pow_self (x k : Nat) : (x ||| 2 ^ k).testBit k = true := by
  simp [Nat.testBit_or, Nat.testBit_two_pow_self]

theorem or_pow_other (x k i : Nat) (h : i ≠ k) : (x ||| 2 ^ k).testBit i = x.testBit i := by
  have : ¬ k = i := fun e => h e.symm
  simp [Nat.testBit_or, this]

/-- `Host.has` is the same function as `InitFs.has`, whose lemma this is -/
theorem has_pow (x k : Nat) : has x (2 ^ k) = x.testBit k := Fbr.InitFs.has_pow x k

theorem has_creat_excl (f : Nat) :
    has (f ||| O_CREAT ||| O_EXCL) O_CREAT = true ∧ has (f ||| O_CREAT ||| O_EXCL) O_EXCL = true := by
  have h6 : O_CREAT = 2 ^ 6 := rfl
  have h7 : O_EXCL = 2 ^ 7 := rfl
  rw [h6, h7, has_pow, has_pow, or_pow_self, or_pow_other _ 7 6 (by decide), or_pow_self]
  exact ⟨rfl, rfl⟩

/-- `get_writeback_open_flags` with writeback caching on, bit by bit: `O_APPEND` (bit 10) is cleared,
    the access mode `O_WRONLY` (bits 1, 0 = 0, 1) becomes `O_RDWR` (1, 0), every other bit is kept -/
theorem writeback_testBit (flags i : Nat) :
    (writebackOpenFlags true flags).testBit i =
      if i = 10 then false
      else if (flags &&& O_ACCMODE) = O_WRONLY ∧ i ≤ 1 then decide (i = 1)
      else flags.testBit i := by
  have h10 : O_APPEND = 2 ^ 10 := rfl
  have hacc : (if (flags &&& O_ACCMODE) == O_WRONLY then clr flags O_ACCMODE ||| O_RDWR else flags).testBit i =
      if (flags &&& O_ACCMODE) = O_WRONLY ∧ i ≤ 1 then decide (i = 1) else flags.testBit i := by
    by_cases hw : (flags &&& O_ACCMODE) = O_WRONLY
    · simp only [hw, beq_self_eq_true, if_true, true_and]
      show (clr flags 3 ||| 2 ^ 1).testBit i = _
      rw [Nat.testBit_or, clr_testBit, Nat.testBit_two_pow]
      match i with
      | 0 => simp
      | 1 => simp
      | i + 2 => simp [Nat.testBit_succ]
    · simp [hw]
  unfold writebackOpenFlags
  simp only [Bool.true_and]
  by_cases hi : i = 10
  · subst hi
    split
    · rw [h10]; exact clr_pow_self _ 10
    · rename_i ha
      rw [hacc, ← has_pow flags 10, ← h10]
      simpa using ha
  · rw [if_neg hi, ← hacc]
    split
    · rw [h10, clr_pow_other _ 10 i hi]
    · rfl

/-- the flags `open_inode` opens with, bit by bit: `O_CLOEXEC` (bit 19) is set, `O_DIRECT` (bit 14) is
    cleared when direct I/O is not allowed and the client asked for it, every other bit is that of
    `get_writeback_open_flags` -/
theorem openInodeFlags_testBit (cfg : Cfg) (flags i : Nat) :
    (openInodeFlags cfg flags).testBit i =
      if i = 19 then true
      else if i = 14 ∧ cfg.allowDirectIo = false ∧ flags.testBit 14 = true then false
      else (writebackOpenFlags cfg.writeback flags).testBit i := by
  have h19 : O_CLOEXEC = 2 ^ 19 := rfl
  have h14 : O_DIRECT = 2 ^ 14 := rfl
  unfold openInodeFlags
  by_cases hi : i = 19
  · rw [if_pos hi, hi, h19]; exact or_pow_self _ 19
  rw [if_neg hi, h19, or_pow_other _ 19 i hi]
  by_cases hc : (!cfg.allowDirectIo && has flags O_DIRECT) = true
  · have hc' : cfg.allowDirectIo = false ∧ flags.testBit 14 = true := by
      rw [← has_pow flags 14, ← h14]; simpa using hc
    rw [if_pos hc, h14]
    by_cases h : i = 14
    · rw [if_pos ⟨h, hc'⟩, h]; exact clr_pow_self _ 14
    · rw [if_neg (fun x => h x.1), clr_pow_other _ 14 i h]
  · rw [if_neg hc, if_neg]
    rintro ⟨_, ha, hf⟩
    rw [← has_pow flags 14, ← h14] at hf
    simp [ha, hf] at hc

variable {α β : Type}

def callsOf (ans : HCall → HAns) (m : M α) (st : PtState) : List HCall := ((m st).runFn ans).2
def resOf (ans : HCall → HAns) (m : M α) (st : PtState) : Except Nat α × PtState := ((m st).runFn ans).1

theorem runFn_bind (ans : HCall → HAns) (p : Prog α) (f : α → Prog β) :
    (p.bind f).runFn ans = (((f (p.runFn ans).1).runFn ans).1, (p.runFn ans).2 ++ ((f (p.runFn ans).1).runFn ans).2) := by
  induction p with
  | pure a => simp [Prog.bind, Prog.runFn]
  | call c k ih => simp [Prog.bind, Prog.runFn, ih]

theorem runFn_bind_ok {ans : HCall → HAns} {m : M α} {f : α → M β} {st st' : PtState} {a : α} {cs : List HCall}
    (h : (m st).runFn ans = ((.ok a, st'), cs)) :
    ((m >>= f) st).runFn ans = (((f a st').runFn ans).1, cs ++ ((f a st').runFn ans).2) := by
  show (M.bind' m f st).runFn ans = _
  unfold M.bind'
  rw [runFn_bind, h]

theorem callsOf_bind (ans : HCall → HAns) (m : M α) (f : α → M β) (st : PtState) :
    callsOf ans (m >>= f) st =
      callsOf ans m st ++ (match (resOf ans m st).1 with
        | .ok a => callsOf ans (f a) (resOf ans m st).2
        | .error _ => []) := by
  show ((M.bind' m f st).runFn ans).2 = _
  unfold M.bind'
  rw [runFn_bind]
  simp only [callsOf, resOf]
  cases h : ((m st).runFn ans).1.1 <;> simp [Prog.runFn]

theorem resOf_bind (ans : HCall → HAns) (m : M α) (f : α → M β) (st : PtState) :
    resOf ans (m >>= f) st =
      (match (resOf ans m st).1 with
        | .ok a => resOf ans (f a) (resOf ans m st).2
        | .error e => (.error e, (resOf ans m st).2)) := by
  show ((M.bind' m f st).runFn ans).1 = _
  unfold M.bind'
  rw [runFn_bind]
  simp only [resOf]
  cases h : ((m st).runFn ans).1.1 <;> simp [Prog.runFn]

end Fbr.PtHost
