/-
  Which addresses the raw copy loops touch (as flat address lists), and membership in the dirty
  page list.
-/
import Fbr.Lemmas.XportAddr

namespace Fbr.Xport

theorem wrAddrs_append (a b : List Access) : wrAddrs (a ++ b) = wrAddrs a ++ wrAddrs b := by
  induction a with
  | nil => rfl
  | cons x rest ih => simp [wrAddrs, ih]

theorem rdAddrs_append (a b : List Access) : rdAddrs (a ++ b) = rdAddrs a ++ rdAddrs b := by
  induction a with
  | nil => rfl
  | cons x rest ih => simp [rdAddrs, ih]

theorem wrAddrs_snoc (log : List Access) (a : Access) (h : a.write = true) :
    wrAddrs (log ++ [a]) = wrAddrs log ++ segAddrs a.seg := by
  rw [wrAddrs_append]; simp [wrAddrs, h]

theorem rdAddrs_snoc_write (log : List Access) (a : Access) (h : a.write = true) :
    rdAddrs (log ++ [a]) = rdAddrs log := by
  rw [rdAddrs_append]; simp [rdAddrs, h]

/-- what the copy loops leave alone -/
structure SameBut (w w' : World) : Prop where
  p : w'.p = w.p
  dirty : w'.dirty = w.dirty
  fd : w'.fd = w.fd

theorem SameBut.refl (w : World) : SameBut w w := ⟨rfl, rfl, rfl⟩
theorem SameBut.trans {a b c : World} (h1 : SameBut a b) (h2 : SameBut b c) : SameBut a c :=
  ⟨h2.p.trans h1.p, h2.dirty.trans h1.dirty, h2.fd.trans h1.fd⟩

theorem copyOut_spec (w : World) (bufs : List Seg) (rem : Nat) :
    let r := copyOut w bufs rem
    SameBut w r.1 ∧ r.1.mem = w.mem
    ∧ wrAddrs r.1.log = wrAddrs w.log
    ∧ rdAddrs r.1.log = rdAddrs w.log ++ (addrs bufs).take rem
    ∧ r.2.2 = min rem (total bufs) := by
  induction bufs generalizing w rem with
  | nil => simp [copyOut, addrs, total, SameBut.refl]
  | cons s rest ih =>
    simp only [copyOut]
    have := ih { w with log := w.log ++ [{ region := s.region, off := s.off, len := min rem s.len, write := false }] }
      (rem - min rem s.len)
    simp only at this
    obtain ⟨h1, h2, h3, h4, h5⟩ := this
    refine ⟨⟨h1.p, h1.dirty, h1.fd⟩, h2, ?_, ?_, ?_⟩
    · rw [h3, wrAddrs_append]; simp [wrAddrs]
    · rw [h4, rdAddrs_append]
      simp only [rdAddrs, Access.seg, List.append_nil, Bool.false_eq_true, if_false, List.append_assoc]
      rw [take_min_segAddrs, take_cons_addrs]
    · rw [h5]; simp only [total]; omega

theorem copyIn_spec (w : World) (bufs : List Seg) (data : Bytes) :
    let r := copyIn w bufs data
    SameBut w r.1
    ∧ rdAddrs r.1.log = rdAddrs w.log
    ∧ wrAddrs r.1.log = wrAddrs w.log ++ (addrs bufs).take data.length
    ∧ r.2 = min data.length (total bufs) := by
  induction bufs generalizing w data with
  | nil => simp [copyIn, addrs, total, SameBut.refl]
  | cons s rest ih =>
    simp only [copyIn]
    have := ih { w with mem := w.mem.write s.region s.off (data.take (min data.length s.len)),
                        log := w.log ++ [{ region := s.region, off := s.off, len := min data.length s.len, write := true }] }
      (data.drop (min data.length s.len))
    simp only at this
    obtain ⟨h1, h3, h4, h5⟩ := this
    refine ⟨⟨h1.p, h1.dirty, h1.fd⟩, ?_, ?_, ?_⟩
    · rw [h3, rdAddrs_append]; simp [rdAddrs]
    · rw [h4, wrAddrs_append]
      simp only [wrAddrs, Access.seg, List.append_nil, if_true, List.append_assoc, List.length_drop]
      rw [take_min_segAddrs, take_cons_addrs]
    · rw [h5]; simp only [total, List.length_drop]; omega

/-- for every page size, also 0: every quotient by 0 is 0, so both sides say "page 0 of the region, unless
    the range is empty"; hence no lemma about marking asks for `0 < p` -/
theorem mem_pagesOf {p : Nat} {s : Seg} {x : Nat × Nat} :
    x ∈ pagesOf p s ↔ ∃ a ∈ segAddrs s, pageOf p a = x := by
  obtain ⟨r, pg⟩ := x
  unfold pagesOf
  by_cases h0 : s.len = 0
  · simp [h0, segAddrs]
  rcases Nat.eq_zero_or_pos p with rfl | hp
  · simp only [h0, if_false, Nat.div_zero, Nat.sub_self, Nat.zero_add, List.range'_one, List.map_cons, List.map_nil,
      List.mem_singleton, pageOf, Prod.mk.injEq]
    constructor
    · rintro ⟨rfl, rfl⟩; exact ⟨(s.region, s.off), mk_mem_segAddrs s 0 (by omega), rfl, rfl⟩
    · rintro ⟨a, ha, rfl, rfl⟩; exact ⟨(mem_segAddrs.mp ha).1, rfl⟩
  · simp only [h0, if_false, List.mem_map, List.mem_range'_1, Prod.mk.injEq]
    constructor
    · rintro ⟨q, ⟨hq1, hq2⟩, rfl, rfl⟩
      have hq3 : q ≤ (s.off + s.len - 1) / p := by
        have : s.off / p ≤ (s.off + s.len - 1) / p := Nat.div_le_div_right (by omega)
        omega
      by_cases hc : s.off ≤ q * p
      · refine ⟨(s.region, q * p), ?_, ?_⟩
        · rw [mem_segAddrs]
          have : q * p ≤ s.off + s.len - 1 := (Nat.le_div_iff_mul_le hp).mp hq3
          exact ⟨rfl, hc, by simp only; omega⟩
        · simp [pageOf, Nat.mul_div_cancel _ hp]
      · refine ⟨(s.region, s.off), ?_, ?_⟩
        · rw [mem_segAddrs]; exact ⟨rfl, Nat.le_refl _, by simp only; omega⟩
        · have : q ≤ s.off / p := (Nat.le_div_iff_mul_le hp).mpr (by omega)
          simp only [pageOf, Prod.mk.injEq, true_and]; omega
    · rintro ⟨a, ha, hpa⟩
      rw [mem_segAddrs] at ha
      obtain ⟨ha1, ha2, ha3⟩ := ha
      simp only [pageOf, Prod.mk.injEq] at hpa
      refine ⟨a.2 / p, ⟨Nat.div_le_div_right ha2, ?_⟩, by rw [← ha1]; exact hpa.1, hpa.2⟩
      have h1 : a.2 / p ≤ (s.off + s.len - 1) / p := Nat.div_le_div_right (by omega)
      have h2 : s.off / p ≤ (s.off + s.len - 1) / p := Nat.div_le_div_right (by omega)
      omega

theorem mem_foldl_markRange {p : Nat} (segs : List Seg) (d : Dirty) (x : Nat × Nat) :
    x ∈ segs.foldl (markRange p) d ↔ x ∈ d ∨ ∃ a ∈ addrs segs, pageOf p a = x := by
  induction segs generalizing d with
  | nil => simp [addrs]
  | cons s rest ih =>
    simp only [List.foldl, ih, markRange, List.mem_append, mem_pagesOf, addrs, or_and_right, exists_or, or_assoc]

theorem foldl_markRange_from (p : Nat) (X : List Seg) (d : Dirty) :
    X.foldl (markRange p) d = d ++ X.foldl (markRange p) [] := by
  induction X generalizing d with
  | nil => simp
  | cons s rest ih => rw [List.foldl_cons, List.foldl_cons, ih, ih (markRange p [] s), markRange, markRange,
      List.nil_append, List.append_assoc]

theorem foldl_markRange_dirtyRanges_cons (p : Nat) (s : Seg) (X : List Seg) (rem : Nat) :
    (dirtyRanges (s :: X) rem).foldl (markRange p) [] =
      pagesOf p { s with len := min rem s.len } ++
        (dirtyRanges X (rem - min rem s.len)).foldl (markRange p) [] := by
  rw [dirtyRanges]
  by_cases h0 : rem = 0
  · subst h0
    rw [if_pos rfl, Nat.zero_min, Nat.sub_zero, dirtyRanges_zero]
    simp [pagesOf]
  · rw [if_neg h0]
    have hl : (if s.len > rem then { s with len := rem } else s) = { s with len := min rem s.len } := by
      split
      · rw [Nat.min_eq_left (by omega)]
      · rw [Nat.min_eq_right (by omega)]
    simp only [hl, List.foldl_cons, markRange, List.nil_append]
    exact foldl_markRange_from p _ _

theorem mem_markDirty {w : World} (segs : List Seg) (n : Nat) (x : Nat × Nat) :
    x ∈ (markDirty w segs n).dirty ↔ x ∈ w.dirty ∨ ∃ a ∈ (addrs segs).take n, pageOf w.p a = x := by
  simp only [markDirty, mem_foldl_markRange, dirtyRanges_eq_allocate, addrs_allocate]

/-- the world `consume` leaves — pages marked or not — differs from the closure's only in the dirty log -/
theorem ite_markDirty_keep (md : Bool) (w : World) (segs : List Seg) (n : Nat) :
    (if md = true then markDirty w segs n else w).p = w.p ∧ (if md = true then markDirty w segs n else w).fd = w.fd
      ∧ (if md = true then markDirty w segs n else w).log = w.log
      ∧ (if md = true then markDirty w segs n else w).mem = w.mem := by
  cases md <;> exact ⟨rfl, rfl, rfl, rfl⟩

end Fbr.Xport
