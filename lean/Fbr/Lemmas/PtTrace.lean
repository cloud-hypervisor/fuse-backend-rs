/-
  C08 / C15: every request is a composition of `do_lookup` effects, `forget_one`s, steps that
  leave the stored entries alone (but may open or release a handle) and, for `init` / `destroy`,
  the import of the root and the clearing of the tables; the composition refines `Spec.step`.
-/
import Fbr.Lemmas.PtRef

namespace Fbr.PtRefs

/-- `handle_map.clear(); inode_map.clear()` on the tables -/
structure Cleared (s s' : St) : Prop where
  data : s'.data = []
  byId : s'.byId = []
  byHandle : s'.byHandle = []
  handles : s'.handles = []
  clobbered : s'.clobbered = s.clobbered
  lookups : s'.lookups = s.lookups
  next : s'.next = s.next
  alloc : AllocSame s s'

/-- `s, sp ⟶ s', sp'`: the server state and the client ledger move together.  The flag says
    whether the root may be (re-)imported or the tables cleared on the way (`init`, `destroy`):
    `setRoot` and `clear` exist under `true` only, every other step under either flag.
    The parameter `nf` ("no file handles") restricts the derivation: when it is `true`, every host
    file a lookup was handed, and every imported root, carries no file handle
    (`inode_file_handles` off); `nf = false` restricts nothing.
    `frame` covers every step that leaves the inode store alone, under either flag (a failed import
    is one); `g` is what it does to the handle table (nothing, a new handle, a handle released). -/
inductive Tr (e : Env) (nf : Bool) : Bool → St → Spec → St → Spec → Prop
  | frame {b : Bool} {s s' : St} {sp : Spec} (g : List (Hnd × Ino) → List (Hnd × Ino)) (h : Unchanged s s')
      (hh : s'.handles = g s.handles) : Tr e nf b s sp s' { sp with hnds := g sp.hnds }
  | lookup {b : Bool} {s s' : St} {sp : Spec} {f : HFile} {ino : Ino} (h : LkEff e s s' f (.ok ino))
      (hf : nf = true → f.fh = none) : Tr e nf b s sp s' (sp.deliver ino)
  | forget {b : Bool} {s : St} {sp : Spec} (i : Ino) (n : Nat) :
      Tr e nf b s sp (forgetOne e s i n) (sp.forget i n)
  | setRoot {s s' : St} {sp : Spec} {d : IData} (x : Inserted s s' ROOT_ID d) (hr : d.refs = 2)
      (hl : s'.lookups = s.lookups) (hn : s'.next = s.next) (ha : AllocSame s s')
      (hf : nf = true → d.fh = none) : Tr e nf true s sp s' sp
  | clear {s s' : St} {sp : Spec} (x : Cleared s s') : Tr e nf true s sp s' Spec.init
  | trans {f : Bool} {a b c : St} {sa sb sc : Spec} :
      Tr e nf f a sa b sb → Tr e nf f b sb c sc → Tr e nf f a sa c sc

theorem Tr.same {e : Env} {nf b : Bool} {s s' : St} {sp : Spec} (h : Unchanged s s')
    (hh : s'.handles = s.handles) : Tr e nf b s sp s' sp :=
  .frame id h hh

theorem Tr.of_tables {e : Env} {nf b : Bool} {s s' : St} {sp : Spec} (h : s'.tables = s.tables) :
    Tr e nf b s sp s' sp :=
  .same (.of_tables h) (handles_of_tables h)

theorem LkEff.tr {e : Env} {nf b : Bool} {s s' : St} {sp : Spec} {f : HFile} {r : Except Errno Ino}
    (h : LkEff e s s' f r) (hf : nf = true → f.fh = none) : Tr e nf b s sp s' (sp.afterLookup r) := by
  cases r with
  | ok ino => exact .lookup h hf
  | error er => cases h with | err _ h hh => exact .same h hh

theorem Tr.mono {e : Env} {nf : Bool} {b : Bool} {s s' : St} {sp sp' : Spec} (h : Tr e nf b s sp s' sp') :
    Mono s s' := by
  induction h with
  | frame _ h => exact h.mono
  | lookup h => exact h.mono
  | @forget _ s0 _ i n =>
    have := forgetOne_ghost e s0 i n
    exact ⟨fun x => by rw [← this.1]; exact x, by omega⟩
  | setRoot x _ hl => exact ⟨fun c => by rw [← x.clobbered_root]; exact c, by omega⟩
  | clear x => exact ⟨fun c => by rw [← x.clobbered]; exact c, by have := x.lookups; omega⟩
  | trans _ _ ih1 ih2 => exact ih1.trans ih2

theorem Tr.good {e : Env} {nf : Bool} {b : Bool} {s s' : St} {sp sp' : Spec} (h : Tr e nf b s sp s' sp')
    (g : Good s sp) (ok : OK s') : Good s' sp' := by
  induction h with
  | frame _ h =>
    -- `Good` reads `sp.held` only, which a change of `hnds` leaves alone
    exact ⟨(g.frame h).ref, (g.frame h).bnd⟩
  | lookup h => exact good_lookup g h ok
  | forget i n => exact good_forget e g i n
  | setRoot x hr hl =>
    constructor
    · intro i hi
      rw [x.data, mget_mput_ne _ _ (fun e => hi e.symm)]
      exact g.ref i hi
    · unfold Bnd
      rw [x.data, hl]
      exact forall_mget_mput (by omega) g.bnd
  | clear x =>
    constructor
    · intro i _; simp [x.data, Spec.init]
    · intro i d' hi; simp [x.data] at hi
  | trans h1 h2 ih1 ih2 => exact ih2 (ih1 g (h2.mono.ok ok)) ok

theorem deliver_hnds (sp : Spec) (i : Ino) : (sp.deliver i).hnds = sp.hnds := by
  unfold Spec.deliver; split <;> rfl

theorem forget_hnds (sp : Spec) (i : Ino) (n : Nat) : (sp.forget i n).hnds = sp.hnds := by
  unfold Spec.forget; split <;> rfl

theorem forgetOne_handles (e : Env) (s : St) (i : Ino) (n : Nat) :
    (forgetOne e s i n).handles = s.handles :=
  congrArg Tables.handles (forgetOne_frame e s i n)

theorem Tr.hnds_eq {e : Env} {nf : Bool} {b : Bool} {s s' : St} {sp sp' : Spec} (h : Tr e nf b s sp s' sp')
    (hh : s.handles = sp.hnds) : s'.handles = sp'.hnds := by
  induction h with
  | frame g _ hg => rw [hg, hh]
  | lookup h => rw [deliver_hnds, ← hh]; cases h with | hit _ x | ins _ x => exact x.handles
  | forget i n => rw [forgetOne_handles, forget_hnds]; exact hh
  | setRoot x => exact x.handles.trans hh
  | clear x => exact x.handles
  | trans _ _ ih1 ih2 => exact ih2 (ih1 hh)

theorem deliver_forget_cancel (sp : Spec) (i : Ino) : (sp.deliver i).forget i 1 = sp := by
  unfold Spec.deliver Spec.forget
  by_cases h : i = ROOT_ID
  · simp [h]
  · simp only [h, if_false]
    cases sp with
    | mk held hnds =>
      simp only [Spec.mk.injEq, and_true]
      funext x
      by_cases e : x = i
      · subst e; simp
      · simp [e]

variable {nf : Bool}

theorem importRoot_tables (e : Env) (s : St) (root : HAns) :
    (importRoot e s root).1.tables = s.tables
    ∨ ∃ f, root = .ok f ∧ (importRoot e s root).1.tables
        = s.tables.insert ROOT_ID { id := f.id, fh := f.fh, refs := 2, safe := f.safe } := by
  unfold importRoot
  split
  · rename_i h1; exact .inl (tables_of_allocFd h1)
  · rename_i s1 h1
    have h1 := tables_of_allocFd h1
    split
    · exact .inl ((tables_freeFd _).trans h1)
    · rename_i f
      split
      · rename_i s2 er h2; exact .inl (by rw [tables_freeFd, tables_of_toOpenable h2]; exact h1)
      · rename_i s2 h2
        exact .inr ⟨f, rfl, by rw [tables_settlePath, tables_insertInode, tables_of_toOpenable h2, h1]⟩

theorem importRoot_tr (e : Env) (s : St) (sp : Spec) (root : HAns) (hf : nf = true → root.NoFh) :
    Tr e nf true s sp (importRoot e s root).1 sp := by
  rcases importRoot_tables e s root with ht | ⟨f, hr, ht⟩
  · exact .of_tables ht
  · subst hr
    exact .setRoot (.of_tables ht) rfl (congrArg Tables.lookups ht) (congrArg Tables.next ht)
      ⟨congrArg Tables.devMap ht, congrArg Tables.nextUid ht, congrArg Tables.nextVirt ht⟩ hf

theorem clearAll_tr (e : Env) (s : St) (sp : Spec) : Tr e nf true s sp (clearAll s) Spec.init := by
  unfold clearAll
  have ht := dropAll_tables s.data
    ({ ({ s with fds := s.fds - s.handles.length, handles := [], cookies := [] } : St) with
      data := [], byId := [], byHandle := [] } : St)
  exact .clear ⟨congrArg Tables.data ht, congrArg Tables.byId ht, congrArg Tables.byHandle ht, congrArg Tables.handles ht,
    congrArg Tables.clobbered ht, congrArg Tables.lookups ht, congrArg Tables.next ht,
    ⟨congrArg Tables.devMap ht, congrArg Tables.nextUid ht, congrArg Tables.nextVirt ht⟩⟩

end Fbr.PtRefs
