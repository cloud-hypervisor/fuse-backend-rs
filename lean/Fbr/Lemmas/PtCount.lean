/-
  Counting entries of the association maps of `Fbr.PtRefs`: distinct keys, and how `mput` / `mdel`
  change the number of entries that satisfy a predicate.
-/
import Fbr.PtRefs
import Fbr.Lemmas.PtMap

namespace Fbr.PtRefs
variable {κ α : Type} [DecidableEq κ]

def KeysNodup (m : List (κ × α)) : Prop := (m.map (·.1)).Nodup

def cnt (p : α → Bool) (m : List (κ × α)) : Nat := (m.filter fun x => p x.2).length

/-- what the entry under one key, `mget m k`, adds to `cnt p m` -/
def cnt1 (p : α → Bool) : Option α → Nat
  | some v => if p v then 1 else 0
  | none => 0

@[simp] theorem cnt_nil (p : α → Bool) : cnt p ([] : List (κ × α)) = 0 := rfl

theorem cnt_cons (p : α → Bool) (k : κ) (v : α) (m : List (κ × α)) :
    cnt p ((k, v) :: m) = (if p v then 1 else 0) + cnt p m := by
  unfold cnt
  by_cases h : p v <;> simp [List.filter, h] <;> omega

theorem cnt_add_cnt {p q : α → Bool} (h : ∀ v, p v = !q v) (m : List (κ × α)) : cnt p m + cnt q m = m.length := by
  induction m with
  | nil => rfl
  | cons x r ih =>
    obtain ⟨k, v⟩ := x
    rw [cnt_cons, cnt_cons, List.length_cons, h v]
    cases q v <;> simp <;> omega

theorem mem_keys_of_mget {m : List (κ × α)} {k : κ} {v : α} (h : mget m k = some v) :
    k ∈ m.map (·.1) := by
  rw [mget_eq_lookup] at h
  obtain ⟨l₁, l₂, rfl, _⟩ := List.lookup_eq_some_iff.1 h
  simp

theorem mget_none_of_not_mem {m : List (κ × α)} {k : κ} (h : k ∉ m.map (·.1)) : mget m k = none := by
  cases hm : mget m k with
  | none => rfl
  | some v => exact absurd (mem_keys_of_mget hm) h

theorem mdel_of_not_mem {m : List (κ × α)} {k : κ} (h : k ∉ m.map (·.1)) : mdel m k = m := by
  rw [mdel_eq_filter, List.filter_eq_self]
  intro p hp
  simpa using fun e => h (List.mem_map.mpr ⟨p, hp, e⟩)

theorem not_mem_keys_mdel (m : List (κ × α)) (k : κ) : k ∉ (mdel m k).map (·.1) := by
  intro hx
  simp only [mdel, List.mem_map, List.mem_filter] at hx
  obtain ⟨p, ⟨_, hk⟩, e⟩ := hx
  simp [e] at hk

theorem KeysNodup.mdel {m : List (κ × α)} (h : KeysNodup m) (k : κ) : KeysNodup (mdel m k) :=
  List.Nodup.sublist (List.filter_sublist.map _) h

theorem KeysNodup.mput {m : List (κ × α)} (h : KeysNodup m) (k : κ) (v : α) : KeysNodup (mput m k v) := by
  unfold KeysNodup Fbr.PtRefs.mput
  simp only [List.map_cons, List.nodup_cons]
  exact ⟨not_mem_keys_mdel m k, h.mdel k⟩

theorem cnt_mdel (p : α → Bool) {m : List (κ × α)} (h : KeysNodup m) (k : κ) :
    cnt p (mdel m k) + cnt1 p (mget m k) = cnt p m := by
  induction m with
  | nil => rfl
  | cons q r ih =>
    obtain ⟨k', v'⟩ := q
    unfold KeysNodup at h
    simp only [List.map_cons, List.nodup_cons] at h
    by_cases e : k' = k
    · subst e
      rw [mdel_cons, if_pos rfl, mdel_of_not_mem h.1, cnt_cons, mget_cons, if_pos rfl, cnt1]
      omega
    · rw [mdel_cons, if_neg e, cnt_cons, cnt_cons]
      simp only [mget_cons, e, if_false]
      have := ih h.2
      omega

theorem cnt_mput (p : α → Bool) {m : List (κ × α)} (h : KeysNodup m) (k : κ) (v : α) :
    cnt p (mput m k v) + cnt1 p (mget m k) = cnt p m + (if p v then 1 else 0) := by
  unfold Fbr.PtRefs.mput
  rw [cnt_cons]
  have := cnt_mdel p h k
  omega

theorem length_eq_cnt (m : List (κ × α)) : m.length = cnt (fun _ => true) m := by
  induction m with
  | nil => rfl
  | cons q r ih => obtain ⟨k, v⟩ := q; rw [cnt_cons]; simp [ih]; omega

theorem length_mput {m : List (κ × α)} (nd : KeysNodup m) {k : κ} (v : α) (hm : mget m k = none) :
    (mput m k v).length = m.length + 1 := by
  have := cnt_mput (fun _ => true) nd k v
  rw [hm] at this
  simp only [cnt1, if_true] at this
  rw [length_eq_cnt, length_eq_cnt]; omega

theorem length_mdel {m : List (κ × α)} (nd : KeysNodup m) {k : κ} {v : α} (hm : mget m k = some v) :
    (mdel m k).length + 1 = m.length := by
  have := cnt_mdel (fun _ => true) nd k
  rw [hm] at this
  simp only [cnt1, if_true] at this
  rw [length_eq_cnt, length_eq_cnt]; omega

theorem mget_some_of_mem_keys {m : List (κ × α)} {k : κ} (h : k ∈ m.map (·.1)) : ∃ v, mget m k = some v := by
  rw [mget_eq_lookup, ← Option.isSome_iff_exists, List.lookup_isSome_iff]
  obtain ⟨p, hp, e⟩ := List.mem_map.mp h
  exact ⟨p, hp, by simp [e]⟩

theorem single_entry {m : List (κ × α)} (nd : KeysNodup m) (k0 : κ)
    (h : ∀ k v, mget m k = some v → k = k0) : m = [] ∨ ∃ v, m = [(k0, v)] := by
  cases m with
  | nil => exact Or.inl rfl
  | cons p r =>
    obtain ⟨k, v⟩ := p
    have hk : k = k0 := h k v (by simp [mget_cons])
    subst hk
    cases r with
    | nil => exact Or.inr ⟨v, rfl⟩
    | cons q r' =>
      obtain ⟨k2, v2⟩ := q
      exfalso
      unfold KeysNodup at nd
      simp only [List.map_cons, List.nodup_cons, List.mem_cons, not_or] at nd
      obtain ⟨w, hw⟩ := mget_some_of_mem_keys (m := (k, v) :: (k2, v2) :: r') (k := k2) (by simp)
      have := h k2 w hw
      exact nd.1.1 this.symm

end Fbr.PtRefs
