/-
  The invariant on the pseudo tree and the per-mount mapping table of a VFS that never evicts
  pseudo directories (`PInv`), kept by every primitive change; the mapping table survives
  save + load.
-/
import Fbr.Vfs
import Fbr.Persist
import Fbr.Lemmas.VfsStep
import Fbr.Lemmas.VfsPseudo
import Fbr.Lemmas.VfsPath

namespace Fbr.Lemmas.VfsPersist
open Fbr.Vfs Fbr.Persist Fbr.Lemmas.VfsStep Fbr.Lemmas.VfsPseudo Fbr.Lemmas.VfsPath

/-- the per-mount mapping table has 256 entries -/
def MapsRange (s : State) : Prop := ∀ i, 256 ≤ i → s.mountMaps i = none

/-- what the no-panic theorem of C07 and the theorems of C19 need of a state besides `Inv`: a
    well-formed pseudo tree, a 256-entry mapping table, and no eviction of pseudo directories
    (`remove_pseudo_root` off) -/
structure PInv (s : State) : Prop where
  wf : WF s.pseudo
  range : MapsRange s
  norm : s.rmRoot = false

theorem pinv_new (opts : Opts) : PInv (State.new opts false) :=
  ⟨wf_new, fun _ _ => rfl, rfl⟩

theorem prim_pinv {map : Option Map} {s t : State} (h : PInv s) (hp : Prim map s t) : PInv t := by
  cases hp with
  | frame next o i hn => exact ⟨h.wf, h.range, h.norm⟩
  | setMap idx hvac hlt =>
    exact ⟨h.wf, fun i hi => (upd_other _ _ (by omega)).trans (h.range i hi), h.norm⟩
  | ins b idx path hb hvac h0 hlt hi =>
    cases hi with
    | walkPanic | entryPanic | relative => exact h
    | badRoot comps p' inode n hw | done comps p' inode ent hc hw he =>
      exact ⟨(mountWalk_result h.wf hw).1, h.range, h.norm⟩
  | remove inode m pseudo hm hp => exact ⟨hp h.norm ▸ h.wf, fun i hi => upd_none_none (h.range i hi) _, h.norm⟩

theorem loadMaps_save (s : State) (h : MapsRange s) :
    (fun i => ((loadMaps (save s) false)[i]?).join) = s.mountMaps := by
  funext i
  simp only [loadMaps, save, Bool.false_eq_true, if_false]
  by_cases hi : i < MAX_VFS_INDEX
  · simp [List.getElem?_map, List.getElem?_range hi]
  · have : MAX_VFS_INDEX ≤ i := by omega
    rw [List.getElem?_eq_none (by simp; exact this)]
    simp only [Option.join_none]
    exact (h i (by unfold MAX_VFS_INDEX at this; exact this)).symm

end Fbr.Lemmas.VfsPersist
