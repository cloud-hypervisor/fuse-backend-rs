/-
  The mount-table invariant of the VFS model and its preservation by every primitive change;
  what `convert_inode` and `convert_entry` return.
-/
import Fbr.Vfs
import Fbr.Lemmas.VfsStep

namespace Fbr.Lemmas.VfsInv
open Fbr.Vfs Fbr.Lemmas.VfsStep

structure InvT (supers : Nat → Option Bk) (mnts : Nat → Option Mnt) (next : Nat) : Prop where
  next : next < 256
  /-- slot 0 (the pseudo fs index) is never used -/
  zero : supers 0 = none
  range : ∀ i b, supers i = some b → i < 256
  slot : ∀ p m, mnts p = some m → ∃ b, supers m.idx = some b ∧ b.id = m.bk
  inj : ∀ p q m n, mnts p = some m → mnts q = some n → m.idx = n.idx → p = q
  occ : ∀ i b, supers i = some b → ∃ p m, mnts p = some m ∧ m.idx = i
  /-- recorded root inode numbers fit 56 bits (`VfsInode::new` cannot panic) -/
  inoOk : ∀ p m, mnts p = some m → m.ino ≤ VFS_MAX_INO

def Inv (s : State) : Prop := InvT s.supers s.mnts s.nextSuper

theorem inv_new (opts : Opts) (rm : Bool) : Inv (State.new opts rm) := by
  refine ⟨by simp [State.new], rfl, ?_, ?_, ?_, ?_, ?_⟩ <;> simp [State.new]

theorem InvT.idx_ne_vacant {supers mnts next} (h : InvT supers mnts next) {p m} (hm : mnts p = some m) {idx : Nat}
    (hvac : supers idx = none) : m.idx ≠ idx := by
  obtain ⟨b, hb, _⟩ := h.slot p m hm
  intro he
  rw [he, hvac] at hb
  cases hb

theorem InvT.idx_ne_zero {supers mnts next} (h : InvT supers mnts next) {p m} (hm : mnts p = some m) : m.idx ≠ 0 :=
  h.idx_ne_vacant hm h.zero

theorem add_invT {supers mnts next} (h : InvT supers mnts next) (inode : Nat) (b : Bk) (m : Mnt)
    (hfree : mnts inode = none) (hmb : m.bk = b.id) (hino : m.ino ≤ VFS_MAX_INO)
    (hvac : supers m.idx = none) (h0 : m.idx ≠ 0) (h256 : m.idx < 256) :
    InvT (upd supers m.idx (some b)) (upd mnts inode (some m)) next := by
  have hne : ∀ {p m'}, mnts p = some m' → p ≠ inode := by
    intro p m' hm' he
    rw [he, hfree] at hm'; cases hm'
  refine ⟨h.next, ?_, ?_, ?_, ?_, ?_, ?_⟩
  · rw [upd_other _ _ (Ne.symm h0)]; exact h.zero
  · intro i b' hb'
    rcases upd_some hb' with ⟨rfl, _⟩ | ⟨_, hb'⟩
    · exact h256
    · exact h.range _ _ hb'
  · intro p m' hm'
    rcases upd_some hm' with ⟨_, hv⟩ | ⟨_, hm'⟩
    · cases hv; exact ⟨b, upd_same _ _ _, hmb.symm⟩
    · obtain ⟨b', hb', hid⟩ := h.slot p m' hm'
      exact ⟨b', by rw [upd_other _ _ (h.idx_ne_vacant hm' hvac)]; exact hb', hid⟩
  · intro p q m1 m2 h1 h2 he
    rcases upd_some h1 with ⟨hp, hv1⟩ | ⟨_, h1'⟩ <;> rcases upd_some h2 with ⟨hq, hv2⟩ | ⟨_, h2'⟩
    · rw [hp, hq]
    · cases hv1; exact absurd he.symm (h.idx_ne_vacant h2' hvac)
    · cases hv2; exact absurd he (h.idx_ne_vacant h1' hvac)
    · exact h.inj p q m1 m2 h1' h2' he
  · intro i b' hb'
    rcases upd_some hb' with ⟨rfl, _⟩ | ⟨_, hb'⟩
    · exact ⟨inode, m, upd_same _ _ _, rfl⟩
    · obtain ⟨p, m', hm', hmi'⟩ := h.occ i b' hb'
      exact ⟨p, m', by rw [upd_other _ _ (hne hm')]; exact hm', hmi'⟩
  · intro p m' hm'
    rcases upd_some hm' with ⟨_, hv⟩ | ⟨_, hm'⟩
    · cases hv; exact hino
    · exact h.inoOk p m' hm'

theorem remove_invT {supers mnts next} (h : InvT supers mnts next) (inode : Nat) (m : Mnt)
    (hm : mnts inode = some m) :
    InvT (upd supers m.idx none) (upd mnts inode none) next := by
  have hkeep : ∀ {p m'}, upd mnts inode none p = some m' → mnts p = some m' ∧ m'.idx ≠ m.idx := by
    intro p m' hm'
    obtain ⟨hp, hm'⟩ := upd_none_some hm'
    exact ⟨hm', fun he => hp (h.inj p inode m' m hm' hm he)⟩
  refine ⟨h.next, ?_, ?_, ?_, ?_, ?_, ?_⟩
  · exact upd_none_none h.zero _
  · exact fun i b hb => h.range _ _ (upd_none_some hb).2
  · intro p m' hm'
    obtain ⟨hm', hne⟩ := hkeep hm'
    obtain ⟨b, hb, hid⟩ := h.slot p m' hm'
    exact ⟨b, by rw [upd_other _ _ hne]; exact hb, hid⟩
  · intro p q m1 m2 h1 h2 he
    exact h.inj p q m1 m2 (hkeep h1).1 (hkeep h2).1 he
  · intro i b hb
    obtain ⟨hi, hb⟩ := upd_none_some hb
    obtain ⟨p, m', hm', hmi'⟩ := h.occ i b hb
    have hp : p ≠ inode := by
      intro hp; rw [hp, hm] at hm'; cases hm'; exact hi hmi'.symm
    exact ⟨p, m', by rw [upd_other _ _ hp]; exact hm', hmi'⟩
  · intro p m' hm'
    exact h.inoOk p m' (hkeep hm').1

theorem convertInode_ok {idx ino v : Nat} (h : convertInode idx ino = .ok v) :
    (ino = 0 ∧ v = 0) ∨ (ino ≤ VFS_MAX_INO ∧ v = idx * SHIFT + ino) := by
  unfold convertInode at h
  split at h
  · cases h; exact .inl ⟨‹_›, rfl⟩
  · split at h
    · cases h
    · cases h; exact .inr ⟨Nat.le_of_not_gt ‹_›, rfl⟩

theorem convertInode_of_le {idx ino : Nat} (h0 : 0 < ino) (hle : ino ≤ VFS_MAX_INO) :
    convertInode idx ino = .ok (idx * SHIFT + ino) := by
  rw [convertInode, if_neg (Nat.ne_of_gt h0), if_neg (Nat.not_lt.mpr hle)]

theorem convertEntry_ok {s : State} {idx ino : Nat} {e ent : Ent} : s.convertEntry idx ino e = some (.ok ent) →
    convertInode idx ino = .ok ent.inode ∧ ent.stIno = ent.inode ∧
    remapPair (s.effectiveMap idx) true e.uid e.gid = some (ent.uid, ent.gid) := by
  fun_cases State.convertEntry s idx ino e
  -- the inode and the owner ids are both converted
  case case3 hv _ _ hr => intro h; cases h; exact ⟨hv, rfl, hr⟩
  -- the inode is refused, or `remap_id` overflows
  all_goals intro h; cases h

theorem convertEntry_of_ok {s : State} {idx ino : Nat} {e ent : Ent} (h1 : convertInode idx ino = .ok ent.inode)
    (h2 : ent.stIno = ent.inode) (h3 : remapPair (s.effectiveMap idx) true e.uid e.gid = some (ent.uid, ent.gid)) :
    s.convertEntry idx ino e = some (.ok ent) := by
  unfold State.convertEntry
  simp only [h1, h3]
  cases ent
  cases h2
  rfl

theorem convertEntry_congr {s t : State} {idx : Nat} (h : t.effectiveMap idx = s.effectiveMap idx) (ino : Nat) (e : Ent) :
    t.convertEntry idx ino e = s.convertEntry idx ino e := by
  unfold State.convertEntry
  rw [h]

theorem prim_inv {map : Option Map} {s t : State} (h : Inv s) (hp : Prim map s t) : Inv t := by
  cases hp with
  | frame next o i hn => exact ⟨hn, h.zero, h.range, h.slot, h.inj, h.occ, h.inoOk⟩
  | setMap idx hvac hlt => exact h
  | ins b idx path hb hvac h0 hlt hi =>
    cases hi with
    | walkPanic | entryPanic | relative | badRoot => exact h
    | done comps p' inode ent hc hw he =>
      have hino : b.rootIno ≤ VFS_MAX_INO := (convertInode_ok (convertEntry_ok he).1).elim (fun h => h.1 ▸ Nat.zero_le _) (·.1)
      unfold dropOld
      cases ho : s.mnts inode with
      | none => exact add_invT h inode b (mntRecord s b idx path ent) ho rfl hino hvac h0 hlt
      | some o =>
        -- an over-mount is a removal followed by an addition at the same mount point
        have := add_invT (remove_invT h inode o ho) inode b (mntRecord s b idx path ent) (upd_same _ _ _) rfl hino
          (upd_none_none hvac _) h0 hlt
        rwa [upd_upd] at this
  | remove inode m pseudo hm hp => exact remove_invT h inode m hm

end Fbr.Lemmas.VfsInv
