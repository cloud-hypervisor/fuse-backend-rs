/-
  Fbr.Lemmas.PtHostNames — name-check lemmas of the passthrough model, and `leadOf`, the row lookup of
  the generated source tables.
-/
import Fbr.Lemmas.PtHostRun

namespace Fbr.PtHost
open Fbr.Host

/-- `<tag>Lead` row of a function: its first statements -/
def leadOf (tbl : List (String × String × String × List String)) (impl tr fn : String) : Option (List String) :=
  (tbl.find? fun r => r.1 == impl && r.2.1 == tr && r.2.2.1 == fn).map (·.2.2.2)

/-- on C strings (no interior NUL), "starts with `p` and its NUL" is equality -/
theorem startsWith_cstr (n p : Name) (hn : (0 : UInt8) ∉ n) (hp : (0 : UInt8) ∉ p) :
    startsWith (withNul n) (withNul p) = true ↔ n = p := by
  induction n generalizing p with
  | nil =>
    cases p with
    | nil => simp [startsWith, withNul]
    | cons b t =>
      have hb : b ≠ 0 := fun h => hp (by simp [h])
      simp [startsWith, withNul, Ne.symm hb]
  | cons a t ih =>
    have ha : a ≠ 0 := fun h => hn (by simp [h])
    cases p with
    | nil => simp [startsWith, withNul, ha]
    | cons b u =>
      have := ih u (fun h => hn (List.mem_cons_of_mem _ h)) (fun h => hp (List.mem_cons_of_mem _ h))
      simp only [withNul] at this
      simp [startsWith, withNul, this]

theorem mem_withNul_slash (n : Name) : SLASH ∈ withNul n ↔ SLASH ∈ n := by
  simp [withNul, SLASH]

/-- only for a C string (no interior NUL): `[46, 0, 97]` too starts with `CURRENT_DIR_CSTR` once `withNul` is appended -/
theorem isDotOrDotdot_iff (n : Name) (h0 : (0 : UInt8) ∉ n) : isDotOrDotdot n = true ↔ n = [46] ∨ n = [46, 46] := by
  unfold isDotOrDotdot
  rw [Bool.or_eq_true]
  exact or_congr (startsWith_cstr n [46] h0 (by decide)) (startsWith_cstr n [46, 46] h0 (by decide))

theorem validate_none_iff (n : Name) : validatePathComponent n = none ↔ isDotOrDotdot n = false ∧ SLASH ∉ n := by
  unfold validatePathComponent isSafePathComponent
  by_cases hs : SLASH ∈ n
  · simp [hs, (mem_withNul_slash n).mpr hs]
  · simp [hs, mt (mem_withNul_slash n).mp hs]

theorem validate_slash {n : Name} (h : SLASH ∈ n) : validatePathComponent n = some EINVAL := by
  simp [validatePathComponent, isSafePathComponent, (mem_withNul_slash n).mpr h]

variable {α β : Type}

theorem bind_throw {m : M α} {f : α → M β} {s : PtState} {e : Nat} (h : m s = .pure (.error e, s)) :
    (m >>= f) s = .pure (.error e, s) := by
  show M.bind' m f s = _
  simp [M.bind', h, Prog.bind]

theorem bind_ok {m : M α} {f : α → M β} {s s' : PtState} {a : α} (h : m s = .pure (.ok a, s')) :
    (m >>= f) s = f a s' := by
  show M.bind' m f s = _
  simp [M.bind', h, Prog.bind]

theorem validateName_bad (cfg : Cfg) (n : Name) (hc : cfg.doImport = true) (hb : validatePathComponent n = some EINVAL)
    (s : PtState) : validateName cfg n s = .pure (.error EINVAL, s) := by
  simp [validateName, hc, hb, M.throw]

theorem validateName_ok (cfg : Cfg) (n : Name) (hb : validatePathComponent n = none) (s : PtState) :
    validateName cfg n s = .pure (.ok (), s) := by
  unfold validateName
  split
  · rfl
  · simp [hb]; rfl

theorem doUnlink_file {s : PtState} {p : Nat} {d : InodeData} {f : Fd} (hd : s.get p = some d) (hf : d.handle = .file f)
    (n : Name) (flags : Nat) :
    doUnlink p n flags s =
      .call (.unlinkat f n flags) (fun a => .pure ((match a with | .ok => .ok .unit | .err e => .error e | _ => .error EIO), s)) := by
  simp only [doUnlink, bind_def, M.bind', inodeData, M.get, M.ofOption, hd, M.pure', Prog.bind, getFile, hf, unitCall, M.sys,
    pure_def]
  congr 1
  funext a
  cases a <;> simp [M.throw, Prog.bind, M.pure']

/-- the name a request checks before it does anything else: `validate_path_component(name)?` is the
    first statement of the mutators (RENAME checks `oldname` first, then `newname`) -/
def Req.checkedFirst : Req → Option Name
  | .symlink _ _ _ n | .mknod _ _ n .. | .mkdir _ _ n .. | .create _ _ n .. | .unlink _ n | .rmdir _ n | .link _ _ n => some n
  | .rename _ on .. => some on
  | _ => none

theorem step_checkedFirst_bad (cfg : Cfg) (s : PtState) (hc : cfg.doImport = true) {r : Req} {n : Name}
    (hr : r.checkedFirst = some n) (hb : validatePathComponent n = some EINVAL) :
    step cfg s r = .pure (.error EINVAL, s) := by
  cases r <;> cases hr <;> exact bind_throw (validateName_bad cfg n hc hb s)

end Fbr.PtHost
