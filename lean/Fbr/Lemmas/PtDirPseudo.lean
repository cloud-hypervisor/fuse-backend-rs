/-
  C16: `PseudoFs::do_readdir` (index offsets) under the server's accounting.
-/
import Fbr.Lemmas.PtDirAcct

namespace Fbr.Lemmas.PtDir
open Fbr.PtDir Fbr.Wire

/-- the entries a pseudo directory offers from index `k` on: offset of the `i`-th child is `i + 1` -/
def pOffers : List PChild → Nat → List Offer
  | [], _ => []
  | c :: r, k => { ino := c.ino, off := k + 1, type := 0, name := c.name } :: pOffers r (k + 1)

theorem pseudoLoop_srvCb (size : Nat) (plus : Bool) (cs : List PChild) (k : Nat) (a : Acc) :
    ∃ a', pseudoLoop (srvCb size plus none) cs (k + 1) a = (a', .ok ()) ∧
      a'.out = a.out ++ fitting (fun o => fuseLen plus o.name.length) size (pOffers cs k) a.written := by
  induction cs generalizing k a with
  | nil => exact ⟨a, rfl, by simp [pOffers, fitting]⟩
  | cons c r ih =>
    unfold pseudoLoop
    have hstep := srvCb_step size plus a { ino := c.ino, off := k + 1, type := 0, name := c.name }
    simp only [pOffers, fitting]
    by_cases hlt : size - a.written < fuseLen plus c.name.length
    · rw [if_pos hlt] at hstep ⊢
      rw [hstep]
      exact ⟨_, rfl, by simp⟩
    · rw [if_neg hlt] at hstep ⊢
      obtain ⟨n, hn⟩ := hstep
      rw [hn]
      obtain ⟨a', h1, h2⟩ := ih (k + 1) _
      exact ⟨a', h1, h2.trans (by simp)⟩

theorem pseudoRead_spec (children : List PChild) (plus : Bool) (size offset : Nat) (hs : size ≠ 0) :
    pseudoRead children plus size offset none =
      .ok (fitting (fun o => fuseLen plus o.name.length) size (pOffers (children.drop offset) offset) 0) := by
  unfold pseudoRead pseudoReaddir
  simp only [hs, if_false]
  by_cases hlen : offset ≥ children.length
  · simp only [hlen, if_true]
    rw [List.drop_eq_nil_of_le hlen]
    rfl
  · obtain ⟨a', hl, ho⟩ := pseudoLoop_srvCb size plus (children.drop offset) offset ({} : Acc)
    simp only [hlen, if_false, hl, ho]
    rfl

theorem pOffers_drop (cs : List PChild) (k n : Nat) :
    (pOffers cs k).drop n = pOffers (cs.drop n) (k + n) := by
  induction n generalizing cs k with
  | zero => simp
  | succ n ih =>
    cases cs with
    | nil => simp [pOffers]
    | cons c r =>
      simp only [pOffers, List.drop_succ_cons]
      rw [ih r (k + 1)]
      congr 1; omega

theorem pOffers_length (cs : List PChild) (k : Nat) : (pOffers cs k).length = cs.length := by
  induction cs generalizing k with
  | nil => rfl
  | cons c r ih => simp [pOffers, ih]

theorem pOffers_last_off (cs : List PChild) (k : Nat) (p : List Offer) (hp : p <+: pOffers cs k) :
    (p.getLast?.map (·.off)).getD k = k + p.length := by
  induction cs generalizing k p with
  | nil => simp only [pOffers, List.prefix_nil] at hp; subst hp; rfl
  | cons c r ih =>
    cases p with
    | nil => rfl
    | cons x xs =>
      simp only [pOffers] at hp
      obtain ⟨hx, hxs⟩ := List.cons_prefix_cons.mp hp
      cases xs with
      | nil => subst hx; simp
      | cons y ys =>
        have := ih (k + 1) (y :: ys) hxs
        rw [List.getLast?_cons_cons]
        rw [List.getLast?_eq_some_getLast (List.cons_ne_nil y ys)] at this ⊢
        simp only [Option.map_some, Option.getD_some, List.length_cons] at this ⊢
        omega

/-- a sequential walk over a pseudo directory: `(plus, size)` per request -/
def pwalk (children : List PChild) : Nat → List (Bool × Nat) → List (List Offer)
  | _, [] => []
  | c, (plus, size) :: more =>
    match pseudoRead children plus size c none with
    | .ok es => if es.isEmpty then [[]] else es :: pwalk children (lastOff' es c) more
    | .error _ => []
where
  /-- the same function as `lastOff` (`PtDirStep`, a module this one does not import) -/
  lastOff' (es : List Offer) (c : Nat) : Nat := (es.getLast?.map (·.off)).getD c

theorem pwalk_complete (children : List PChild) :
    ∀ (steps : List (Bool × Nat)) (c : Nat), c ≤ children.length →
      (∀ s ∈ steps, s.2 ≠ 0 ∧ ∀ ch ∈ children, fuseLen s.1 ch.name.length ≤ s.2) →
      children.length - c < steps.length →
      (pwalk children c steps).flatten = pOffers (children.drop c) c ∧ (pwalk children c steps).getLast? = some [] := by
  intro steps
  induction steps with
  | nil => intro c _ _ h; simp at h
  | cons s more ih =>
    intro c hc hsteps hl
    obtain ⟨plus, size⟩ := s
    obtain ⟨hs, hfit⟩ := hsteps (plus, size) (by simp)
    simp only at hs hfit
    simp only [pwalk, pseudoRead_spec children plus size c hs]
    have hpre := fitting_prefix (fun o => fuseLen plus o.name.length) size (pOffers (children.drop c) c) 0
    by_cases hpe : fitting (fun o : Offer => fuseLen plus o.name.length) size (pOffers (children.drop c) c) 0 = []
    · -- nothing accepted: nothing left (the first child would fit)
      have hnil : children.drop c = [] := by
        cases hd : children.drop c with
        | nil => rfl
        | cons ch r =>
          rw [hd] at hpe
          exact absurd hpe (fitting_ne_nil _ size _ _ (hfit ch (List.mem_of_mem_drop (by rw [hd]; simp))))
      rw [hnil]
      simp [pOffers, fitting]
    · rw [if_neg (by simpa using hpe)]
      generalize fitting (fun o : Offer => fuseLen plus o.name.length) size (pOffers (children.drop c) c) 0 = p
        at hpre hpe
      have hoff : pwalk.lastOff' p c = c + p.length := pOffers_last_off (children.drop c) c p hpre
      rw [hoff]
      have hplen : p.length ≤ children.length - c := by
        have := hpre.length_le
        rwa [pOffers_length, List.length_drop] at this
      have hp1 : 0 < p.length := List.length_pos_iff.mpr hpe
      obtain ⟨ih1, ih2⟩ := ih (c + p.length) (by omega) (fun s hs' => hsteps s (by simp [hs']))
        (by simp only [List.length_cons] at hl; omega)
      refine walk_cons hpre ?_ ih2
      rw [ih1, pOffers_drop, List.drop_drop]

end Fbr.Lemmas.PtDir
