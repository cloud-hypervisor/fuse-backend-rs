/-
  Fbr.Lemmas.PtHostDirect — "which calls of a request can change the host tree".
  `DirectCall` (Fbr.Lemmas.PtHostCalls) is the one-line-per-operation specification: the host call(s) a
  request corresponds to.  Every other call of a request cannot change any file-system object
  (`HCall.readOnly`: lookups with O_PATH, stat, readlink, read, non-truncating re-opens, fsync, credential
  switches, ...): `Own r` says so of the request's own calls, `Aux`, `Look` and `Switch` are checked here.
-/
import Fbr.Lemmas.PtHostCalls

namespace Fbr.PtHost
open Fbr.Host

theorem Aux.readOnly (c : HCall) (h : Aux c) : c.readOnly = true := by
  cases h <;> first | rfl | decide

theorem Look.readOnly (c : HCall) (h : Look c) : c.readOnly = true := by
  cases h <;> first | rfl | decide

theorem Switch.readOnly (c : HCall) (h : Switch c) : c.readOnly = true := by cases h <;> rfl

theorem allowed_handle (cfg : Cfg) (r : Req) : OnlyM (Allowed r) (handle cfg r) :=
  only_handle cfg r (fun _ h => Or.inl h.readOnly) (fun _ h => Or.inl h.readOnly) Own.allowed
    fun _ h => Or.inl h.readOnly

theorem view_of_onlyReadOnly {σ α : Type} (H : HostOps σ) [L : HostLaws H] (p : Prog α)
    (h : p.OnlyCalls (fun c => c.readOnly = true)) (s : σ) (o : Obj) :
    H.view (fin H p s) o = H.view s o := by
  induction p generalizing s with
  | pure a => rfl
  | call c k ih =>
    rw [fin_call, ih _ (h.2 _), L.view_readOnly s c h.1]

/-- requests without a direct call -/
def Req.isReadOnly : Req → Bool
  | .lookup .. | .forget .. | .getattr .. | .readlink .. | .flush .. | .release .. | .releasedir .. | .lseek ..
  | .statfs .. | .getxattr .. | .listxattr .. => true
  | _ => false

theorem readOnly_requests_calls (cfg : Cfg) (s : PtState) (r : Req) (hr : r.isReadOnly = true) :
    (step cfg s r).OnlyCalls (fun c => c.readOnly = true) := by
  refine onlyCalls_mono _ ((allowed_handle cfg r).h s) fun c hc => hc.elim id fun hd => ?_
  cases r <;> first | exact hd.elim | cases hr

end Fbr.PtHost
