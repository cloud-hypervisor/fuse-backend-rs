/-
  The handle table one operation at a time.  Which handle an operation acts on (`Op.rh`, `Op.wh`,
  `Op.fh`), the cursor and world it leaves there (`readerRun`, `writerRun`, `fuseRun`), the bytes
  it delivers or stores through a handle (`delivered`, `placed`, `fplaced`), and `step_cases`,
  which sorts the 17 operations of `step` into eight shapes.  Every invariant of the table is
  proved per shape; the contracts of the single operations come in through `readerRun` etc.
-/
import Fbr.XportSys

namespace Fbr.Xport

def Op.rh : Op → Option Nat
  | .rd h _ => some h
  | .ro h _ => some h
  | .rt h _ _ _ => some h
  | .re h _ _ => some h
  | .rs h _ => some h
  | _ => none

/-- the writer handle an operation acts on (`commit` changes nothing and is not listed) -/
def Op.wh : Op → Option Nat
  | .wr h _ => some h
  | .wv h _ => some h
  | .wf h _ _ _ => some h
  | .wa h _ _ => some h
  | .ws h _ => some h
  | _ => none

def Op.fh : Op → Option Nat
  | .fw h _ => some h
  | .fv h _ => some h
  | .ff h _ _ _ => some h
  | .fa h _ _ => some h
  | .fs h _ => some h
  | .fc h _ => some h
  | _ => none

/-- the bytes a reader operation on cursor `b` returns into the caller's buffer (`read`,
    `read_obj` — also the part filled before a failure) or delivers to its sink (`read_to(_at)`,
    `read_exact_to`: what the sink received during the call).  The fuel of the retry loops is the
    one `step` passes: `count + answers.length + 1`, because a round that does not end the loop
    either moves a byte (lowering `count`) or is an `Interrupted` popped from the script's answers;
    no lemma states that it is never exhausted — the loop rules (`readExactTo_rule`, …) treat
    fuel 0 as one more way for the loop to stop -/
def readerOut (b : IoBufs) (w : World) : Op → Bytes
  | .rd _ n => (Reader.read b w n).aux
  | .ro _ n => (Reader.readObj b w n).aux
  | .rt _ count at_ sc => ((Reader.readTo b w sc count at_.isSome).aux.got).drop sc.got.length
  | .re _ count sc => ((Reader.readExactTo (count + sc.answers.length + 1) b w sc count).aux.got).drop sc.got.length
  | _ => []

/-- the bytes a writer operation on cursor `b` stores: the first `n` bytes of its source (the
    caller's buffer(s) in order, the byte stream of the scripted file from its position), `n`
    being the advance of the cursor — for `write`/`write_vectored`/`write_from(_at)` the count the
    operation reports (`vwrite_delta`, `writeFrom_wrc`) -/
def writerIn (b : IoBufs) (w : World) : Op → Bytes
  | .wr _ data => data.take ((VirtioW.write b w data).b.consumed - b.consumed)
  | .wv _ datas => datas.flatten.take ((VirtioW.writeVectored b w datas).b.consumed - b.consumed)
  | .wf _ count at_ sc => patBytes sc.seed (at_.getD sc.pos) ((VirtioW.writeFrom b w sc count at_).b.consumed - b.consumed)
  | .wa _ count sc => patBytes sc.seed sc.pos ((VirtioW.writeAllFrom b w sc count).b.consumed - b.consumed)
  | _ => []

/-- the bytes a FuseDevWriter operation appends: the first `n` bytes of its source, `n` the growth
    of `len` (the count it reports: `fwrite_fwc`, `fwriteVectored_fwc`, `fwriteFrom_fws`) -/
def fwriterIn (f : FuseW) (w : World) : Op → Bytes
  | .fw _ data => data.take ((FuseW.write f w data).f.len - f.len)
  | .fv _ datas => datas.flatten.take ((FuseW.writeVectored f w datas).f.len - f.len)
  | .ff _ count at_ sc => patBytes sc.seed (at_.getD sc.pos) ((FuseW.writeFrom f w sc count at_).f.len - f.len)
  | .fa _ count sc => patBytes sc.seed sc.pos ((FuseW.writeAllFrom f w sc count).f.len - f.len)
  | _ => []

def delivered (s : St) (i : Nat) (op : Op) : Bytes :=
  if op.rh = some i then (match s.readers[i]? with | some b => readerOut b s.w op | none => []) else []

def placed (s : St) (i : Nat) (op : Op) : Bytes :=
  if op.wh = some i then (match s.writers[i]? with | some b => writerIn b s.w op | none => []) else []

def fplaced (s : St) (i : Nat) (op : Op) : Bytes :=
  if op.fh = some i then (match s.fws[i]? with | some f => fwriterIn f s.w op | none => []) else []

def deliveredAll (s : St) (i : Nat) : List Op → Bytes
  | [] => []
  | op :: rest => delivered s i op ++ deliveredAll (step s op).1 i rest

def placedAll (s : St) (i : Nat) : List Op → Bytes
  | [] => []
  | op :: rest => placed s i op ++ placedAll (step s op).1 i rest

def fplacedAll (s : St) (i : Nat) : List Op → Bytes
  | [] => []
  | op :: rest => fplaced s i op ++ fplacedAll (step s op).1 i rest

theorem delivered_eq {s : St} {op : Op} {h : Nat} {b : IoBufs} (hrh : op.rh = some h) (hg : s.readers[h]? = some b)
    (i : Nat) : delivered s i op = if i = h then readerOut b s.w op else [] := by
  unfold delivered
  split
  · next e => cases hrh.symm.trans e; rw [hg, if_pos rfl]
  · next e => rw [if_neg fun (hi : i = h) => e (hi ▸ hrh)]

theorem delivered_none {s : St} {op : Op} (hrh : op.rh = none) (i : Nat) : delivered s i op = [] := by
  unfold delivered; rw [hrh]; simp

theorem delivered_invalid {s : St} {op : Op} {h : Nat} (hrh : op.rh = some h) (hg : s.readers[h]? = none)
    (i : Nat) : delivered s i op = [] := by
  unfold delivered
  split
  · next e => cases hrh.symm.trans e; rw [hg]
  · rfl

theorem placed_eq {s : St} {op : Op} {h : Nat} {b : IoBufs} (hwh : op.wh = some h) (hg : s.writers[h]? = some b)
    (i : Nat) : placed s i op = if i = h then writerIn b s.w op else [] := by
  unfold placed
  split
  · next e => cases hwh.symm.trans e; rw [hg, if_pos rfl]
  · next e => rw [if_neg fun (hi : i = h) => e (hi ▸ hwh)]

theorem placed_none {s : St} {op : Op} (hwh : op.wh = none) (i : Nat) : placed s i op = [] := by
  unfold placed; rw [hwh]; simp

theorem placed_invalid {s : St} {op : Op} {h : Nat} (hwh : op.wh = some h) (hg : s.writers[h]? = none)
    (i : Nat) : placed s i op = [] := by
  unfold placed
  split
  · next e => cases hwh.symm.trans e; rw [hg]
  · rfl

theorem fplaced_eq {s : St} {op : Op} {h : Nat} {f : FuseW} (hfh : op.fh = some h) (hg : s.fws[h]? = some f)
    (i : Nat) : fplaced s i op = if i = h then fwriterIn f s.w op else [] := by
  unfold fplaced
  split
  · next e => cases hfh.symm.trans e; rw [hg, if_pos rfl]
  · next e => rw [if_neg fun (hi : i = h) => e (hi ▸ hfh)]

theorem fplaced_none {s : St} {op : Op} (hfh : op.fh = none) (i : Nat) : fplaced s i op = [] := by
  unfold fplaced; rw [hfh]; simp

theorem fplaced_invalid {s : St} {op : Op} {h : Nat} (hfh : op.fh = some h) (hg : s.fws[h]? = none)
    (i : Nat) : fplaced s i op = [] := by
  unfold fplaced
  split
  · next e => cases hfh.symm.trans e; rw [hg]
  · rfl

theorem delivered_rs (s : St) (h k i : Nat) : delivered s i (.rs h k) = [] := by
  unfold delivered; split
  · split <;> rfl
  · rfl

theorem placed_ws (s : St) (h k i : Nat) : placed s i (.ws h k) = [] := by
  unfold placed; split
  · split <;> rfl
  · rfl

theorem fplaced_fs (s : St) (h k i : Nat) : fplaced s i (.fs h k) = [] := by
  unfold fplaced; split
  · split <;> rfl
  · rfl

theorem fplaced_fc (s : St) (h : Nat) (o : Option Nat) (i : Nat) : fplaced s i (.fc h o) = [] := by
  unfold fplaced; split
  · split <;> rfl
  · rfl

theorem rh_wh {op : Op} {h : Nat} (hrh : op.rh = some h) : op.wh = none := by
  cases op <;> first | rfl | cases hrh

theorem rh_fh {op : Op} {h : Nat} (hrh : op.rh = some h) : op.fh = none := by
  cases op <;> first | rfl | cases hrh

theorem wh_rh {op : Op} {h : Nat} (hwh : op.wh = some h) : op.rh = none := by
  cases op <;> first | rfl | cases hwh

theorem fh_rh {op : Op} {h : Nat} (hfh : op.fh = some h) : op.rh = none := by
  cases op <;> first | rfl | cases hfh

def readerRun (b : IoBufs) (w : World) : Op → IoBufs × World
  | .rd _ n => ((Reader.read b w n).b, (Reader.read b w n).w)
  | .ro _ n => ((Reader.readObj b w n).b, (Reader.readObj b w n).w)
  | .rt _ count at_ sc => ((Reader.readTo b w sc count at_.isSome).b, (Reader.readTo b w sc count at_.isSome).w)
  | .re _ count sc =>
    ((Reader.readExactTo (count + sc.answers.length + 1) b w sc count).b,
     (Reader.readExactTo (count + sc.answers.length + 1) b w sc count).w)
  | _ => (b, w)

def writerRun (b : IoBufs) (w : World) : Op → IoBufs × World
  | .wr _ data => ((VirtioW.write b w data).b, (VirtioW.write b w data).w)
  | .wv _ datas => ((VirtioW.writeVectored b w datas).b, (VirtioW.writeVectored b w datas).w)
  | .wf _ count at_ sc => ((VirtioW.writeFrom b w sc count at_).b, (VirtioW.writeFrom b w sc count at_).w)
  | .wa _ count sc => ((VirtioW.writeAllFrom b w sc count).b, (VirtioW.writeAllFrom b w sc count).w)
  | _ => (b, w)

def fuseRun (f : FuseW) (w : World) : Op → FuseW × World
  | .fw _ data => ((FuseW.write f w data).f, (FuseW.write f w data).w)
  | .fv _ datas => ((FuseW.writeVectored f w datas).f, (FuseW.writeVectored f w datas).w)
  | .ff _ count at_ sc => ((FuseW.writeFrom f w sc count at_).f, (FuseW.writeFrom f w sc count at_).w)
  | .fa _ count sc => ((FuseW.writeAllFrom f w sc count).f, (FuseW.writeAllFrom f w sc count).w)
  | _ => (f, w)

/-- the operation leaves the table as it is and moves no bytes: unknown handle, refused split,
    virtio-fs `commit` -/
def Idle (s : St) (op : Op) : Prop :=
  (step s op).1 = s ∧ (∀ i, delivered s i op = []) ∧ (∀ i, placed s i op = []) ∧ (∀ i, fplaced s i op = [])

def ReaderOp (s : St) (op : Op) (h : Nat) (b : IoBufs) : Prop :=
  op.rh = some h ∧ s.readers[h]? = some b
    ∧ (step s op).1 = { s with w := (readerRun b s.w op).2, readers := s.readers.set h (readerRun b s.w op).1 }

def ReaderSplit (s : St) (op : Op) (h k : Nat) (b a o : IoBufs) : Prop :=
  op = .rs h k ∧ s.readers[h]? = some b ∧ b.splitAt k = .ok (a, o)
    ∧ (step s op).1 = { s with readers := s.readers.set h a ++ [o] }

def WriterOp (s : St) (op : Op) (h : Nat) (b : IoBufs) : Prop :=
  op.wh = some h ∧ s.writers[h]? = some b
    ∧ (step s op).1 = { s with w := (writerRun b s.w op).2, writers := s.writers.set h (writerRun b s.w op).1 }

def WriterSplit (s : St) (op : Op) (h k : Nat) (b a o : IoBufs) : Prop :=
  op = .ws h k ∧ s.writers[h]? = some b ∧ b.splitAt k = .ok (a, o)
    ∧ (step s op).1 = { s with writers := s.writers.set h a ++ [o] }

def FuseOp (s : St) (op : Op) (h : Nat) (f : FuseW) : Prop :=
  op.fh = some h ∧ s.fws[h]? = some f
    ∧ (step s op).1 = { s with w := (fuseRun f s.w op).2, fws := s.fws.set h (fuseRun f s.w op).1 }

def FuseSplit (s : St) (op : Op) (h k : Nat) (f a o : FuseW) : Prop :=
  op = .fs h k ∧ s.fws[h]? = some f ∧ f.splitAt k = .ok (a, o)
    ∧ (step s op).1 = { s with fws := s.fws.set h a ++ [o] }

def FuseCommit (s : St) (op : Op) (h : Nat) (o : Option Nat) (f : FuseW) : Prop :=
  op = .fc h o ∧ s.fws[h]? = some f
    ∧ (step s op).1 = { s with w := (FuseW.commit f s.w (o.bind fun i => s.fws[i]?)).2 }

theorem step_cases (s : St) (op : Op) :
    Idle s op ∨ (∃ h b, ReaderOp s op h b) ∨ (∃ h k b a o, ReaderSplit s op h k b a o)
    ∨ (∃ h b, WriterOp s op h b) ∨ (∃ h k b a o, WriterSplit s op h k b a o)
    ∨ (∃ h f, FuseOp s op h f) ∨ (∃ h k f a o, FuseSplit s op h k f a o) ∨ (∃ h o f, FuseCommit s op h o f) := by
  cases op with
  | rd h _ | ro h _ | rt h _ _ _ | re h _ _ =>
    cases hg : s.readers[h]? with
    | none => exact .inl ⟨by simp only [step, hg], delivered_invalid rfl hg, placed_none rfl, fplaced_none rfl⟩
    | some b => exact .inr (.inl ⟨h, b, rfl, hg, by simp only [step, hg, setAt, readerRun]⟩)
  | rs h k =>
    cases hg : s.readers[h]? with
    | none => exact .inl ⟨by simp only [step, hg], delivered_invalid rfl hg, placed_none rfl, fplaced_none rfl⟩
    | some b =>
      cases hs : b.splitAt k with
      | error e => exact .inl ⟨by simp only [step, hg, hs], delivered_rs s h k, placed_none rfl, fplaced_none rfl⟩
      | ok r => exact .inr (.inr (.inl ⟨h, k, b, r.1, r.2, rfl, hg, hs, by simp only [step, hg, hs, setAt]⟩))
  | wr h _ | wv h _ | wf h _ _ _ | wa h _ _ =>
    cases hg : s.writers[h]? with
    | none => exact .inl ⟨by simp only [step, hg], delivered_none rfl, placed_invalid rfl hg, fplaced_none rfl⟩
    | some b => exact .inr (.inr (.inr (.inl ⟨h, b, rfl, hg, by simp only [step, hg, setAt, writerRun]⟩)))
  | ws h k =>
    cases hg : s.writers[h]? with
    | none => exact .inl ⟨by simp only [step, hg], delivered_none rfl, placed_invalid rfl hg, fplaced_none rfl⟩
    | some b =>
      cases hs : b.splitAt k with
      | error e => exact .inl ⟨by simp only [step, hg, hs], delivered_none rfl, placed_ws s h k, fplaced_none rfl⟩
      | ok r =>
        exact .inr (.inr (.inr (.inr (.inl ⟨h, k, b, r.1, r.2, rfl, hg, hs, by simp only [step, hg, hs, setAt]⟩))))
  | wc h o =>
    refine .inl ⟨?_, delivered_none rfl, placed_none rfl, fplaced_none rfl⟩
    simp only [step]
    cases s.writers[h]? <;> rfl
  | fw h _ | fv h _ | ff h _ _ _ | fa h _ _ =>
    cases hg : s.fws[h]? with
    | none => exact .inl ⟨by simp only [step, hg], delivered_none rfl, placed_none rfl, fplaced_invalid rfl hg⟩
    | some f =>
      exact .inr (.inr (.inr (.inr (.inr (.inl ⟨h, f, rfl, hg, by simp only [step, hg, setAt, fuseRun]⟩)))))
  | fs h k =>
    cases hg : s.fws[h]? with
    | none => exact .inl ⟨by simp only [step, hg], delivered_none rfl, placed_none rfl, fplaced_invalid rfl hg⟩
    | some f =>
      cases hs : f.splitAt k with
      | error e => exact .inl ⟨by simp only [step, hg, hs], delivered_none rfl, placed_none rfl, fplaced_fs s h k⟩
      | ok r =>
        exact .inr (.inr (.inr (.inr (.inr (.inr (.inl
          ⟨h, k, f, r.1, r.2, rfl, hg, hs, by simp only [step, hg, hs, setAt]⟩))))))
  | fc h o =>
    cases hg : s.fws[h]? with
    | none => exact .inl ⟨by simp only [step, hg], delivered_none rfl, placed_none rfl, fplaced_invalid rfl hg⟩
    | some f => exact .inr (.inr (.inr (.inr (.inr (.inr (.inr ⟨h, o, f, rfl, hg, by simp only [step, hg]⟩))))))

theorem step_cases_nofuse (s : St) (op : Op) (hnf : s.fws = []) :
    Idle s op ∨ (∃ h b, ReaderOp s op h b) ∨ (∃ h k b a o, ReaderSplit s op h k b a o)
    ∨ (∃ h b, WriterOp s op h b) ∨ (∃ h k b a o, WriterSplit s op h k b a o) := by
  rcases step_cases s op with h | h | h | h | h | ⟨i, f, _, hg, _⟩ | ⟨i, k, f, a, o, _, hg, _⟩ | ⟨i, o, f, _, hg, _⟩
  · exact .inl h
  · exact .inr (.inl h)
  · exact .inr (.inr (.inl h))
  · exact .inr (.inr (.inr (.inl h)))
  · exact .inr (.inr (.inr (.inr h)))
  all_goals rw [hnf] at hg; cases hg

theorem exec_induct {P : St → Prop} (hstep : ∀ {s}, P s → ∀ op, P (step s op).1) (ops : List Op) {s : St} (h : P s) :
    P (exec s ops) := by
  induction ops generalizing s with
  | nil => exact h
  | cons op rest ih => exact ih (hstep h op)

theorem exec_append (s : St) (a b : List Op) : exec s (a ++ b) = exec (exec s a) b := by
  induction a generalizing s with
  | nil => rfl
  | cons op rest ih => exact ih _

end Fbr.Xport
