/-
  `Fbr.Conc`: the ghost `incs f` is the number of completed lookups of `f` recorded in the threads'
  result lists (for any finite set of running threads).
-/
import Fbr.Lemmas.ConcStep

namespace Fbr.Conc

/-- completed lookups of `f` recorded by thread `t` -/
def done1 (s : Sys) (f : HostId) (t : Tid) : Nat :=
  ((s.threads t).results.filter (fun r => r.1 = f)).length

/-- completed lookups of `f` recorded by threads `0 … n-1` -/
def doneCount (s : Sys) (n : Nat) (f : HostId) : Nat := ((List.range n).map (done1 s f)).sum

theorem sum_range_update (n : Nat) (g g' : Nat → Nat) (t : Nat) (ht : t < n) (k : Nat)
    (hsame : ∀ x, x ≠ t → g' x = g x) (hat : g' t = g t + k) :
    ((List.range n).map g').sum = ((List.range n).map g).sum + k := by
  induction n with
  | zero => omega
  | succ m ih =>
    rw [List.range_succ, List.map_append, List.map_append, List.sum_append, List.sum_append]
    simp only [List.map_cons, List.map_nil, List.sum_cons, List.sum_nil, Nat.add_zero]
    by_cases e : t = m
    · subst e
      have : ((List.range t).map g').sum = ((List.range t).map g).sum :=
        congrArg List.sum (List.map_congr_left fun x hx => hsame x (by have := List.mem_range.mp hx; omega))
      rw [this, hat]; omega
    · have := ih (by omega)
      rw [this, hsame m (fun x => e x.symm)]; omega

/-- `s'` is `s` after thread `t` moved on, possibly returning from a request with `res`: the ghost
    and the result list of `t` record `res`, the other threads are untouched -/
def Moves (s s' : Sys) (t : Tid) : Prop :=
  ∃ res th, s'.incs = bump s.incs res ∧ s'.threads = upd s.threads t th
    ∧ th.results = (pushRes (s.threads t) res).results

theorem Moves.refl (s : Sys) (t : Tid) : Moves s s t :=
  ⟨none, s.threads t, rfl, by funext x; simp only [upd_apply]; split <;> simp_all, rfl⟩

theorem Moves.setPc {s s1 : Sys} {t : Tid} (ht : s1.threads = s.threads) (hi : s1.incs = s.incs) (pc : PC) :
    Moves s (setPc s1 t pc) t :=
  ⟨none, { s.threads t with pc := pc }, hi, by simp only [Conc.setPc, setThread, ht], rfl⟩

theorem Moves.finish {s s1 : Sys} {t : Tid} (ht : s1.threads = s.threads) (hi : s1.incs = s.incs)
    (res : Option (HostId × Ino)) : Moves s (finish s1 t res) t :=
  ⟨res, advance (pushRes (s.threads t) res), by simp only [Conc.finish, hi],
    by simp only [Conc.finish, ht], advance_results _⟩

theorem Shape.moves {c : Cfg} {s s' : Sys} {t : Tid} (h : Shape c s t s') : Moves s s' t := by
  cases h with
  | stay => exact .refl s t
  | move | lock => exact .setPc rfl rfl _
  | cas | fetchAdd | insert | unlock | remove => exact .finish rfl rfl _
  | dec =>
    split
    · exact .setPc rfl rfl _
    · exact .finish rfl rfl _

theorem step_moves (c : Cfg) (s : Sys) (t : Tid) : Moves s (step c s t) t := (step_shape c s t).moves

/-- how many lookups of `f` a result adds -/
def resIs (f : HostId) : Option (HostId × Ino) → Nat
  | some (g, _) => if g = f then 1 else 0
  | none => 0

theorem bump_apply (incs : HostId → Nat) (r : Option (HostId × Ino)) (f : HostId) :
    bump incs r f = incs f + resIs f r := by
  cases r with
  | none => rfl
  | some p =>
    obtain ⟨g, i⟩ := p
    simp only [bump, upd_apply, resIs]
    by_cases e : f = g
    · subst e; simp
    · have : ¬ g = f := fun x => e x.symm
      simp [e, this]

theorem pushRes_count (th : Thread) (r : Option (HostId × Ino)) (f : HostId) :
    ((pushRes th r).results.filter (fun x => x.1 = f)).length
      = (th.results.filter (fun x => x.1 = f)).length + resIs f r := by
  cases r with
  | none => rfl
  | some p =>
    obtain ⟨g, i⟩ := p
    simp only [pushRes, resIs, List.filter_cons]
    by_cases e : g = f <;> simp [e]

/-- the invariant tying the ghost to the result lists of the threads `0 … n-1` -/
structure CountInv (s : Sys) (n : Nat) : Prop where
  cnt : ∀ f, s.incs f = doneCount s n f
  idle : ∀ t, n ≤ t → (s.threads t).pc = .done

theorem countInv_step (c : Cfg) {s : Sys} {n : Nat} (h : CountInv s n) (t : Tid) : CountInv (step c s t) n := by
  by_cases ht : t < n
  · obtain ⟨res, th, hi, hth, hr⟩ := step_moves c s t
    constructor
    · intro f
      rw [hi, bump_apply, h.cnt f]
      unfold doneCount
      symm
      apply sum_range_update n (done1 s f) (done1 (step c s t) f) t ht
      · intro x hx
        simp only [done1, hth, upd_apply, hx, if_false]
      · simp only [done1, hth, upd_apply, if_true, hr]
        exact pushRes_count _ _ f
    · intro t' ht'
      have hne : t' ≠ t := by intro e; subst e; exact absurd ht (Nat.not_lt.mpr ht')
      simp only [hth, upd_apply, hne, if_false]
      exact h.idle t' ht'
  · have hd := h.idle t (Nat.le_of_not_lt ht)
    rw [step_disabled c (by unfold enabled; rw [hd])]; exact h

theorem countInv_init (progs : Tid → List Op) (n : Nat) (hn : ∀ t, n ≤ t → progs t = []) :
    CountInv (Sys.init progs) n := by
  constructor
  · intro f
    -- no thread has a result yet
    refine (List.sum_eq_zero_iff_forall_eq_nat.mpr fun y hy => ?_).symm
    obtain ⟨x, _, rfl⟩ := List.mem_map.mp hy
    unfold done1
    rw [show ((Sys.init progs).threads x).results = [] from advance_results _]
    rfl
  · intro t ht
    simp [Sys.init, advance, hn t ht]

theorem countInv_run (c : Cfg) {s : Sys} {n : Nat} (h : CountInv s n) (sched : List Tid) : CountInv (run c s sched) n :=
  List.foldlRecOn (motive := (CountInv · n)) sched _ h fun _ h t _ => countInv_step c h t

end Fbr.Conc
