/-
  Id-mapping lemmas: arithmetic of `remap_id`, and the invariant that ties every mount point to
  the mapping given at its mount and to the once-translated owner of its root.
-/
import Fbr.Vfs
import Fbr.Lemmas.VfsStep
import Fbr.Lemmas.VfsInv

namespace Fbr.Lemmas.VfsMap
open Fbr.Vfs Fbr.Lemmas.VfsStep Fbr.Lemmas.VfsInv

theorem remapId_in_range {v a b r : Nat} (hb : b + r ≤ U32) (h1 : a ≤ v) (h2 : v - a < r) :
    remapId v a b r = some (v - a + b) := by
  unfold remapId U32 at *
  have : v - a + b < 2 ^ 32 := by omega
  simp [h1, h2, this]

theorem remapId_outside {v a b r : Nat} (h : ¬ (a ≤ v ∧ v - a < r)) : remapId v a b r = some v := by
  unfold remapId
  simp [h]

theorem remapId_total {v b r : Nat} (a : Nat) (hb : b + r ≤ U32) (hv : v < U32) :
    ∃ w, remapId v a b r = some w ∧ w < U32 := by
  by_cases h : a ≤ v ∧ v - a < r
  · refine ⟨v - a + b, remapId_in_range hb h.1 h.2, ?_⟩
    unfold U32 at *; omega
  · exact ⟨v, remapId_outside h, hv⟩

/-- the no-overflow guard on a mapping, `base + range ≤ 2^32` for both bases: a hypothesis on the configuration
    (the crate does not check it) under which `remap_id` cannot overflow in either direction -/
def MapOk (m : Map) : Prop := m.1 + m.2.2 ≤ U32 ∧ m.2.1 + m.2.2 ≤ U32

def OptMapOk : Option Map → Prop
  | none => True
  | some m => MapOk m

theorem remapPair_total {m : Option Map} (toExt : Bool) {u g : Nat} (hm : OptMapOk m) (hu : u < U32) (hg : g < U32) :
    ∃ u' g', remapPair m toExt u g = some (u', g') := by
  unfold remapPair
  cases m with
  | none => exact ⟨u, g, rfl⟩
  | some m =>
    obtain ⟨i, e, r⟩ := m
    obtain ⟨h1, h2⟩ := hm
    simp only at h1 h2
    cases toExt
    · obtain ⟨u', hu', _⟩ := remapId_total e h1 hu
      obtain ⟨g', hg', _⟩ := remapId_total e h1 hg
      exact ⟨u', g', by simp [hu', hg']⟩
    · obtain ⟨u', hu', _⟩ := remapId_total i h2 hu
      obtain ⟨g', hg', _⟩ := remapId_total i h2 hg
      exact ⟨u', g', by simp [hu', hg']⟩

def MapInv (s : State) : Prop :=
  ∀ p m, s.mnts p = some m →
    s.mountMaps m.idx = m.map ∧
    ∃ b, s.supers m.idx = some b ∧ m.ino = b.rootIno ∧
      convertInode m.idx b.rootIno = .ok m.rootEntry.inode ∧ m.rootEntry.stIno = m.rootEntry.inode ∧
      remapPair (s.effectiveMap m.idx) true b.rootUid b.rootGid = some (m.rootEntry.uid, m.rootEntry.gid)

theorem mapInv_new (opts : Opts) (rm : Bool) : MapInv (State.new opts rm) := by
  intro p m h
  simp [State.new] at h

theorem effectiveMap_congr {s t : State} {i : Nat} (h1 : t.mountMaps i = s.mountMaps i) (h2 : t.globalMap = s.globalMap) :
    t.effectiveMap i = s.effectiveMap i := by
  unfold State.effectiveMap
  rw [h1, h2]

/-- the clause of a mount point reads its own slot and mapping, and the global mapping -/
theorem mapInv_keep {s t : State} (h : MapInv s) {p : Nat} {m : Mnt} (hm : s.mnts p = some m)
    (h1 : t.supers m.idx = s.supers m.idx) (h2 : t.mountMaps m.idx = s.mountMaps m.idx) (h3 : t.globalMap = s.globalMap) :
    t.mountMaps m.idx = m.map ∧
    ∃ b, t.supers m.idx = some b ∧ m.ino = b.rootIno ∧
      convertInode m.idx b.rootIno = .ok m.rootEntry.inode ∧ m.rootEntry.stIno = m.rootEntry.inode ∧
      remapPair (t.effectiveMap m.idx) true b.rootUid b.rootGid = some (m.rootEntry.uid, m.rootEntry.gid) := by
  obtain ⟨a, b, hb, c⟩ := h p m hm
  rw [h1, h2, effectiveMap_congr h2 h3]
  exact ⟨a, b, hb, c⟩

/-- the record of a mount point holds what `convert_entry` makes of its backend's root, so mounting the
    backend again in the same slot reproduces the stored root entry -/
theorem MapInv.rootEntry {s : State} (h : MapInv s) {p : Nat} {m : Mnt} {b : Bk} (hm : s.mnts p = some m)
    (hb : s.supers m.idx = some b) :
    s.mountMaps m.idx = m.map ∧ m.ino = b.rootIno ∧
      s.convertEntry m.idx b.rootIno b.rootEnt = some (.ok m.rootEntry) := by
  obtain ⟨h0, b', hb', h1, h2, h3, h4⟩ := h p m hm
  obtain rfl : b = b' := Option.some.inj (hb.symm.trans hb')
  exact ⟨h0, h1, convertEntry_of_ok h2 h3 h4⟩

theorem prim_mapInv {map : Option Map} {s t : State} (hinv : Inv s) (h : MapInv s) (hp : Prim map s t) : MapInv t := by
  cases hp with
  | frame next o i hn => exact fun p m hm => mapInv_keep h hm rfl rfl rfl
  | setMap idx hvac hlt => exact fun p m hm => mapInv_keep h hm rfl (upd_other _ _ (hinv.idx_ne_vacant hm hvac)) rfl
  | ins b idx path hb hvac h0 hlt hi =>
    cases hi with
    | walkPanic | entryPanic | relative => exact h
    | badRoot => exact fun p m hm => mapInv_keep h hm rfl rfl rfl
    | done comps p' inode ent hc hw he =>
      intro p m hm
      rcases upd_some hm with ⟨_, hv⟩ | ⟨hp, hm⟩
      · cases hv
        obtain ⟨c1, c2, c3⟩ := convertEntry_ok he
        exact ⟨rfl, b, upd_same _ _ _, rfl, c1, c2, c3⟩
      · refine mapInv_keep h hm ?_ rfl rfl
        show upd (dropOld s inode) idx (some b) m.idx = s.supers m.idx
        rw [upd_other _ _ (hinv.idx_ne_vacant hm hvac)]
        exact dropOld_other fun o ho he => hp (hinv.inj p inode m o hm ho he)
  | remove inode m0 pseudo hm0 hp =>
    intro p m hm
    obtain ⟨hp, hm⟩ := upd_none_some hm
    have hne : m.idx ≠ m0.idx := fun he => hp (hinv.inj p inode m m0 hm hm0 he)
    exact mapInv_keep h hm (upd_other _ _ hne) (upd_other _ _ hne) rfl

end Fbr.Lemmas.VfsMap
