/-
  Fbr.Lemmas.HostRefGood — the export is closed in the reference FS.  `Good`: every descriptor and
  handle denotes an object of the export, and the export is closed under entries and "..".  From a
  `Good` state, a call whose descriptor-producing lookups are confined — `O_NOFOLLOW|O_PATH`, a single
  component, not ".." on the export root — changes no object of the sentinel tree and keeps `Good`:
  whatever it opens, truncates, links or moves is an export object (`Opens.inside`).  Both are read off
  `Eff` in one case analysis (`Eff.inside`), one primitive update at a time.  `Frame s t` says what stays
  of `s` outside the export; it is transitive, so runs (`run_good`) and histories compose it step by step.
-/
import Fbr.Lemmas.HostRef

namespace Fbr.Host.Ref

/-- closure of the export side (`sent o = false`) of the reference FS -/
structure Good (s : State) : Prop where
  children : ∀ d n nm c, s.nodes d = some n → s.sent d = false → n.entries.lookup nm = some c → s.sent c = false
  parent : ∀ d n, s.nodes d = some n → s.sent d = false → n.kind = .dir → d ≠ s.exportRoot → s.sent n.parent = false
  /-- the export root is not the host root (the export lies inside a larger tree) -/
  rootBelow : s.exportRoot ≠ s.hostRoot
  hostRootOut : s.sent s.hostRoot = true
  fresh : ∀ o, s.next ≤ o → s.sent o = false ∧ s.nodes o = none
  fds : ∀ f e, s.fds f = some e → s.sent e.obj = false
  handles : ∀ h o, s.handles h = some o → s.sent o = false

theorem lookup1_inside {s : State} (g : Good s) {d : Obj} {name : Name} {o : Obj}
    (hd : s.sent d = false) (hroot : ¬ (d = s.exportRoot ∧ name = dotdot)) (h : lookup1 s d name = .ok o) :
    s.sent o = false := by
  unfold lookup1 at h
  split at h
  · cases h
  rename_i n hn
  obtain ⟨hk, h⟩ := ok_of_guard h
  replace h := (ok_of_guard h).2
  by_cases h1 : (name == dot) = true
  · rw [if_pos h1] at h; cases h; exact hd
  rw [if_neg h1] at h
  by_cases h2 : (name == dotdot) = true
  · rw [if_pos h2] at h; cases h
    split
    · exact hd
    · exact g.parent d n hn hd (by simpa using hk) (fun e => hroot ⟨e, by simpa using h2⟩)
  rw [if_neg h2] at h
  replace h := (ok_of_guard h).2
  split at h
  · rename_i c hc; cases h; exact g.children d n name _ hn hd hc
  · cases h

theorem walk_single_nofollow (fuel : Nat) (s : State) (d : Obj) (name : Name) (o : Obj)
    (h : walk fuel s d [name] false = .ok o) : lookup1 s d name = .ok o := by
  cases fuel with
  | zero => cases h
  | succ fuel =>
    simp only [walk] at h
    split at h
    · cases h
    · rename_i o' ho'
      split at h
      · cases h
      · -- nothing is left to walk and the last component is not followed
        simp only [List.isEmpty_nil, Bool.not_true, Bool.or_false, Bool.and_false, Bool.false_eq_true, if_false] at h
        cases fuel with
        | zero => cases h
        | succ _ => cases h; exact ho'

theorem resolve_single_nofollow {s : State} {d : Obj} {name : Name} {o : Obj} (hs : name.contains SLASH = false)
    (h : resolve s d name false = .ok o) : lookup1 s d name = .ok o := by
  unfold resolve at h
  replace h := (ok_of_guard h).2
  rw [hs] at h
  exact walk_single_nofollow 40 s d name o h  -- `40`: the fuel `resolve` gives `walk`

theorem sent_ne {s : State} {x y : Obj} (hx : s.sent x = true) (hy : s.sent y = false) : x ≠ y := by
  intro h; subst h; rw [hx] at hy; cases hy

theorem fdObj_inside {s : State} (g : Good s) {f : Fd} {d : Obj} (h : fdObj s f = some d) : s.sent d = false := by
  obtain ⟨e, he, rfl⟩ := fdObj_eq_some.mp h
  exact g.fds f e he

theorem setNode_other {s : State} {o x : Obj} {n : Node} (h : x ≠ o) : (setNode s o n).nodes x = s.nodes x :=
  if_neg h

theorem modNode_other {s : State} {o x : Obj} {f : Node → Node} (h : x ≠ o) : (modNode s o f).nodes x = s.nodes x := by
  unfold modNode
  split
  · exact setNode_other h
  · rfl

theorem createIn_other {s : State} {d : Obj} {dn : Node} {name : Name} {k : Kind} {perm rdev : Nat} {data : List UInt8}
    {x : Obj} (h1 : x ≠ d) (h2 : x ≠ s.next) : (createIn s d dn name k perm rdev data).1.nodes x = s.nodes x :=
  (setNode_other h1).trans (setNode_other h2)

theorem createIn_frame {s : State} (g : Good s) {d : Obj} {dn : Node} {name : Name} {k : Kind} {perm rdev : Nat} {data : List UInt8}
    (hd : s.sent d = false) (x : Obj) (hx : s.sent x = true) :
    (createIn s d dn name k perm rdev data).1.nodes x = s.nodes x :=
  createIn_other (sent_ne hx hd) (sent_ne hx (g.fresh s.next (Nat.le_refl _)).1)

theorem renameApply_frame {s : State} {od nd : Obj} {on nn : Name} {c : Obj} {cn : Node} {tgt : Option Obj} {x : Obj}
    (h1 : x ≠ od) (h2 : x ≠ nd) (h3 : x ≠ c) (h4 : ∀ t, tgt = some t → x ≠ t) :
    (renameApply s od nd on nn c cn tgt).nodes x = s.nodes x := by
  refine renameApply_ind' (P := fun st => st.nodes x = s.nodes x) rfl fun ho h => ?_
  refine (modNode_other ?_).trans h
  rcases ho with rfl | rfl | rfl | ho
  · exact h1
  · exact h2
  · exact h3
  · exact h4 _ ho

/-- an `openat` that is not an exclusive creation does not truncate (what the passthrough issues
    through `openat` are `O_PATH` lookups and `O_CREAT|O_EXCL` creations) -/
def _root_.Fbr.PtHost.TruncOk (c : HCall) : Prop :=
  ∀ d n fl m, c = .openat d n fl m → (has fl O_CREAT && has fl O_EXCL) = true ∨ has fl O_TRUNC = false

/-- the confinement condition on the one kind of call that can produce a descriptor for an
    arbitrary path -/
def ConfinedOpen (s : State) : HCall → Prop
  | .openat dfd name fl _ =>
      (has fl O_CREAT && has fl O_EXCL) = true ∨
      (has fl O_NOFOLLOW = true ∧ has fl O_PATH = true ∧ name.contains SLASH = false ∧
        ¬ (fdObj s dfd = some s.exportRoot ∧ name = dotdot))
  | _ => True

theorem Opens.inside {s : State} {c : HCall} {o : Obj} {fl : Nat} (h : Opens s c o fl) (g : Good s)
    (hc : ConfinedOpen s c) : s.sent o = false := by
  cases h with
  | reopen hf => exact fdObj_inside g hf
  | handle hh => exact g.handles _ _ hh
  | path hd hx ho =>
    rcases hc with h | ⟨hnf, _, hslash, hroot⟩
    · exact absurd h hx
    · rw [hnf] at ho
      exact lookup1_inside g (fdObj_inside g hd) (fun ⟨h1, h2⟩ => hroot ⟨by rw [hd, h1], h2⟩)
        (resolve_single_nofollow hslash ho)

theorem lookup_filter_self {κ α : Type} [BEq κ] [LawfulBEq κ] (l : List (κ × α)) (nm : κ) :
    (l.filter (·.1 != nm)).lookup nm = none := by
  induction l with
  | nil => rfl
  | cons p t ih =>
    rw [List.filter_cons]
    split
    · rename_i hp
      rw [List.lookup_cons, beq_false_of_ne (bne_iff_ne.mp hp).symm]
      exact ih
    · exact ih

theorem lookup_filter_other {κ α : Type} [BEq κ] [LawfulBEq κ] {l : List (κ × α)} {x k : κ} (h : x ≠ k) :
    (l.filter (·.1 != x)).lookup k = l.lookup k := by
  induction l with
  | nil => rfl
  | cons p t ih =>
    rw [List.filter_cons]
    split
    · rw [List.lookup_cons, List.lookup_cons, ih]
    · rename_i hp
      have e : p.1 = x := by simpa using hp
      rw [List.lookup_cons, beq_false_of_ne (e ▸ h.symm), ih]

theorem lookup_filter {κ α : Type} [BEq κ] [LawfulBEq κ] {l : List (κ × α)} {nm k : κ} {c : α}
    (h : (l.filter (·.1 != nm)).lookup k = some c) : l.lookup k = some c := by
  by_cases e : nm = k
  · rw [← e, lookup_filter_self] at h; cases h
  · rw [lookup_filter_other e] at h; exact h

theorem lookup_cons_other {κ α : Type} [BEq κ] [LawfulBEq κ] {l : List (κ × α)} {a : κ} {b : α} {k : κ} (h : a ≠ k) :
    ((a, b) :: l).lookup k = l.lookup k := by
  rw [List.lookup_cons, beq_false_of_ne h.symm]

theorem lookup_cons_cases {κ α : Type} [BEq κ] {l : List (κ × α)} {nm k : κ} {o c : α}
    (h : ((nm, o) :: l).lookup k = some c) : c = o ∨ l.lookup k = some c := by
  simp only [List.lookup] at h
  split at h
  · left; cases h; rfl
  · right; exact h

theorem good_newFd {s : State} (g : Good s) {o : Obj} {fl : Nat} (ho : s.sent o = false) : Good (newFd s o fl).2 := by
  refine { g with fds := ?_ }
  intro f e he
  simp only [newFd] at he
  split at he
  · cases he; exact ho
  · exact g.fds f e he

theorem lt_next_of_node {s : State} (g : Good s) {o : Obj} {n : Node} (hn : s.nodes o = some n) : o < s.next := by
  rcases Nat.lt_or_ge o s.next with h | h
  · exact h
  · have h2 := (g.fresh o h).2
    rw [hn] at h2
    cases h2

theorem good_setNode {s : State} (g : Good s) {o : Obj} {n' : Node} (ho : s.sent o = false) (hlt : o < s.next)
    (hent : ∀ nm c, n'.entries.lookup nm = some c → s.sent c = false)
    (hpar : n'.kind = .dir → o ≠ s.exportRoot → s.sent n'.parent = false) : Good (setNode s o n') := by
  constructor
  · intro d nd nm c hnd hd hl
    simp only [setNode] at hnd
    split at hnd
    · cases hnd; exact hent nm c hl
    · exact g.children d nd nm c hnd hd hl
  · intro d nd hnd hd hdir hne
    simp only [setNode] at hnd
    split at hnd
    · rename_i hdo; cases hnd; subst hdo; exact hpar hdir hne
    · exact g.parent d nd hnd hd hdir hne
  · exact g.rootBelow
  · exact g.hostRootOut
  · intro x hx
    refine ⟨(g.fresh x hx).1, ?_⟩
    simp only [setNode]
    split
    · rename_i hxo; subst hxo; exact absurd hlt (Nat.not_lt.mpr hx)
    · exact (g.fresh x hx).2
  · exact g.fds
  · exact g.handles

theorem good_setNode' {s : State} (g : Good s) {o : Obj} {n n' : Node} (hn : s.nodes o = some n) (ho : s.sent o = false)
    (hent : ∀ nm c, n'.entries.lookup nm = some c → n.entries.lookup nm = some c ∨ s.sent c = false)
    (hk : n'.kind = n.kind) (hp : n'.parent = n.parent ∨ s.sent n'.parent = false) : Good (setNode s o n') := by
  refine good_setNode g ho (lt_next_of_node g hn) ?_ ?_
  · intro nm c hl
    rcases hent nm c hl with h | h
    · exact g.children o n nm c hn ho h
    · exact h
  · intro hdir hne
    rcases hp with h | h
    · rw [h]; rw [hk] at hdir; exact g.parent o n hn ho hdir hne
    · exact h

theorem good_modNode {s : State} (g : Good s) {o : Obj} {f : Node → Node} (ho : s.sent o = false)
    (hent : ∀ n nm c, (f n).entries.lookup nm = some c → n.entries.lookup nm = some c ∨ s.sent c = false)
    (hk : ∀ n, (f n).kind = n.kind) (hp : ∀ n, (f n).parent = n.parent ∨ s.sent (f n).parent = false) :
    Good (modNode s o f) := by
  unfold modNode
  split
  · rename_i n hn; exact good_setNode' g hn ho (hent n) (hk n) (hp n)
  · exact g

theorem good_setAttr {s : State} (g : Good s) {o : Obj} {n n' : Node} (hn : s.nodes o = some n) (ho : s.sent o = false)
    (he : n'.entries = n.entries) (hp : n'.parent = n.parent) (hk : n'.kind = n.kind) : Good (setNode s o n') :=
  good_setNode' g hn ho (fun _ _ h => .inl (he ▸ h)) hk (.inl hp)

theorem good_createIn {s : State} (g : Good s) {d : Obj} {dn : Node} {name : Name} {k : Kind} {perm rdev : Nat} {data : List UInt8}
    (hdn : s.nodes d = some dn) (hd : s.sent d = false) : Good (createIn s d dn name k perm rdev data).1 := by
  have hfresh := (g.fresh s.next (Nat.le_refl _)).1
  simp only [createIn]
  have g0 : Good { s with next := s.next + 1 } :=
    { g with fresh := fun x hx => g.fresh x (Nat.le_of_succ_le hx) }
  refine good_setNode (good_setNode g0 hfresh (Nat.lt_succ_self _) (by intro nm c hl; simp at hl) fun _ _ => hd) hd
    (Nat.lt_succ_of_lt (lt_next_of_node g hdn)) ?_ (g.parent d dn hdn hd)
  intro nm c hl
  rcases lookup_cons_cases hl with h | h
  · rw [h]; exact hfresh
  · exact g.children d dn nm c hdn hd h

theorem good_renameApply {s : State} (g : Good s) {od nd : Obj} {on nn : Name} {c : Obj} {cn : Node} {tgt : Option Obj}
    (hod : s.sent od = false) (hnd : s.sent nd = false) (hc : s.sent c = false)
    (ht : ∀ t, tgt = some t → s.sent t = false) : Good (renameApply s od nd on nn c cn tgt) := by
  refine (renameApply_ind (P := fun st => Good st ∧ st.sent = s.sent) ⟨g, rfl⟩ ?_ ?_ ?_ ?_).1
  · intro t htt      -- the replaced target loses a link
    exact ⟨good_modNode g (ht t htt) (fun _ _ _ h => .inl h) (fun _ => rfl) (fun _ => .inl rfl), modNode_sent ..⟩
  · intro st ⟨gs, es⟩   -- the entry leaves the old directory
    refine ⟨good_modNode gs (by rw [es]; exact hod) (fun n nm c' h => .inl (lookup_filter h))
      (fun _ => rfl) (fun _ => .inl rfl), (modNode_sent ..).trans es⟩
  · intro st ⟨gs, es⟩   -- it enters the new directory, replacing an entry of that name
    refine ⟨good_modNode gs (by rw [es]; exact hnd) (fun n nm c' h => ?_) (fun _ => rfl) (fun _ => .inl rfl),
      (modNode_sent ..).trans es⟩
    rcases lookup_cons_cases h with h | h
    · exact .inr (by rw [h, es]; exact hc)
    · exact .inl (lookup_filter h)
  · intro st ⟨gs, es⟩   -- a moved directory gets its new parent
    exact ⟨good_modNode gs (by rw [es]; exact hc) (fun _ _ _ h => .inl h) (fun _ => rfl)
      (fun _ => .inr (by rw [es]; exact hnd)), (modNode_sent ..).trans es⟩

/-- **A confined call stays inside.**  From a `Good` state (all descriptors and handles denote export objects),
    a confined call of the reference FS leads to a `Good` state and changes no object of the sentinel tree:
    what it opens, truncates, links, unlinks or moves is an export object (`Opens.inside`, `Good.children`). -/
theorem Eff.inside {s : State} {c : HCall} {r : HAns × State} (h : Eff s c r) (g : Good s) (hc : ConfinedOpen s c) :
    Good r.2 ∧ ∀ x, s.sent x = true → r.2.nodes x = s.nodes x := by
  have fd : ∀ {f o}, fdObj s f = some o → s.sent o = false := fdObj_inside g
  cases h with
  | same | stat | handleOld => exact ⟨g, fun _ _ => rfl⟩
  | opened ho => exact ⟨good_newFd g (ho.inside g hc), fun _ _ => rfl⟩
  | truncated ho _ hn =>
    have hin := ho.inside g hc
    refine ⟨good_newFd ?_ hin, fun _ hx => setNode_other (sent_ne hx hin)⟩
    exact good_setAttr g hn hin rfl rfl rfl
  | attr _ _ hf hn hk he hp => exact ⟨good_setAttr g hn (fd hf) he hp hk, fun _ hx => setNode_other (sent_ne hx (fd hf))⟩
  | creat hd _ hdn =>
    exact ⟨good_newFd (good_createIn g hdn (fd hd)) (g.fresh _ (Nat.le_refl _)).1, createIn_frame g (fd hd)⟩
  | mkdirat hd hdn | mknodat hd hdn | symlinkat hd hdn => exact ⟨good_createIn g hdn (fd hd), createIn_frame g (fd hd)⟩
  | @linkat _ _ _ _ _ _ d _ dn ho hd hn hdn =>
    refine ⟨good_setNode ?_ (fd hd) (lt_next_of_node g hdn) ?_ (g.parent d dn hdn (fd hd)),
      fun _ hx => (setNode_other (sent_ne hx (fd hd))).trans (setNode_other (sent_ne hx (fd ho)))⟩
    · exact good_setAttr g hn (fd ho) rfl rfl rfl
    · intro nm c hl
      rcases lookup_cons_cases hl with h | h
      · rw [h]; exact fd ho
      · exact g.children _ _ nm c hdn (fd hd) h
  | @unlinkat _ _ _ d dn _ _ _ _ hd hdn hl hcn =>
    have hc' := g.children _ _ _ _ hdn (fd hd) hl
    refine ⟨good_setNode ?_ (fd hd) (lt_next_of_node g hdn) ?_ (g.parent d dn hdn (fd hd)),
      fun _ hx => (setNode_other (sent_ne hx (fd hd))).trans (setNode_other (sent_ne hx hc'))⟩
    · exact good_setAttr g hcn hc' rfl rfl rfl
    · intro nm c hl
      exact g.children _ _ nm c hdn (fd hd) (lookup_filter hl)
  | @renameat2 _ _ _ nn _ _ _ _ ndn _ _ hod hnd hodn hndn hk =>
    have hc' := g.children _ _ _ _ hodn (fd hod) (renameCheck_ok hk)
    have ht : ∀ t, ndn.entries.lookup nn = some t → s.sent t = false := fun t ht => g.children _ _ _ t hndn (fd hnd) ht
    exact ⟨good_renameApply g (fd hod) (fd hnd) hc' ht, fun x hx =>
      renameApply_frame (sent_ne hx (fd hod)) (sent_ne hx (fd hnd)) (sent_ne hx hc') fun t h => sent_ne hx (ht t h)⟩
  | handle hf =>
    refine ⟨{ g with handles := fun h o' hh => ?_ }, fun _ _ => rfl⟩
    simp only at hh
    split at hh
    · cases hh; exact fd hf
    · exact g.handles h o' hh
  | fdent _ _ he ho =>
    refine ⟨{ g with fds := fun f' e'' h' => ?_ }, fun _ _ => rfl⟩
    simp only at h'
    split at h'
    · cases h'; rw [ho]; exact g.fds _ _ he
    · exact g.fds f' e'' h'
  | creds => exact ⟨{ g with }, fun _ _ => rfl⟩

theorem good_step (s : State) (g : Good s) (c : HCall) (hc : ConfinedOpen s c) : Good (stepCore s c).2 :=
  ((stepCore_eff s c).inside g hc).1

theorem sentinel_untouched (s : State) (g : Good s) (c : HCall)
    (hc : ConfinedOpen s c)
    (x : Obj) (hx : s.sent x = true) : (stepCore s c).2.nodes x = s.nodes x :=
  ((stepCore_eff s c).inside g hc).2 x hx

variable {α : Type}

/-- every call of the run is confined in the state in which it is issued -/
def AllConfined (sent : Obj → Bool) (root : Obj) : Prog α → State → Prop
  | .pure _, _ => True
  | .call c k, s => ConfinedOpen s c ∧ (∀ d n fl m, c = .openat d n fl m → (has fl O_CREAT && has fl O_EXCL) = true ∨ has fl O_TRUNC = false) ∧
      AllConfined sent root (k (step s c).1) (step s c).2

/-- `t` is `s` outside the export -/
structure Frame (s t : State) : Prop where
  sent : t.sent = s.sent
  root : t.exportRoot = s.exportRoot
  nodes : ∀ x, s.sent x = true → t.nodes x = s.nodes x

theorem Frame.refl (s : State) : Frame s s := ⟨rfl, rfl, fun _ _ => rfl⟩

theorem Frame.trans {a b c : State} (h1 : Frame a b) (h2 : Frame b c) : Frame a c :=
  ⟨h2.sent.trans h1.sent, h2.root.trans h1.root, fun x hx => (h2.nodes x (by rw [h1.sent]; exact hx)).trans (h1.nodes x hx)⟩

theorem stays_step (s : State) (g : Good s) (c : HCall) (hc : ConfinedOpen s c) : Good (step s c).2 ∧ Frame s (step s c).2 := by
  rw [step_eq]
  exact ⟨good_step s g c hc, (stepCore_eff s c).consts.1, (stepCore_eff s c).consts.2.1, sentinel_untouched s g c hc⟩

theorem run_good (sent : Obj → Bool) (root : Obj) (p : Prog α) (s : State) (g : Good s)
    (h : AllConfined sent root p s) :
    Good ((p.run (ops sent root) s).2.1) ∧ Frame s (p.run (ops sent root) s).2.1 := by
  induction p generalizing s with
  | pure a => exact ⟨g, .refl s⟩
  | call c k ih =>
    have hs := stays_step s g c h.1
    have := ih _ _ hs.1 h.2.2
    exact ⟨this.1, hs.2.trans this.2⟩

end Fbr.Host.Ref
