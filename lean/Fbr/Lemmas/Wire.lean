/-
  Fbr.Lemmas.Wire — field extraction from concatenated little-endian encodings.

  Everything is proved once for `fld` and `le` at an arbitrary width; `u16At`/`u32At`/`u64At` and
  `le16`/`le32`/`le64` are their instances at 2, 4 and 8 bytes.
-/
import Fbr.Wire

namespace Fbr.Wire

theorem fld_append_left (x y : Bytes) (off w : Nat) (h : off + w ≤ x.length) :
    fld (x ++ y) off w = fld x off w := by
  unfold fld
  congr 1
  rw [List.drop_append_of_le_length (by omega)]
  rw [List.take_append_of_le_length (by simp; omega)]

theorem fld_append_add (x y : Bytes) (off w : Nat) : fld (x ++ y) (x.length + off) w = fld y off w := by
  unfold fld
  rw [List.drop_length_add_append]

theorem fld_append_right (x y : Bytes) (off w : Nat) (h : x.length ≤ off) :
    fld (x ++ y) off w = fld y (off - x.length) w := by
  rw [← fld_append_add x y (off - x.length) w, Nat.add_sub_cancel' h]

theorem fld_take (r : Bytes) (k off w : Nat) (h : off + w ≤ k) : fld (r.take k) off w = fld r off w := by
  unfold fld
  congr 1
  rw [List.drop_take, List.take_take]
  congr 1
  omega

theorem fld_le_head (n v : Nat) (rest : Bytes) : fld (le n v ++ rest) 0 n = v % 256 ^ n := by
  unfold fld
  exact de_append_le n v rest

theorem fld_le (n v : Nat) : fld (le n v) 0 n = v % 256 ^ n := by
  rw [← fld_le_head n v [], List.append_nil]

/-- The offset is written `off + n` so that, with `n` a literal, `simp` matches a literal offset
    and computes the difference itself: no side condition is left. -/
theorem fld_le_skip (n v : Nat) (rest : Bytes) (off w : Nat) :
    fld (le n v ++ rest) (off + n) w = fld rest off w := by
  rw [Nat.add_comm, ← fld_append_add (le n v) rest off w, le_length]

/-- Reads at literal offsets out of a concatenation of `le16`/`le32`/`le64` encodings: skip the
    fields in front of the offset (`fld_le_skip`), read the one that starts at it (`fld_le_head`, or
    `fld_le` when nothing follows).  What is read is `v % 256 ^ n`; the `%` goes where `v < 2 ^ (8 * n)`
    is among the hypotheses (`256 ^ n` and `2 ^ (8 * n)` are closed, and `assumption` identifies them
    by evaluation).  A read that does not start at a field, or is not of the field's width, stays in
    the goal.  The rewriting stops: `List.append_assoc` only moves brackets to the right, each
    `fld_le_skip` step drops a field from the bytes under the read, and the other two rules remove
    the read. -/
macro "wire_norm" : tactic => `(tactic|
  simp (disch := assumption) only [u16At, u32At, u64At, le16, le32, le64, List.append_assoc,
    fld_le_skip 2, fld_le_skip 4, fld_le_skip 8, fld_le_head, fld_le, Nat.mod_eq_of_lt])

theorem u32At_le32 (v : Nat) (rest : Bytes) : u32At (le32 v ++ rest) 0 = v % 2 ^ 32 :=
  fld_le_head 4 v rest

theorem u64At_le64 (v : Nat) (rest : Bytes) : u64At (le64 v ++ rest) 0 = v % 2 ^ 64 :=
  fld_le_head 8 v rest

theorem u16At_le16 (v : Nat) (rest : Bytes) : u16At (le16 v ++ rest) 0 = v % 2 ^ 16 :=
  fld_le_head 2 v rest

@[simp] theorem le32_length (v : Nat) : (le32 v).length = 4 := le_length 4 v
@[simp] theorem le64_length (v : Nat) : (le64 v).length = 8 := le_length 8 v
@[simp] theorem le16_length (v : Nat) : (le16 v).length = 2 := le_length 2 v
@[simp] theorem zeros_length (n : Nat) : (zeros n).length = n := List.length_replicate

theorem u32At_lt (b : Bytes) (off : Nat) : u32At b off < 2 ^ 32 := fld_lt b off 4

theorem u64At_lt (b : Bytes) (off : Nat) : u64At b off < 2 ^ 64 := fld_lt b off 8

end Fbr.Wire
