/-
  Fbr.Lemmas.PtHostTable — the inode-table operations of the passthrough model keep the joint
  invariant `J` (Fbr.Lemmas.PtHostSafe): `forget_one` never removes or re-maps the root entry, and
  the table update at the end of `do_lookup` never gives the export root a second number — a lookup
  that reaches the export root object always finds the root entry (by id, or by its file handle).
-/
import Fbr.Lemmas.PtHostSafe

namespace Fbr.PtHost
open Fbr.Host

theorem lookup_cons_self (l : List (Nat × Nat)) (a b : Nat) : ((a, b) :: l).lookup a = some b :=
  List.lookup_cons_self

theorem get_mem {pt : PtState} {i : Nat} {d : InodeData} (h : pt.get i = some d) : d ∈ pt.inodes ∧ d.inode = i := by
  unfold PtState.get at h
  exact ⟨List.mem_of_find?_eq_some h, by simpa using List.find?_some h⟩

theorem get_of_mem {pt : PtState} {i : Nat} {d : InodeData} (hd : d ∈ pt.inodes) (hi : d.inode = i) : ∃ d', pt.get i = some d' := by
  unfold PtState.get
  cases hf : pt.inodes.find? (·.inode == i) with
  | some d' => exact ⟨d', rfl⟩
  | none =>
    have := List.find?_eq_none.mp hf d hd
    simp [hi] at this

theorem J.getRoot {pt : PtState} {h : Ref.State} (j : J pt h) : ∃ d, pt.get ROOT_ID = some d := by
  obtain ⟨d, hd, hi⟩ := j.rootEx
  exact get_of_mem hd hi

theorem J.handle_ne {pt : PtState} {h : Ref.State} (j : J pt h) {d x : InodeData} (hd : d ∈ pt.inodes) {k0 : Nat}
    (h1 : d.inode = ROOT_ID) (hk0 : d.handle = .handle k0) {k : Nat} (hk : x.handle = .handle k)
    (hx : Denotes h x.handle x.id) (ho : x.id ≠ h.exportRoot) : k ≠ k0 := by
  intro e
  have hden := j.den d hd
  rw [hk0, j.rootId d hd h1, ← e] at hden
  rw [hk] at hx
  exact ho (Option.some.inj (hx.symm.trans hden))

/-- the tables change, the host does not: `J` again, if every entry is an old one up to count and
    mode, or denotes an object other than the export root under a number other than 1 -/
theorem J.table {pt pt' : PtState} {h : Ref.State} (j : J pt h) (hroot : ∃ d ∈ pt'.inodes, d.inode = ROOT_ID)
    (hmem : ∀ x ∈ pt'.inodes, (x.inode ≠ ROOT_ID ∧ x.id ≠ h.exportRoot ∧ Denotes h x.handle x.id) ∨
      ∃ d ∈ pt.inodes, x.inode = d.inode ∧ x.id = d.id ∧ x.handle = d.handle)
    (hid : pt'.byId.lookup h.exportRoot = some ROOT_ID)
    (hbh : ∀ d ∈ pt.inodes, ∀ k, d.inode = ROOT_ID → d.handle = .handle k → pt'.byHandle.lookup k = some ROOT_ID)
    (hnext : pt.nextInode ≤ pt'.nextInode) : J pt' h := by
  refine ⟨j.good, j.wf, hroot, ?_, ?_, ?_, hid, ?_, Nat.lt_of_lt_of_le j.next hnext⟩
  · intro x hx h1
    rcases hmem x hx with ⟨n, _, _⟩ | ⟨d, hd, e1, e2, _⟩
    · exact absurd h1 n
    · rw [e2]; exact j.rootId d hd (e1 ▸ h1)
  · intro x hx h1
    rcases hmem x hx with ⟨_, n, _⟩ | ⟨d, hd, e1, e2, _⟩
    · exact absurd h1 n
    · rw [e1]; exact j.uniq d hd (e2 ▸ h1)
  · intro x hx
    rcases hmem x hx with ⟨_, _, hden⟩ | ⟨d, hd, _, e2, e3⟩
    · exact hden
    · rw [e2, e3]; exact j.den d hd
  · intro x hx k h1 hk
    rcases hmem x hx with ⟨n, _, _⟩ | ⟨d, hd, e1, _, e3⟩
    · exact absurd h1 n
    · exact hbh d hd k (e1 ▸ h1) (e3 ▸ hk)

theorem J.rootEx_filter {pt : PtState} {h : Ref.State} (j : J pt h) {i : Nat} (hi : i ≠ ROOT_ID) :
    ∃ x ∈ pt.inodes.filter (·.inode != i), x.inode = ROOT_ID := by
  obtain ⟨r, hr, hri⟩ := j.rootEx
  refine ⟨r, List.mem_filter.mpr ⟨hr, ?_⟩, hri⟩
  rw [hri]; simpa using (fun e => hi e.symm)

theorem mem_setRefcount {pt : PtState} {i rc : Nat} {d' : InodeData} (h : d' ∈ (pt.setRefcount i rc).inodes) :
    ∃ d ∈ pt.inodes, d'.inode = d.inode ∧ d'.id = d.id ∧ d'.handle = d.handle := by
  simp only [PtState.setRefcount, List.mem_map] at h
  obtain ⟨d, hd, e⟩ := h
  refine ⟨d, hd, ?_⟩
  split at e <;> (rw [← e]; exact ⟨rfl, rfl, rfl⟩)

theorem j_setRefcount {pt : PtState} {h : Ref.State} (j : J pt h) (i rc : Nat) : J (pt.setRefcount i rc) h := by
  refine j.table ?_ (fun _ hx => .inr (mem_setRefcount hx)) j.byId j.byH (Nat.le_refl _)
  obtain ⟨d, hd, hi⟩ := j.rootEx
  refine ⟨if d.inode == i then { d with refcount := rc } else d, ?_, ?_⟩
  · simp only [PtState.setRefcount, List.mem_map]; exact ⟨d, hd, rfl⟩
  · split <;> exact hi

theorem j_remove {pt : PtState} {h : Ref.State} (j : J pt h) (i : Nat) (keep : Bool) (hi : i ≠ ROOT_ID) :
    J (pt.remove i keep) h := by
  unfold PtState.remove
  cases hg : pt.get i with
  | none => exact j
  | some d =>
    obtain ⟨hd, hdi⟩ := get_mem hg
    have hne : d.id ≠ h.exportRoot := fun e => hi (by rw [← hdi]; exact j.uniq d hd e)
    have hrootEx := j.rootEx_filter hi
    have hsub : ∀ x, x ∈ pt.inodes.filter (·.inode != i) → x ∈ pt.inodes := fun x hx => (List.mem_filter.mp hx).1
    simp only []
    cases keep with
    | true => exact j.table hrootEx (fun x hx => .inr ⟨x, hsub x hx, rfl, rfl, rfl⟩) j.byId j.byH (Nat.le_refl _)
    | false =>
      simp only [Bool.false_eq_true, if_false]
      refine j.table hrootEx (fun x hx => .inr ⟨x, hsub x hx, rfl, rfl, rfl⟩) ?_ ?_ (Nat.le_refl _)
      · show (pt.byId.filter (·.1 != d.id)).lookup h.exportRoot = some ROOT_ID
        rw [Ref.lookup_filter_other hne]; exact j.byId
      · intro x hx k0 h1 hk0
        simp only []
        split
        · rename_i k hdh
          rw [Ref.lookup_filter_other (j.handle_ne hx h1 hk0 hdh (j.den d hd) hne)]
          exact j.byH x hx k0 h1 hk0
        · exact j.byH x hx k0 h1 hk0

theorem mem_insert {pt : PtState} {d x : InodeData} (h : x ∈ (pt.insert d).inodes) : x = d ∨ x ∈ pt.inodes := by
  simp only [PtState.insert, List.mem_cons, List.mem_filter] at h
  rcases h with h | h
  · exact Or.inl h
  · exact Or.inr h.1

/-- an entry for an object other than the export root, under a number other than 1, enters the tables
    (`pa`: the tables after the allocation, which only moves the counter) -/
theorem J.insert {pt pa : PtState} {h : Ref.State} (j : J pt h) (a1 : pa.inodes = pt.inodes) (a2 : pa.byId = pt.byId)
    (a3 : pa.byHandle = pt.byHandle) (a4 : pt.nextInode ≤ pa.nextInode) (d : InodeData) (hi : d.inode ≠ ROOT_ID)
    (hne : d.id ≠ h.exportRoot) (hden : Denotes h d.handle d.id) : J (pa.insert d) h := by
  refine j.table ?_ ?_ ?_ ?_ a4
  · obtain ⟨r, hr, hri⟩ := j.rootEx_filter hi
    exact ⟨r, List.mem_cons_of_mem _ (a1 ▸ hr), hri⟩
  · intro x hx
    rcases mem_insert hx with e | e
    · exact .inl (e ▸ ⟨hi, hne, hden⟩)
    · exact .inr ⟨x, a1 ▸ e, rfl, rfl, rfl⟩
  · show ((d.id, d.inode) :: pa.byId.filter (·.1 != d.id)).lookup h.exportRoot = some ROOT_ID
    rw [Ref.lookup_cons_other hne, Ref.lookup_filter_other hne, a2]
    exact j.byId
  · intro x hx k0 h1 hk0
    have hb := j.byH x hx k0 h1 hk0
    simp only [PtState.insert]
    split
    · rename_i k hdh
      have hkk := j.handle_ne hx h1 hk0 hdh hden hne
      rw [Ref.lookup_cons_other hkk, Ref.lookup_filter_other hkk, a3]
      exact hb
    · rw [a3]; exact hb

/-- `forget_one` skips the root, and the other entries are not the root's -/
theorem j_forgetOne (cfg : Cfg) {pt : PtState} {h : Ref.State} (j : J pt h) (i c : Nat) : J (forgetOne cfg pt i c) h := by
  unfold forgetOne
  split
  · exact j
  rename_i hi
  split
  · exact j
  simp only []
  split
  · exact j_remove j i _ (by simpa using hi)
  · exact j_setRefcount j i _

end Fbr.PtHost
