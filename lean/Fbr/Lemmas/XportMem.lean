/-
  Memory seen pointwise.  Under `InMem` (the addresses lie inside their regions) the content of a
  buffer list is its flat address list read through memory (`flat_eq_map`), and `copyOut` returns
  the bytes at the addresses it passes; `Mem.write` changes exactly the bytes addressed
  (`byteAt_write`).
-/
import Fbr.Lemmas.XportLog

namespace Fbr.Xport

def InMem (m : Mem) (A : List Addr) : Prop := ∀ a ∈ A, a.2 < (m.get a.1).length

theorem InMem.mono {m : Mem} {A B : List Addr} (h : InMem m B) (hs : ∀ a ∈ A, a ∈ B) : InMem m A :=
  fun a ha => h a (hs a ha)

theorem InMem.take {m : Mem} {A : List Addr} (h : InMem m A) (n : Nat) : InMem m (A.take n) :=
  fun a ha => h a (List.mem_of_mem_take ha)

theorem InMem.drop {m : Mem} {A : List Addr} (h : InMem m A) (n : Nat) : InMem m (A.drop n) :=
  fun a ha => h a (List.mem_of_mem_drop ha)

theorem inMem_seg {m : Mem} {r off n : Nat} (h : off + n ≤ (m.get r).length) : InMem m (segAddrs ⟨r, off, n⟩) := by
  intro a ha
  rw [mem_segAddrs] at ha
  rw [ha.1]; simp only at ha ⊢; omega

theorem WF.inMem {m : Mem} {segs : List Seg} (h : WF m segs) : InMem m (addrs segs) := by
  intro a ha
  obtain ⟨s, hs1, hs2⟩ := mem_addrs.mp ha
  exact inMem_seg (h s hs1) a hs2

theorem readSeg_eq_map (m : Mem) (s : Seg) (h : InMem m (segAddrs s)) :
    readSeg m s = (segAddrs s).map m.byteAt := by
  by_cases h0 : s.len = 0
  · simp [readSeg, segAddrs, h0]
  · have hl : s.off + s.len ≤ (m.get s.region).length := by
      have := h (s.region, s.off + (s.len - 1)) (by
        rw [mem_segAddrs]; refine ⟨rfl, ?_, ?_⟩ <;> simp only <;> omega)
      simp only at this; omega
    apply List.ext_getElem
    · simp [readSeg, segAddrs]; omega
    · intro i h1 h2
      simp only [readSeg, segAddrs, List.length_map, List.length_range] at h1 h2
      simp only [readSeg, segAddrs, List.getElem_take, List.getElem_drop, List.getElem_map, List.getElem_range,
        Mem.byteAt]
      rw [List.getD_eq_getElem?_getD, List.getElem?_eq_getElem (by omega)]
      rfl

theorem flat_eq_map (m : Mem) (segs : List Seg) (h : InMem m (addrs segs)) :
    flat m segs = (addrs segs).map m.byteAt := by
  induction segs with
  | nil => rfl
  | cons s rest ih =>
    simp only [flat, addrs, List.map_append]
    rw [readSeg_eq_map m s (fun a ha => h a (by simp [addrs, ha])), ih (fun a ha => h a (by simp [addrs, ha]))]

theorem flat_of_addrs_append (m : Mem) (b a o : List Seg) (h : addrs b = addrs a ++ addrs o) (hin : InMem m (addrs b)) :
    flat m b = flat m a ++ flat m o := by
  have ha : InMem m (addrs a) := fun x hx => hin x (by rw [h]; exact List.mem_append_left _ hx)
  have ho : InMem m (addrs o) := fun x hx => hin x (by rw [h]; exact List.mem_append_right _ hx)
  rw [flat_eq_map _ _ hin, flat_eq_map _ _ ha, flat_eq_map _ _ ho, h, List.map_append]

theorem flat_written {m m' : Mem} {segs : List Seg} {D : Bytes} (hin : InMem m (addrs segs))
    (hlen : ∀ x, (m'.get x).length = (m.get x).length)
    (hc : ((addrs segs).take D.length).map m'.byteAt = D)
    (hf : ∀ a ∈ (addrs segs).drop D.length, m'.byteAt a = m.byteAt a) :
    flat m' segs = D ++ (flat m segs).drop D.length := by
  have hin' : InMem m' (addrs segs) := by intro a ha; rw [hlen]; exact hin a ha
  rw [flat_eq_map _ _ hin', flat_eq_map _ _ hin, ← List.map_drop]
  conv => lhs; rw [← List.take_append_drop D.length (addrs segs)]
  rw [List.map_append, hc]
  congr 1
  exact List.map_congr_left hf

theorem copyOut_bytes (w : World) (bufs : List Seg) (rem : Nat) (h : InMem w.mem (addrs bufs)) :
    (copyOut w bufs rem).2.1 = ((addrs bufs).take rem).map w.mem.byteAt := by
  induction bufs generalizing w rem with
  | nil => simp [copyOut, addrs]
  | cons s rest ih =>
    simp only [copyOut]
    have h1 : InMem w.mem (segAddrs { s with len := min rem s.len }) := by
      rw [take_min_segAddrs]; exact fun a ha => h a (by simp [addrs, List.mem_of_mem_take ha])
    have := ih { w with log := w.log ++ [{ region := s.region, off := s.off, len := min rem s.len, write := false }] }
      (rem - min rem s.len) (fun a ha => h a (by simp [addrs, ha]))
    simp only at this
    rw [this, readSeg_eq_map _ _ h1, take_min_segAddrs, ← List.map_append, take_cons_addrs]

theorem lookup_filter_ne (l : List (Nat × Bytes)) (r x : Nat) (h : x ≠ r) :
    (l.filter fun e => e.1 != r).lookup x = l.lookup x := by
  induction l with
  | nil => rfl
  | cons e rest ih =>
    obtain ⟨k, v⟩ := e
    by_cases hk : k = r
    · subst hk
      have : (x == k) = false := by simp [h]
      simp [List.filter, List.lookup, this, ih]
    · have hk' : (k != r) = true := by simp [hk]
      simp only [List.filter, hk', List.lookup]
      cases hx : x == k <;> simp [ih]

theorem get_set_same (m : Mem) (r : Nat) (bs : Bytes) : (m.set r bs).get r = bs := by
  simp [Mem.get, Mem.set]

theorem get_set_other (m : Mem) (r x : Nat) (bs : Bytes) (h : x ≠ r) : (m.set r bs).get x = m.get x := by
  have : (x == r) = false := by simp [h]
  simp [Mem.get, Mem.set, List.lookup, this, lookup_filter_ne _ _ _ h]

theorem length_writeAt (bs : Bytes) (off : Nat) (d : Bytes) (h : off + d.length ≤ bs.length) :
    (writeAt bs off d).length = bs.length := by
  simp [writeAt]; omega

theorem getD_writeAt (bs : Bytes) (off : Nat) (d : Bytes) (h : off + d.length ≤ bs.length) (i : Nat) :
    (writeAt bs off d).getD i 0 = if off ≤ i ∧ i < off + d.length then d.getD (i - off) 0 else bs.getD i 0 := by
  simp only [writeAt, List.getD_eq_getElem?_getD, List.append_assoc]
  by_cases h1 : i < off
  · rw [List.getElem?_append_left (by simp; omega)]
    simp [h1]
    intro h2; omega
  · rw [List.getElem?_append_right (by simp; omega)]
    simp only [List.length_take, Nat.min_eq_left (show off ≤ bs.length by omega)]
    by_cases h2 : i < off + d.length
    · rw [List.getElem?_append_left (by omega)]
      simp [show off ≤ i by omega, h2]
    · rw [List.getElem?_append_right (by omega)]
      simp only [List.getElem?_drop]
      have : ¬ (off ≤ i ∧ i < off + d.length) := by omega
      simp only [this, if_false]
      congr 2; omega

theorem take_drop_writeAt (bs : Bytes) (off : Nat) (d : Bytes) (h : off + d.length ≤ bs.length) :
    ((writeAt bs off d).drop off).take d.length = d := by
  simp only [writeAt, List.append_assoc]
  rw [List.drop_append_of_le_length (by simp; omega), List.drop_of_length_le (by simp; omega)]
  simp

theorem writeAt_nil (bs : Bytes) (off : Nat) : writeAt bs off [] = bs := by
  simp [writeAt]

theorem byteAt_write (m : Mem) (r off : Nat) (d : Bytes) (h : d = [] ∨ off + d.length ≤ (m.get r).length) (a : Addr) :
    (m.write r off d).byteAt a =
      if a.1 = r ∧ off ≤ a.2 ∧ a.2 < off + d.length then d.getD (a.2 - off) 0 else m.byteAt a := by
  unfold Mem.write Mem.byteAt
  by_cases hr : a.1 = r
  · rw [hr, get_set_same]
    rcases h with rfl | h
    · rw [writeAt_nil, if_neg (by simp only [List.length_nil, Nat.add_zero]; omega)]
    · rw [getD_writeAt _ _ _ h]; simp
  · rw [get_set_other _ _ _ _ hr]
    simp [hr]

theorem map_byteAt_written (m : Mem) (r off : Nat) (d : Bytes) (h : d = [] ∨ off + d.length ≤ (m.get r).length) :
    (segAddrs ⟨r, off, d.length⟩).map (m.write r off d).byteAt = d := by
  apply List.ext_getElem
  · simp
  · intro j h1 h2
    simp only [List.getElem_map]
    rw [getElem_segAddrs, byteAt_write _ _ _ _ h]
    have hc : ((r, off + j) : Addr).1 = r ∧ off ≤ ((r, off + j) : Addr).2 ∧ ((r, off + j) : Addr).2 < off + d.length :=
      ⟨rfl, Nat.le_add_right _ _, Nat.add_lt_add_left h2 _⟩
    simp only [hc, and_self, if_true]
    rw [List.getD_eq_getElem?_getD, show off + j - off = j by omega, List.getElem?_eq_getElem h2]; rfl

theorem length_get_write (m : Mem) (r off : Nat) (d : Bytes) (h : d = [] ∨ off + d.length ≤ (m.get r).length) (x : Nat) :
    ((m.write r off d).get x).length = (m.get x).length := by
  unfold Mem.write
  by_cases hx : x = r
  · rw [hx, get_set_same]
    rcases h with rfl | h
    · rw [writeAt_nil]
    · exact length_writeAt _ _ _ h
  · rw [get_set_other _ _ _ _ hx]

end Fbr.Xport
