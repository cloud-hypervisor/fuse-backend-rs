/-
  C17 — Guest memory written by the server is always marked dirty.

  PROPERTY THEOREMS ONLY (helper lemmas: `Fbr.Lemmas.Xport*`).  Model: `Fbr.Xport` (IoBuffers,
  VirtioFsWriter, Reader, the AtomicBitmap page arithmetic) and the handle table `Fbr.XportSys`.

  Vocabulary: `w.log` is the list of raw memory accesses the model performed (every
  `copy_nonoverlapping` and every buffer range a scripted file filled), `wrAddrs w.log` the
  byte addresses `(region, index)` it *wrote*, `w.dirty` the pages `(region, page index)` set in
  the bitmap, `pageOf p a` the page containing address `a` for bitmap page size `p`.

  `Start st` (Fbr.Lemmas.XportSys) = a virtio-fs request before the server touched it: empty
  access and dirty logs, no fusedev writer, page size > 0, counters that cannot overflow usize;
  `writable st` = the byte addresses of the writers' buffers; `exec st ops` = the handle table
  after an arbitrary operation list; `ahead ws` = the addresses still in front of the writers.

  All statements are for ANY bitmap page size `p > 0`, ANY descriptor-chain layout (any list of
  `(region, off, len)` buffers, zero-length ones included, any alignment), ANY operation list
  (reads, object reads, file transfers with scripted short counts / errors / EINTR through files
  that do or do not override the vectored methods, splits of readers and writers, writes,
  vectored writes, write_from(_at), write_all_from, commit), by induction over the list.
-/
import Fbr.Lemmas.XportCThm
import Fbr.Lemmas.SrvDirty

namespace Fbr.Thm.C17
open Fbr.Xport

/-- **dirty ⊇ written**: whatever the server did, every byte address it wrote lies in a page that
    is marked dirty. -/
theorem dirty_superset (st : St) (ops : List Op) (h : Start st) :
    ∀ a ∈ wrAddrs (exec st ops).w.log, pageOf (exec st ops).w.p a ∈ (exec st ops).w.dirty :=
  (exec_ainv ops (start_ainv h)).inv.w.dirty_sup

/-- **dirty ⊆ written**: every page marked dirty contains a byte address the server wrote. -/
theorem dirty_subset (st : St) (ops : List Op) (h : Start st) :
    ∀ x ∈ (exec st ops).w.dirty, ∃ a ∈ wrAddrs (exec st ops).w.log, pageOf (exec st ops).w.p a = x :=
  (exec_ainv ops (start_ainv h)).inv.w.dirty_sub

/-- **Every modified byte is in a dirty page** (the property on memory CONTENT, what the
    `C17:missed-dirty` oracle checks by diffing guest memory): after ANY operation list, a byte of
    guest memory that differs from its value before the request lies in a page marked dirty — at
    any address, in any region; and no region changed its size.  (`dirty_superset` speaks about
    write accesses; this adds that nothing else ever changes memory.) -/
theorem modified_bytes_are_dirty (st : St) (ops : List Op) (h : Start st)
    (hr : ∀ b ∈ st.readers, WF st.w.mem b.segs) (hw : ∀ b ∈ st.writers, WF st.w.mem b.segs) :
    (∀ a : Addr, (exec st ops).w.mem.byteAt a ≠ st.w.mem.byteAt a → pageOf (exec st ops).w.p a ∈ (exec st ops).w.dirty)
    ∧ (∀ x, ((exec st ops).w.mem.get x).length = (st.w.mem.get x).length) := by
  have hv := exec_vinv ops (start_vinv h hw)
  refine ⟨fun a hne => ?_, hv.len⟩
  by_cases hm : a ∈ wrAddrs (exec st ops).w.log
  · exact dirty_superset st ops h a hm
  · exact absurd (hv.frame a hm) hne

/-- Request (readable) descriptors stay clean unless they share a page with reply space: every
    dirty page contains an address of a *writable* descriptor, one that the server wrote. -/
theorem dirty_only_in_reply_space (st : St) (ops : List Op) (h : Start st) :
    ∀ x ∈ (exec st ops).w.dirty, ∃ a ∈ writable st, a ∈ wrAddrs (exec st ops).w.log ∧ pageOf (exec st ops).w.p a = x := by
  intro x hx
  have hi := (exec_ainv ops (start_ainv h)).inv
  obtain ⟨a, ha, e⟩ := hi.w.dirty_sub x hx
  exact ⟨a, hi.w.wr_in a ha, ha, e⟩

/-- **Unused reply space stays clean** (up to page sharing): when the writable buffers do not
    overlap, every dirty page is justified by an address that was written and is no longer ahead
    of any writer — space a writer has not consumed never causes a mark. -/
theorem unused_reply_space_stays_clean (st : St) (ops : List Op) (h : Start st) (hnd : (writable st).Nodup) :
    ∀ x ∈ (exec st ops).w.dirty, ∃ a ∈ wrAddrs (exec st ops).w.log,
      a ∉ ahead (exec st ops).writers ∧ pageOf (exec st ops).w.p a = x := by
  intro x hx
  obtain ⟨a, ha, e⟩ := dirty_subset st ops h x hx
  exact ⟨a, ha, (nodup_of_perm_append (exec_ainv ops (start_ainv h)).wonce hnd).2.2 a ha, e⟩

/-- Reader operations (any of them, any number) never mark anything. -/
theorem reads_mark_nothing (st : St) (ops : List Op) (h : Start st) (hw : st.writers = []) :
    (exec st ops).w.dirty = [] := by
  have hi := (exec_ainv ops (start_ainv h)).inv
  have hW : writable st = [] := by rw [writable_eq_ahead, hw]; rfl
  cases hd : (exec st ops).w.dirty with
  | nil => rfl
  | cons x rest =>
    obtain ⟨a, ha, _⟩ := hi.w.dirty_sub x (by rw [hd]; exact List.mem_cons_self)
    have := hi.w.wr_in a ha
    rw [hW] at this
    cases this

/-- One `write`: it writes the next `k` addresses of the writer's flat address list (`k` = the
    count it returns, 0 on failure) and afterwards the dirty set is the old one plus exactly the
    pages of those `k` addresses. -/
theorem write_marks_exactly_what_it_wrote (b : IoBufs) (w : World) (data : Bytes) (hp : 0 < w.p)
    (hov : b.consumed + total b.segs < USIZE) :
    ∃ k, (∀ j, (VirtioW.write b w data).res = .ok j → j = k)
      ∧ wrAddrs (VirtioW.write b w data).w.log = wrAddrs w.log ++ (addrs b.segs).take k
      ∧ ∀ x, x ∈ (VirtioW.write b w data).w.dirty ↔ x ∈ w.dirty ∨ ∃ a ∈ (addrs b.segs).take k, pageOf w.p a = x := by
  have h := vwrite_advBy b w data hov
  refine ⟨_, fun j hj => by rw [hj]; rfl, h.wlog, ?_⟩
  intro x; rw [h.dirty]; simp

/-- `write_from` / `write_from_at` with any scripted file (short count, error, EINTR; overriding
    the vectored methods or relying on the trait defaults): exactly the pages of the `k` bytes the
    file delivered are marked — not the `count` bytes that were offered. -/
theorem write_from_marks_only_delivered_bytes (b : IoBufs) (w : World) (src : Script) (count : Nat)
    (at_ : Option Nat) (hp : 0 < w.p) (hov : b.consumed + total b.segs < USIZE) :
    ∃ k, k ≤ count ∧ (∀ j, (VirtioW.writeFrom b w src count at_).res = .ok j → j = k)
      ∧ wrAddrs (VirtioW.writeFrom b w src count at_).w.log = wrAddrs w.log ++ (addrs b.segs).take k
      ∧ ∀ x, x ∈ (VirtioW.writeFrom b w src count at_).w.dirty ↔ x ∈ w.dirty ∨ ∃ a ∈ (addrs b.segs).take k, pageOf w.p a = x := by
  obtain ⟨hk, h⟩ := writeFrom_advBy b w src count at_ hov
  refine ⟨_, hk, fun j hj => by rw [hj]; rfl, h.wlog, ?_⟩
  intro x; rw [h.dirty]; simp

/-- The bitmap arithmetic itself (`AtomicBitmap::set_addr_range` behind `BaseSlice`): the pages set
    for a range are exactly the pages containing one of its bytes — none for an empty range. -/
theorem pages_of_range_exact (p : Nat) (hp : 0 < p) (s : Seg) (x : Nat × Nat) :
    x ∈ pagesOf p s ↔ ∃ a ∈ segAddrs s, pageOf p a = x :=
  mem_pagesOf

/-- **What the srv stage expects the bitmap to hold after a whole request** — the real
    `Server::handle_message` on a virtio-fs chain over `GuestMemoryMmap<AtomicBitmap>` is compared
    with `Fbr.SrvShow.dirtyPages` — is exactly the set of 4 KiB pages that contain one of the
    first `n` byte addresses of the writable descriptors in chain order, where `n` is the length
    of the reply the server model stores (`(Srv.handle cfg fs req).out.area.length`); for any
    descriptor list (zero-length descriptors, any alignment) and any `n`. -/
theorem server_reply_dirty_pages_exact (segs : List (Nat × Nat)) (cfg : Fbr.Srv.Cfg)
    (fs : Fbr.Srv.Call → Fbr.Srv.Ans) (req : Fbr.Wire.Bytes) (x : Nat) :
    x ∈ Fbr.SrvShow.dirtyPages segs (Fbr.Srv.handle cfg fs req).out.area.length ↔
      ∃ a ∈ (Fbr.SrvShow.areaAddrs segs).take (Fbr.Srv.handle cfg fs req).out.area.length, a / 4096 = x :=
  Fbr.SrvShow.mem_dirtyPages _ _ _

/-- a request that stores no reply bytes leaves every page clean -/
theorem server_no_reply_nothing_dirty (segs : List (Nat × Nat)) : Fbr.SrvShow.dirtyPages segs 0 = [] := by
  have h : ∀ x, x ∉ Fbr.SrvShow.dirtyPages segs 0 := by
    intro x hx
    have := (Fbr.SrvShow.mem_dirtyPages segs 0 x).mp hx
    simp at this
  exact List.eq_nil_iff_forall_not_mem.mpr h

example : 4 ∈ Fbr.SrvShow.dirtyPages [(4090, 10), (0, 0), (20000, 100)] 12 ∧
    5 ∉ Fbr.SrvShow.dirtyPages [(4090, 10), (0, 0), (20000, 100)] 12 := by
  constructor
  · exact (Fbr.SrvShow.mem_dirtyPages _ _ _).mpr ⟨20000, by decide, by decide⟩
  · intro h
    obtain ⟨a, ha, e⟩ := (Fbr.SrvShow.mem_dirtyPages _ _ _).mp h
    revert a; decide

/-! ### non-vacuity -/

example : Start exampleStart := by
  refine ⟨rfl, rfl, rfl, by decide, ?_, ?_⟩ <;> decide

/-- `unused_reply_space_stays_clean`: its writable buffers do not overlap -/
example : (writable exampleStart).Nodup := by
  show (addrs exampleStart.writers[0]!.segs ++ []).Nodup
  rw [List.append_nil]
  exact nodup_addrs _ (by decide)

/-- and the theorems say something there: a split writer, a short `write_from`, a header write -/
example :
    let st := exec exampleStart [.ws 0 16, .wf 1 100 none ⟨.full, [.n 70], 3, 0, [], []⟩, .wr 0 (patBytes 1 0 16)]
    st.w.dirty.eraseDups = [(2, 1), (2, 2), (1, 0), (1, 1)] := by
  decide +kernel

end Fbr.Thm.C17
