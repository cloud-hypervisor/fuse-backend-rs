/-
  C08 — An inode stays valid exactly as long as the client holds lookup references to it.

  PROPERTY THEOREMS ONLY.  Model: `Fbr.PtRefs` (inode table of the passthrough file system,
  function by function: `do_lookup`, `forget_one`, `allocate_inode`, `UniqueInodeGenerator`,
  `InodeStore`, and the reference handling of lookup/create/mkdir/mknod/symlink/link/readdirplus/
  forget/batch_forget/destroy/init).  Specification: `Fbr.PtSpec` (`Spec` = what a client computes
  from its requests and the replies: entries delivered − counts forgotten, truncated at 0).
  Lemmas: `Fbr.Lemmas.Pt*`.

  A *history* is any list of requests, each with an optional RLIMIT headroom (descriptor
  allocations inside the request fail beyond it) and with every host answer as an argument —
  the theorems quantify over all of them, and over any fault oracle `Env.failAt`.
  `St.lookups` is a ghost counter of successful `do_lookup`s; `lookups + 2 < U64_MAX` says the u64
  reference counter does not saturate (fewer than 2^64 − 3 entries were ever returned).
  `St.clobbered` is a ghost flag: `InodeStore::insert` replaced a live entry.

  Status.  Full strength for `use_host_ino = false` (both `inode_file_handles` modes, every
  history) and for `use_host_ino = true` with `inode_file_handles = false` (`NoHandles`: no host
  answer carries a file handle; `refcount_refines_spec_hostino`).  For `use_host_ino = true` with
  file handles the refinement is proved under `clobbered = false` (`…_hostino_partial`) and
  `hostino_reuse_counterexample` shows that the hypothesis cannot be dropped there: known finding
  `C08:number-aliased:host-ino-reused-while-held` (inode_file_handles ∧ use_host_ino, host inode
  number reused while the old file is referenced).
-/
import Fbr.PtRefs
import Fbr.PtSpec
import Fbr.Lemmas.PtMap
import Fbr.Lemmas.PtProj
import Fbr.Lemmas.Pack
import Fbr.Lemmas.PtRefsBasic
import Fbr.Lemmas.PtPrim
import Fbr.Lemmas.PtFresh
import Fbr.Lemmas.PtSession
import Fbr.Lemmas.PtUniq
import Fbr.Thm.C09

namespace Fbr.Thm.C08
open Fbr.PtRefs

abbrev History := List (Option Nat × Op)

/-- **Every history** (any requests, any host answers, any descriptor-fault placement, with or
    without file handles), `use_host_ino = false`: for every inode number other than the root, the
    stored reference count is exactly the client's count — entries delivered by lookup / create /
    mkdir / mknod / symlink / link / readdirplus minus the counts forgotten (single, batched,
    over-counted; truncated at 0) — and the number is stored iff that count is positive.
    Entries that did not reach the client (readdirplus entry refused with `Ok(0)` or `Err`, failed
    create) leave no reference behind. -/
theorem refcount_refines_spec (e : Env) (hk : e.useHostIno = false) (h : History)
    (hsat : (run e St.fresh h).1.lookups + 2 < U64_MAX) :
    Ref (run e St.fresh h).1 (Spec.init.run h (run e St.fresh h).2) :=
  (run_good e h ⟨never_clobbers_keep e hk h, hsat⟩).ref

/-- **Every history, `use_host_ino = true`, `inode_file_handles = false`** (`NoHandles h`: no host
    answer of the history — lookups, created entries, readdirplus records, the imported root —
    carries a file handle, i.e. `name_to_handle_at` is never used): the same refinement at full
    strength, no ghost hypothesis about replaced entries.  Inode numbers are
    `(uid << 47) | st_ino` (uid = small id of the (dev, mnt) pair) or remembered virtual numbers;
    an entry kept by descriptor is always found by its `InodeId`, the packing is injective, so an
    insert never lands on a number in use (`never_clobbers_hostino`, invariant `HU` threaded through
    the effect relation `Tr`, whose lookup steps carry the allocator facts of `LkEff`). -/
theorem refcount_refines_spec_hostino (e : Env) (hk : e.useHostIno = true) (h : History) (hnh : NoHandles h)
    (hsat : (run e St.fresh h).1.lookups + 2 < U64_MAX) :
    Ref (run e St.fresh h).1 (Spec.init.run h (run e St.fresh h).2) :=
  (run_good e h ⟨never_clobbers_hostino e hk h hnh, hsat⟩).ref

/-- The same refinement in any mode, for histories in which no insert replaced a live entry.
    PARTIAL only for `use_host_ino = true` **with** file handles: there the hypothesis
    `clobbered = false` cannot be discharged — it fails when the host reuses an inode number while
    the old file is still referenced (see the counterexample, a known finding of the code).  In
    every other configuration it is discharged: `refcount_refines_spec` (`use_host_ino = false`),
    `refcount_refines_spec_hostino` (`use_host_ino = true`, no file handles). -/
theorem refcount_refines_spec_hostino_partial (e : Env) (h : History)
    (hcl : (run e St.fresh h).1.clobbered = false)
    (hsat : (run e St.fresh h).1.lookups + 2 < U64_MAX) :
    Ref (run e St.fresh h).1 (Spec.init.run h (run e St.fresh h).2) :=
  (run_good e h ⟨hcl, hsat⟩).ref

def cexEnv : Env := { useHostIno := true, noOpen := false, noOpendir := false, failAt := fun _ => false }

/-- init; lookup "f" → host file (ino 1, handle 1); the file is unlinked and its inode number
    reused: lookup "f" → host file (ino 1, handle 2) -/
def cexHist : History :=
  [ (none, .init (.ok { id := ⟨0, 0, 0⟩, fh := some 0, safe := true, dir := true })),
    (none, .lookup ROOT_ID false (.ok { id := ⟨1, 0, 0⟩, fh := some 1, safe := true })),
    (none, .lookup ROOT_ID false (.ok { id := ⟨1, 0, 0⟩, fh := some 2, safe := true })) ]

/-- The refinement is FALSE with `inode_file_handles ∧ use_host_ino` when the host reuses an inode
    number while the client still references the old file: both lookups return number
    `(1 << 47) | 1`, the client holds two references, the server's entry was replaced and counts one
    (so one forget of the old reference invalidates the new file). -/
theorem hostino_reuse_counterexample :
    cexEnv.useHostIno = true
    ∧ (run cexEnv St.fresh cexHist).1.lookups + 2 < U64_MAX
    ∧ ¬ Ref (run cexEnv St.fresh cexHist).1 (Spec.init.run cexHist (run cexEnv St.fresh cexHist).2) := by
  refine ⟨rfl, by decide, fun hr => ?_⟩
  have := hr 140737488355329 (by decide)
  revert this
  decide

/-- An inode number (other than the root) resolves — `inode_map.get` finds it — exactly while the
    client's count is positive; corollary of the refinement. -/
theorem valid_iff_positive (e : Env) (hk : e.useHostIno = false) (h : History)
    (hsat : (run e St.fresh h).1.lookups + 2 < U64_MAX) (i : Ino) (hi : i ≠ ROOT_ID) :
    (mget (run e St.fresh h).1.data i).isSome = true
      ↔ 0 < (Spec.init.run h (run e St.fresh h).2).held i :=
  (refcount_refines_spec e hk h hsat).valid_iff hi

/-- …and with `use_host_ino = true`, `inode_file_handles = false` -/
theorem valid_iff_positive_hostino (e : Env) (hk : e.useHostIno = true) (h : History) (hnh : NoHandles h)
    (hsat : (run e St.fresh h).1.lookups + 2 < U64_MAX) (i : Ino) (hi : i ≠ ROOT_ID) :
    (mget (run e St.fresh h).1.data i).isSome = true
      ↔ 0 < (Spec.init.run h (run e St.fresh h).2).held i :=
  (refcount_refines_spec_hostino e hk h hnh hsat).valid_iff hi

/-- The root can never be forgotten: `forget_one` on inode 1 is the identity whatever the count,
    a batch of forgets leaves the root entry untouched, and along any history without
    `destroy`/re-`init` (from any state, any mode) the root entry stays in the table. -/
theorem root_never_forgotten (e : Env) :
    (∀ s n, forgetOne e s ROOT_ID n = s)
    ∧ (∀ s l, mget (batchForget e s l).data ROOT_ID = mget s.data ROOT_ID)
    ∧ (∀ s (h : History), hasDestroy h = false → (mget s.data ROOT_ID).isSome = true →
        (mget (run e s h).1.data ROOT_ID).isSome = true) :=
  ⟨fun s n => forgetOne_root e s n, fun s l => batchForget_root e l s,
   fun s h hd hr => (run_tr e h s Spec.init).rootLive hd hr⟩

/-- Over-forgetting saturates: a count at least as large as the stored one removes the entry
    (it never goes negative / wraps), and further forgets of that number change nothing. -/
theorem over_forget_saturates (e : Env) (s : St) (i : Ino) (d : IData) (n m : Nat)
    (hi : i ≠ ROOT_ID) (hd : mget s.data i = some d) (hn : d.refs ≤ n) :
    mget (forgetOne e s i n).data i = none
    ∧ forgetOne e (forgetOne e s i n) i m = forgetOne e s i n := by
  have key := forgetOne_removes e s i n d hi hd hn
  exact ⟨key, forgetOne_absent e _ i m key⟩

/-- While valid, one host file has one inode number (`use_host_ino = false`, any session =
    INIT followed by any history without destroy/re-init): two live numbers whose entries have the
    same host identity — `(st_ino, st_dev, mnt_id)` and file handle — are the same number.  (That a
    number denotes one host file is the functionality of `data`.) -/
theorem number_injective (e : Env) (hk : e.useHostIno = false) (root : HAns) (h : History)
    (hnd : hasDestroy h = false) (i j : Ino) (di dj : IData)
    (hi : mget (run e (afterInit e root) h).1.data i = some di)
    (hj : mget (run e (afterInit e root) h).1.data j = some dj)
    (hid : di.id = dj.id) (hfh : di.fh = dj.fh) : i = j :=
  ((run_tr e h (afterInit e root) Spec.init).inj hk hnd (inj_afterInit e root)).injective hi hj hid hfh

/-- A file looked up again after being forgotten gets the same number (`use_host_ino = false`,
    inodes tracked by descriptors): if a lookup of host file `f` returned `ino`, then after ANY
    history without destroy/re-init — forgets of `ino` down to zero, over-forgets, lookups of other
    files, … — in which no file handles are in use, every later successful lookup of `f` (through
    any parent / name) returns `ino` again. -/
theorem number_stable_after_forget (e : Env) (hk : e.useHostIno = false) (s : St) (p : Ino)
    (pst : Bool) (f : HFile) (hf : f.fh = none) (ino : Ino)
    (h1 : (doLookup e s p pst (.ok f)).2 = .ok ino)
    (h : History) (hnd : hasDestroy h = false)
    (hnh : (run e (doLookup e s p pst (.ok f)).1 h).1.byHandle = [])
    (p' : Ino) (pst' : Bool) (ino' : Ino)
    (h2 : (doLookup e (run e (doLookup e s p pst (.ok f)).1 h).1 p' pst' (.ok f)).2 = .ok ino') :
    ino' = ino := by
  have r1 := doLookup_records_fd e s p pst f hf h1
  have r2 := ((run_tr e h (doLookup e s p pst (.ok f)).1 Spec.init).stable hk hnd).2 hnh _ _ r1
  exact doLookup_uses_fd e hk _ p' pst' f hf r2 h2

/-- … and with file handles the handle → number map is just as stable. -/
theorem number_stable_after_forget_handles (e : Env) (hk : e.useHostIno = false) (s : St) (h : History)
    (hnd : hasDestroy h = false) (k : FhId) (i : Ino) (hm : mget s.byHandle k = some i) :
    mget (run e s h).1.byHandle k = some i :=
  ((run_tr e h s Spec.init).stable hk hnd).1 k i hm

/-- Rename and unlink do not touch the inode table: every number stays valid with the same entry
    (so a referenced inode survives rename, and unlink when tracked by descriptor). -/
theorem survives_rename_and_unlink (e : Env) (s : St) (p1 p2 : Ino) (st1 st2 : Bool) (hr : Errno) :
    (opRename e s p1 st1 p2 st2 hr).1.data = s.data ∧ (opUnlink e s p1 st1 hr).1.data = s.data :=
  ⟨data_of_tables (opRename_run (nf := false) (b := false) e s Spec.init p1 st1 p2 st2 hr).tables,
   data_of_tables (opUnlink_run (nf := false) (b := false) e s Spec.init p1 st1 hr).tables⟩

/-- `(unique_id << 47) | ino` is injective on (id, host inode ≤ MAX_HOST_INO), the virtual range
    (bit 55 set) is disjoint from the host range and injective in (id, counter), no packed number
    is the root and every packed number fits `VFS_MAX_INO`. -/
theorem unique_inode_packing_injective (u1 u2 i1 i2 : Nat)
    (hu1 : 1 ≤ u1 ∧ u1 < 255) (hu2 : 1 ≤ u2 ∧ u2 < 255)
    (h1 : i1 ≤ MAX_HOST_INO) (h2 : i2 ≤ MAX_HOST_INO) :
    (packIno u1 i1 = packIno u2 i2 → u1 = u2 ∧ i1 = i2)
    ∧ (packIno u1 (i1 ||| VIRTUAL_INODE_FLAG) = packIno u2 (i2 ||| VIRTUAL_INODE_FLAG) → u1 = u2 ∧ i1 = i2)
    ∧ packIno u1 i1 ≠ packIno u2 (i2 ||| VIRTUAL_INODE_FLAG)
    ∧ packIno u1 i1 ≠ ROOT_ID ∧ packIno u1 (i1 ||| VIRTUAL_INODE_FLAG) ≠ ROOT_ID
    ∧ packIno u1 i1 ≤ VFS_MAX_INO ∧ packIno u1 (i1 ||| VIRTUAL_INODE_FLAG) ≤ VFS_MAX_INO := by
  have a1 := max_host_lt i1 h1
  refine ⟨pack_inj h1 h2, pack_virt_inj hu1.2 hu2.2 h1 h2, pack_ne_virt hu1.2 hu2.2 h1 h2,
    pack_ne_root hu1.1 h1, pack_virt_ne_root hu1.2 h1, ?_, ?_⟩
  · rw [packIno_eq u1 i1 a1]; unfold VFS_MAX_INO; omega
  · rw [packIno_virt_eq u1 i1 (by omega) a1]; unfold VFS_MAX_INO; omega

def exEnv : Env := { useHostIno := false, noOpen := false, noOpendir := false, failAt := fun _ => false }

/-- init; lookup a; lookup a; readdirplus delivering a and refusing b; forget a 2; forget a 9 -/
def exHist : History :=
  [ (none, .init (.ok { id := ⟨0, 0, 0⟩, fh := none, safe := true, dir := true })),
    (none, .lookup ROOT_ID false (.ok { id := ⟨1, 0, 0⟩, fh := none, safe := true })),
    (none, .lookup ROOT_ID false (.ok { id := ⟨1, 0, 0⟩, fh := none, safe := true })),
    (none, .opendir ROOT_ID 0),
    (none, .readdirplus ROOT_ID 1 0 (.ok [.dot, .name (.ok { id := ⟨1, 0, 0⟩, fh := none, safe := true }),
        .name (.ok { id := ⟨2, 0, 0⟩, fh := none, safe := true })]) 1 .full),
    (none, .forget 2 2) ]

/-- the hypotheses of `refcount_refines_spec` are satisfiable by a history that exercises lookup,
    readdirplus (one entry delivered, one refused) and forget: count 3 − 2 = 1 for "a", the refused
    entry left nothing behind -/
example :
    (run exEnv St.fresh exHist).1.lookups + 2 < U64_MAX
    ∧ (mget (run exEnv St.fresh exHist).1.data 2).map (·.refs) = some 1
    ∧ (Spec.init.run exHist (run exEnv St.fresh exHist).2).held 2 = 1
    ∧ mget (run exEnv St.fresh exHist).1.data 3 = none
    ∧ (Spec.init.run exHist (run exEnv St.fresh exHist).2).held 3 = 0 := by
  decide

/-- `use_host_ino = true` without file handles: two files with the same `st_ino` on different
    devices get different numbers (uid 1 and 2), the file with a host inode number above
    `MAX_HOST_INO` gets a virtual number and — forgotten and looked up again — the same one -/
def hiHist : History :=
  [ (none, .init (.ok { id := ⟨0, 0, 0⟩, fh := none, safe := true, dir := true })),
    (none, .lookup ROOT_ID false (.ok { id := ⟨5, 0, 0⟩, fh := none, safe := true })),
    (none, .lookup ROOT_ID false (.ok { id := ⟨5, 1, 0⟩, fh := none, safe := true })),
    (none, .lookup ROOT_ID false (.ok { id := ⟨2 ^ 50, 0, 0⟩, fh := none, safe := true })),
    (none, .forget (packIno 1 (2 ||| VIRTUAL_INODE_FLAG)) 1),
    (none, .lookup ROOT_ID false (.ok { id := ⟨2 ^ 50, 0, 0⟩, fh := none, safe := true })),
    (none, .lookup ROOT_ID false (.ok { id := ⟨5, 0, 0⟩, fh := none, safe := true })) ]

example : NoHandles hiHist := by
  intro x hx
  simp only [hiHist, List.mem_cons, List.not_mem_nil, or_false] at hx
  rcases hx with rfl | rfl | rfl | rfl | rfl | rfl | rfl <;> first | rfl | trivial

example :
    (run cexEnv St.fresh hiHist).2.map (fun r => match r with | .entry i => i | _ => 0) =
      [0, packIno 1 5, packIno 2 5, packIno 1 (2 ||| VIRTUAL_INODE_FLAG), 0, packIno 1 (2 ||| VIRTUAL_INODE_FLAG), packIno 1 5]
    ∧ (run cexEnv St.fresh hiHist).1.lookups + 2 < U64_MAX
    ∧ (run cexEnv St.fresh hiHist).1.clobbered = false
    ∧ (mget (run cexEnv St.fresh hiHist).1.data (packIno 1 5)).map (·.refs) = some 2
    ∧ (Spec.init.run hiHist (run cexEnv St.fresh hiHist).2).held (packIno 1 5) = 2 := by
  decide

/-! ### Concurrent histories

The theorems above are about sequential histories.  "Any history of requests" also covers
requests served concurrently; for those the count statement is carried by the small-step model of
`do_lookup` / `forget_one` (Fbr.Conc, hook H1 ties it to the code): under EVERY schedule of any
number of threads the stored count of a file is completed lookups minus amounts forgotten, and a
number handed out stays resolvable while that difference is positive. -/

theorem concurrent_refcount_exact {c : Conc.Cfg} (hinj : ∀ f g, c.pack f = c.pack g → f = g)
    (progs : Conc.Tid → List Conc.Op) (sched : List Conc.Tid) :
    let s := Conc.reach c progs sched
    (∀ f, Conc.liveCount s.store f + s.decs f = s.incs f)
    ∧ (s.lock = .free → ∀ i o, s.store.data i = some o → 0 < s.store.cells o) :=
  let h := Fbr.Thm.C09.refcount_eq_ghost hinj progs sched
  ⟨h.1, h.2.2⟩

theorem concurrent_number_usable_while_held {c : Conc.Cfg}
    (hinj : ∀ f g, c.pack f = c.pack g → f = g)
    (progs : Conc.Tid → List Conc.Op) (sched : List Conc.Tid) :
    let s := Conc.reach c progs sched
    ∀ t f i, (f, i) ∈ (s.threads t).results → s.decs f < s.incs f →
      ∃ o, s.store.data i = some o ∧ s.store.objHost o = f
        ∧ s.store.cells o = s.incs f - s.decs f :=
  Fbr.Thm.C09.returned_number_usable hinj progs sched

end Fbr.Thm.C08
