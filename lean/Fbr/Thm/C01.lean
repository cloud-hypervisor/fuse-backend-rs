/-
  C01 — Untrusted request bytes never crash the server nor corrupt the reply stream.

  PROPERTY THEOREMS ONLY (helper lemmas: `Fbr.Lemmas.SrvBuilt`, `SrvGood`, `SrvAsyncEq`, `Wire`).  Model: `Fbr.Srv.handle`,
  the model of `Server::handle_message`, tied to /repo by the `srv` correspondence run (both
  transports, arbitrary segmentation, arbitrary reply capacity, scripted file system).

  Every theorem quantifies over **all** request byte strings `req`, all configurations `cfg`
  (transport, reply capacity, negotiated minor, presence of the DAX handler) and all file
  systems `fs : Call → Ans`.  Hypotheses: the reply capacity fits a `u32` (`cfg.cap < 2^32`; the
  writers are built from `u32` descriptor lengths / a ≤ 1 MiB+4 KiB buffer) and the file system
  reports errors as errnos in 1..4095 or as non-OS `io::ErrorKind`s (`FsSane`).  Only what asks the
  message sent to be complete rests on them (`Built.wf`: `reply_well_formed_fusedev`,
  `reply_well_formed_virtio`, `ok_return_means_replied`); no panic, at most one write, the transports
  apart and the fit in the reply buffer hold without (`Built.stream`).
-/
import Fbr.Lemmas.SrvGood
import Fbr.Lemmas.SrvAsyncEq

namespace Fbr.Thm.C01
open Fbr.Srv Fbr.Wire

/-- The reply-stream invariant holds for every request: see the corollaries below. -/
theorem good_handle (cfg : Cfg) (fs : Call → Ans) (req : Bytes) (hcap : cfg.cap < 2 ^ 32)
    (hfs : FsSane fs) : Good cfg (uniqueOf req) (handle cfg fs req) :=
  (handle_built cfg fs req).good (u64At_lt req 8) hcap hfs

/-- Message handling never ends in a panic outcome.  (The model has one explicit panic site
    class: a second write on an unbuffered /dev/fuse writer trips
    `assert!(self.buffered || self.buf.is_empty())`; `fusedev_single_write` shows it is never
    reached.  Arithmetic sites are discharged in `dirent_padding_lt_8`,
    `batch_forget_bound_no_underflow`, `init_compat_sizes_fit`.) -/
theorem no_panic (cfg : Cfg) (fs : Call → Ans) (req : Bytes) (hcap : cfg.cap < 2 ^ 32)
    (hfs : FsSane fs) (s : String) : (handle cfg fs req).ret ≠ .panic s :=
  (good_handle cfg fs req hcap hfs).noPanic s

/-- On /dev/fuse a request causes at most one `write`/`writev` on the session fd … -/
theorem fusedev_single_write (cfg : Cfg) (fs : Call → Ans) (req : Bytes) (hcap : cfg.cap < 2 ^ 32)
    (hfs : FsSane fs) : (handle cfg fs req).out.sys.length ≤ 1 :=
  (good_handle cfg fs req hcap hfs).oneWrite

/-- … and that one write is one complete message: the length field equals the bytes emitted,
    `unique` is the request's, `error` is zero or a negated errno. -/
theorem reply_well_formed_fusedev (cfg : Cfg) (fs : Call → Ans) (req : Bytes) (hcap : cfg.cap < 2 ^ 32)
    (hfs : FsSane fs) : ∀ m ∈ (handle cfg fs req).out.sys, WfMsg (uniqueOf req) m :=
  (good_handle cfg fs req hcap hfs).sysWf

/-- On virtio-fs the writable area is either untouched or starts with one complete message
    (header length within the bytes stored, `unique` the request's, `error` zero or a negated
    errno). -/
theorem reply_well_formed_virtio (cfg : Cfg) (fs : Call → Ans) (req : Bytes) (hcap : cfg.cap < 2 ^ 32)
    (hfs : FsSane fs) :
    (handle cfg fs req).out.area = [] ∨ WfArea (uniqueOf req) (handle cfg fs req).out.area :=
  (good_handle cfg fs req hcap hfs).areaWf

/-- the two transports never mix: nothing is stored in a descriptor area on /dev/fuse and no fd
    write happens on virtio-fs -/
theorem transports_separate (cfg : Cfg) (fs : Call → Ans) (req : Bytes) (hcap : cfg.cap < 2 ^ 32)
    (hfs : FsSane fs) :
    (cfg.fusedev = true → (handle cfg fs req).out.area = []) ∧
    (cfg.fusedev = false → (handle cfg fs req).out.sys = []) :=
  ⟨(good_handle cfg fs req hcap hfs).sepF, (good_handle cfg fs req hcap hfs).sepV⟩

/-- **Nothing larger than the reply buffer is ever handed to the transport**: every message written
    to /dev/fuse and the bytes stored in the virtio-fs reply area fit the capacity the client
    supplied — for every request, transport and file system (the model-level statement of "no
    write beyond the reply descriptors"; the bounds of the descriptor arithmetic itself are C04's
    `accesses_in_bounds`, and the harness surrounds every real buffer with canaries). -/
theorem reply_fits_reply_buffer (cfg : Cfg) (fs : Call → Ans) (req : Bytes) (hcap : cfg.cap < 2 ^ 32)
    (hfs : FsSane fs) :
    (∀ m ∈ (handle cfg fs req).out.sys, m.length ≤ cfg.cap) ∧ (handle cfg fs req).out.area.length ≤ cfg.cap :=
  ⟨(good_handle cfg fs req hcap hfs).fitsSys, (good_handle cfg fs req hcap hfs).fitsArea⟩

/-- FORGET and BATCH_FORGET never produce a reply — whatever the body, the header length, the
    capacity, the transport or the file system (no hypothesis at all). -/
theorem forget_never_replies (cfg : Cfg) (fs : Call → Ans) (req : Bytes)
    (hop : opOf req = 2 ∨ opOf req = 42) : (handle cfg fs req).out = {} := by
  unfold handle
  split
  · rfl
  · split
    · rfl
    · unfold afterRemap
      split
      · rw [if_pos (by rcases hop with h | h <;> rw [h] <;> rfl)]
      · exact handleBody_forget_out hop

/-- **Every heap allocation whose size is taken from request fields is bounded** by the
    request-buffer limit (1 MiB + 4 KiB) or, if the transport presented a larger buffer, by the
    size of that buffer — for every request, configuration and file system (no hypothesis). The
    model records the sizes of `get_message_body`'s buffer, `batch_forget`'s and
    `removemapping`'s vectors and `ioctl`'s input buffer. -/
theorem allocs_bounded (cfg : Cfg) (fs : Call → Ans) (req : Bytes) :
    ∀ a ∈ (handle cfg fs req).allocs, a ≤ max (MAX_BUFFER_SIZE + BUFFER_HEADER_SIZE) req.length :=
  (handle_built cfg fs req).allocsLe

/-- `&DIRENT_PADDING[..padding]`: the padding of a directory record is always < 8, for names
    of every length -/
theorem dirent_padding_lt_8 (nameLen : Nat) :
    (DIRENT + nameLen + 7) / 8 * 8 - (DIRENT + nameLen) < 8 ∧ DIRENT + nameLen ≤ (DIRENT + nameLen + 7) / 8 * 8 := by
  unfold DIRENT; omega

/-- `MAX_BUFFER_SIZE + BUFFER_HEADER_SIZE - size_of::<BatchForgetIn>() - size_of::<InHeader>()`
    in `batch_forget` cannot underflow -/
theorem batch_forget_bound_no_underflow : 8 + IN_HDR ≤ MAX_BUFFER_SIZE + BUFFER_HEADER_SIZE := by decide

/-- `<[u8; N]>::from_slice(out.as_slice().split_at(N).0).unwrap()` in `init`: the compat sizes
    fit inside the 64-byte `InitOut` for every enabled set -/
theorem init_compat_sizes_fit (cfg : Cfg) (ra en : Nat) :
    (initOutFull cfg ra en).length = 64 ∧ 8 ≤ 64 ∧ 24 ≤ 64 := by
  simp [initOutFull]

/-- Whenever message handling reports a positive number of reply bytes, exactly one reply
    reached the client (one fd write on /dev/fuse; a non-empty, well-formed area on virtio-fs). -/
theorem ok_return_means_replied (cfg : Cfg) (fs : Call → Ans) (req : Bytes) (hcap : cfg.cap < 2 ^ 32)
    (hfs : FsSane fs) (n : Nat) (h : (handle cfg fs req).ret = .ok n) (hn : 0 < n) :
    Replied cfg (handle cfg fs req) :=
  (good_handle cfg fs req hcap hfs).okReplied n h hn

/-- the common reply tail always answers when the buffer can hold the reply: an error needs 16
    bytes, a success `16 + |body| + |data|` -/
theorem finish_answers (cfg : Cfg) (u : Nat) (calls : List Call) (al : List Nat) (a : Ans)
    (okb : Ans → Option (Bytes × Bytes)) (h16 : 16 ≤ cfg.cap)
    (hfit : ∀ b d, okb a = some (b, d) → 16 + b.length + d.length ≤ cfg.cap) :
    ∃ n, 0 < n ∧ (finish cfg u calls al a okb).ret = .ok n := by
  unfold finish
  split
  · exact ⟨16, by decide, by rw [errRes, replyErr_fits h16]⟩
  · split
    · next b d heq =>
      have hbd := hfit b d heq
      exact ⟨16 + b.length + d.length, by omega, by rw [okRes, replyOk_fits hbd]⟩
    · exact ⟨16, by decide, by rw [errRes, replyErr_fits h16]⟩

/-- **A well-formed request of an opcode that requires an answer produces exactly one reply.**
    Stated for every handler built from the common shape "read the request structure, call the
    file system once, reply" (`withObj` + `simple`: GETATTR, SETATTR, OPEN, WRITE, RELEASE, FSYNC,
    FLUSH, OPENDIR, RELEASEDIR, FSYNCDIR, GETLK, SETLK, SETLKW, ACCESS, BMAP, POLL, FALLOCATE,
    LSEEK, LISTXATTR): if the request structure is present (`n ≤ r.length`) and the reply buffer
    can hold the reply, the result is a positive `ok`, hence (`ok_return_means_replied`) exactly
    one reply. -/
theorem structured_request_answered (cfg : Cfg) (fs : Call → Ans) (u : Nat) (calls0 : List Call)
    (r : Bytes) (n : Nat) (mk : Bytes → Call) (okb : Ans → Option (Bytes × Bytes)) (hn : n ≤ r.length)
    (h16 : 16 ≤ cfg.cap)
    (hfit : ∀ b d, okb (fs (mk (r.take n))) = some (b, d) → 16 + b.length + d.length ≤ cfg.cap) :
    ∃ k, 0 < k ∧ (withObj cfg calls0 r n fun b => simple cfg fs u calls0 (mk b) [] okb).ret = .ok k := by
  unfold withObj
  rw [if_neg (by omega)]
  exact finish_answers cfg u _ _ _ okb h16 hfit

/-! ### the asynchronous request path (`Server::async_handle_message`)

`Fbr.SrvAsync.handle` is the model of `async_io.rs`; `forget` drops what only the async writer
records.  These hold for EVERY request byte string — including the WRITE requests on which the
two paths differ (C20's known finding) and file systems that return passthrough ids. -/

/-- the reply-stream invariant on the asynchronous path -/
theorem async_good_handle (cfg : Cfg) (fs : Call → Ans) (req : Bytes) (hcap : cfg.cap < 2 ^ 32)
    (hfs : FsSane fs) : Good cfg (uniqueOf req) (Fbr.SrvAsync.forget (Fbr.SrvAsync.handle cfg fs req)) :=
  (Fbr.SrvAsync.handleA_built cfg fs req).good (u64At_lt req 8) hcap (Fbr.SrvAsync.fsSane_seenBy _ hfs)

theorem async_no_panic (cfg : Cfg) (fs : Call → Ans) (req : Bytes) (hcap : cfg.cap < 2 ^ 32)
    (hfs : FsSane fs) (s : String) : (Fbr.SrvAsync.handle cfg fs req).ret ≠ .panic s :=
  (async_good_handle cfg fs req hcap hfs).noPanic s

theorem async_fusedev_single_write (cfg : Cfg) (fs : Call → Ans) (req : Bytes) (hcap : cfg.cap < 2 ^ 32)
    (hfs : FsSane fs) : (Fbr.SrvAsync.handle cfg fs req).out.sys.length ≤ 1 :=
  (async_good_handle cfg fs req hcap hfs).oneWrite

theorem async_reply_well_formed_fusedev (cfg : Cfg) (fs : Call → Ans) (req : Bytes) (hcap : cfg.cap < 2 ^ 32)
    (hfs : FsSane fs) : ∀ m ∈ (Fbr.SrvAsync.handle cfg fs req).out.sys, WfMsg (uniqueOf req) m :=
  (async_good_handle cfg fs req hcap hfs).sysWf

theorem async_reply_well_formed_virtio (cfg : Cfg) (fs : Call → Ans) (req : Bytes) (hcap : cfg.cap < 2 ^ 32)
    (hfs : FsSane fs) :
    (Fbr.SrvAsync.handle cfg fs req).out.area = [] ∨
      WfArea (uniqueOf req) (Fbr.SrvAsync.handle cfg fs req).out.area :=
  (async_good_handle cfg fs req hcap hfs).areaWf

theorem async_reply_fits_reply_buffer (cfg : Cfg) (fs : Call → Ans) (req : Bytes) (hcap : cfg.cap < 2 ^ 32)
    (hfs : FsSane fs) :
    (∀ m ∈ (Fbr.SrvAsync.handle cfg fs req).out.sys, m.length ≤ cfg.cap) ∧
      (Fbr.SrvAsync.handle cfg fs req).out.area.length ≤ cfg.cap :=
  ⟨(async_good_handle cfg fs req hcap hfs).fitsSys, (async_good_handle cfg fs req hcap hfs).fitsArea⟩

/-- non-vacuity of the hypotheses: a concrete sane file system and capacity -/
example : FsSane (fun _ => Ans.err (.os 2)) ∧ (4096 : Nat) < 2 ^ 32 := by
  constructor
  · intro c e h; cases h; exact ⟨by decide, by decide⟩
  · decide

end Fbr.Thm.C01
