/-
  C03 — Each reply is the exact wire encoding of what the filesystem returned.

  PROPERTY THEOREMS ONLY (helpers: `Fbr.Lemmas.SrvReply`, `SrvDir`, `SrvDecode`, `SrvGood`, `Wire`).  "What the kernel
  reads" is expressed with the field readers `u32At`/`u64At` at the kernel's offsets (the
  equality of the library's layouts with the kernel's is C13).  All theorems hold for every
  result value, every errno / error kind, every directory content, every requested size.
-/
import Fbr.Lemmas.SrvReply
import Fbr.Lemmas.SrvDecode
import Fbr.Gen.Server

namespace Fbr.Thm.C03
open Fbr.Srv Fbr.Wire Fbr.Conv

/-- Errors are sent as the negated errno: for an OS error `n` in 1..4095 the header's `error`
    field is the two's-complement image of `-n`. -/
theorem error_is_negated_errno (n : Nat) (h1 : 1 ≤ n) (h2 : n ≤ 4095) :
    errField (.os n) = 2 ^ 32 - n := by
  simp only [errField]
  rw [Nat.mod_eq_of_lt (by omega), Nat.mod_eq_of_lt (by omega)]

/-- Non-OS errors are sent as the negated `encode_io_error_kind` image (never 0, always an
    errno in 1..4095). -/
theorem error_kind_is_negated_errno (k : String) :
    errField (.kind k) = 2 ^ 32 - encodeKind k ∧ 1 ≤ encodeKind k ∧ encodeKind k ≤ 4095 :=
  ⟨rfl, encodeKind_range k⟩

/-- Linux errno values used by `encode_io_error_kind` -/
def errnoValue (n : String) : Option Nat :=
  [("EPERM", 1), ("ENOENT", 2), ("EINTR", 4), ("EIO", 5), ("EWOULDBLOCK", 11),
   ("EAGAIN", 11), ("EACCES", 13), ("EEXIST", 17), ("EINVAL", 22)].lookup n

/-- value of an arm body `libc::A | libc::B | …` -/
def armValue (body : List String) : Option Nat :=
  body.foldl (fun acc t => match acc, errnoValue t with
    | some a, some b => some (a ||| b)
    | _, _ => none) (some 0)

/-- **The model's error-kind table is today's `encode_io_error_kind`**: every arm of the match
    in src/lib.rs (regenerated table) maps its kind to the errno the model uses; the default arm
    is the model's default (EIO). -/
theorem encode_kind_table_matches :
    ∀ a ∈ Gen.encodeKindArms,
      armValue a.2 = some (encodeKind (if a.1 = "_" then "any other kind" else a.1)) := by
  decide +kernel

/-- … and the arms are exactly the five kinds the model distinguishes, plus the default. -/
theorem encode_kind_arms_complete :
    Gen.encodeKindArms.map (·.1) =
      ["PermissionDenied", "NotFound", "Interrupted", "AlreadyExists", "WouldBlock", "_"] := by
  decide +kernel

/-- An error result produces exactly the 16-byte header carrying that error and the request's
    unique (when the reply buffer can hold a header at all). -/
theorem error_reply_is_header (cfg : Cfg) (u : Nat) (calls : List Call) (al : List Nat) (e : IoErr)
    (okb : Ans → Option (Bytes × Bytes)) (hcap : 16 ≤ cfg.cap) :
    (finish cfg u calls al (.err e) okb).out = emit cfg (outHeader 16 (errField e) u) := by
  simp only [finish, errRes, replyErr_fits hcap]

/-- A successful result produces header ++ body ++ data with the exact total length. -/
theorem ok_reply_is_concatenation (cfg : Cfg) (u : Nat) (calls : List Call) (al : List Nat) (a : Ans)
    (okb : Ans → Option (Bytes × Bytes)) (body data : Bytes) (hne : ∀ e, a ≠ .err e)
    (hb : okb a = some (body, data)) (hfit : 16 + body.length + data.length ≤ cfg.cap) :
    (finish cfg u calls al a okb).out =
      emit cfg (outHeader (16 + body.length + data.length) 0 u ++ body ++ data) :=
  finish_out_ok hne hb hfit

/-- The kernel reads back every field of an entry (ids, generation, both timeouts, every
    attribute, and the attribute flags) — truncated only to the wire widths. -/
theorem entry_reply_decodes (e : Entry) (rest : Bytes) :
    EntryRead (entryOutBytes (entryOutOfEntry e) ++ rest) (entryOutOfEntry e) :=
  entryOutBytes_read _ _

/-- … in particular the attribute flags of the entry arrive (offset 40 + 84). -/
theorem entry_reply_carries_attr_flags (e : Entry) (rest : Bytes) :
    u32At ((entryOutBytes (entryOutOfEntry e) ++ rest).drop 40) 84 = e.attrFlags % 2 ^ 32 :=
  (entryOutBytes_read (entryOutOfEntry e) rest).attr.flags

/-- Every reply path that carries an entry encodes it identically: LOOKUP, SYMLINK, MKNOD, MKDIR,
    LINK (through `entryBody`), CREATE (first 128 bytes) and every READDIRPLUS record. -/
theorem entry_paths_agree (e : Entry) (fh : Option Nat) (opts : Nat) (pt : Option Nat) (d : DirEnt) :
    entryBody (.entry e) = some (entryOutBytes (entryOutOfEntry e), []) ∧
    (match (Ans.created e fh opts pt) with
     | .created e' fh' o' p' => (entryOutBytes (entryOutOfEntry e'), openOutBytes fh' o' p')
     | _ => ([], [])) = (entryOutBytes (entryOutOfEntry e), openOutBytes fh opts pt) ∧
    (direntChunks d (some e)).head? = some (entryOutBytes (entryOutOfEntry e)) := by
  refine ⟨rfl, rfl, rfl⟩

/-- GETATTR/SETATTR replies: timeout and every attribute field as the kernel reads them. -/
theorem attr_reply_decodes (st : Stat) (secs nanos : Nat) (rest : Bytes) :
    u64At (attrOutBytes secs nanos (attrOfStat st) ++ rest) 0 = secs % 2 ^ 64 ∧
    u32At (attrOutBytes secs nanos (attrOfStat st) ++ rest) 8 = nanos % 2 ^ 32 ∧
    u32At (attrOutBytes secs nanos (attrOfStat st) ++ rest) 12 = 0 ∧
    AttrRead ((attrOutBytes secs nanos (attrOfStat st) ++ rest).drop 16) (attrOfStat st) := by
  unfold attrOutBytes
  refine ⟨?_, ?_, ?_, ?_⟩
  iterate 3 wire_norm
  · rw [List.append_assoc, List.drop_left' (by simp)]
    exact attrBytes_read _ _

/-- OPEN / OPENDIR / CREATE open part: handle (0 when absent), open options, passthrough id. -/
theorem open_reply_decodes (fh : Option Nat) (opts : Nat) (pt : Option Nat) (rest : Bytes) :
    u64At (openOutBytes fh opts pt ++ rest) 0 = fh.getD 0 % 2 ^ 64 ∧
    u32At (openOutBytes fh opts pt ++ rest) 8 = opts % 2 ^ 32 ∧
    u32At (openOutBytes fh opts pt ++ rest) 12 = pt.getD 0 % 2 ^ 32 := by
  refine ⟨?_, ?_, ?_⟩ <;> (unfold openOutBytes; wire_norm)

/-- READ: the reply is the header announcing `16 + |d|` bytes followed by exactly the bytes the
    file system produced (when they fit the data part of the reply buffer). -/
theorem read_reply_exact (cfg : Cfg) (u : Nat) (calls : List Call) (d : Bytes)
    (hfit : 16 + d.length ≤ cfg.cap) (hcap : cfg.cap < 2 ^ 32) :
    (readReply cfg u calls (.data d)).out = emit cfg (outHeader (16 + d.length) 0 u ++ d) ∧
    (readReply cfg u calls (.data d)).ret = .ok (16 + d.length) := by
  unfold readReply
  have h : ¬ d.length > cfg.cap - OUT_HDR := by unfold OUT_HDR; omega
  simp only [h, if_false]
  unfold splitOk OUT_HDR
  rw [Nat.mod_eq_of_lt (by omega)]
  exact ⟨rfl, rfl⟩

/-- **Directory replies hold only whole 8-byte-aligned entries within the size the client asked
    for**: for every list of entries the file system offers, every requested `size` and every
    reply capacity the server accepts (`cap ≥ size + 16`), the payload is exactly the
    concatenation of the complete records of a prefix of the entries, each record a multiple of
    8 bytes, the total at most `size`, and the call never turns into an error.  Names of every
    length, plain and plus. -/
theorem dirents_whole_aligned (cfg : Cfg) (u : Nat) (calls : List Call) (size : Nat) (plus prop : Bool)
    (ds : List (DirEnt × Entry)) (hcap : size + 16 ≤ cfg.cap) :
    ∃ k, k ≤ ds.length ∧
      dirReply cfg u calls size plus (.dirents ds prop) =
        splitOk cfg u calls ((ds.take k).flatMap (recordBytes plus)) ∧
      ((ds.take k).flatMap (recordBytes plus)).length ≤ size ∧
      ∀ de ∈ ds.take k, (recordBytes plus de).length % 8 = 0 := by
  obtain ⟨k, hk, heq, hlen⟩ := dirLoop_prefix size (cfg.cap - OUT_HDR) plus prop ds []
    (by unfold OUT_HDR; omega) (by simp)
  refine ⟨k, hk, ?_, by simpa using hlen, fun de _ => recordBytes_aligned plus de⟩
  unfold dirReply
  simp only [heq, List.nil_append]

/-- the record of an entry as the kernel walks it: `[entry_out] ino off namelen type name pad` -/
theorem record_layout (plus : Bool) (d : DirEnt) (e : Entry) :
    recordBytes plus (d, e) =
      (if plus then entryOutBytes (entryOutOfEntry e) else []) ++
      (le64 d.ino ++ le64 d.off ++ le32 d.name.length ++ le32 d.type) ++ d.name ++
      zeros ((DIRENT + d.name.length + 7) / 8 * 8 - (DIRENT + d.name.length)) := by
  unfold recordBytes direntChunks
  cases plus <;> simp [List.foldl]

/-- pieces that fit are sent as one message: their concatenation `m` -/
theorem notifyMsg_fits (cap : Nat) (pieces : List Bytes) (m : Bytes) (hm : pieces.foldl (· ++ ·) [] = m)
    (hpos : 0 < m.length) (h : m.length ≤ cap) : notifyMsg cap pieces = ({ sys := [m] }, .ok m.length) := by
  unfold notifyMsg
  rw [writeChunks_ok cap 0 pieces (by rw [hm]; simpa using h), hm]
  simp [List.ne_nil_of_length_pos hpos]

/-- **notify_inval_entry** carries the given arguments with a length equal to its size: one
    write of `header(len = 32 + |name| + 1, code 3, unique 0) ++ parent ++ namelen ++ 0 ++ name ++ NUL`,
    where `namelen` excludes the NUL — for every name and parent. -/
theorem notify_inval_entry_encoding (cap parent : Nat) (name : Bytes)
    (hcap : 32 + name.length + 1 ≤ cap) (hlen : 32 + name.length + 1 < 2 ^ 32) :
    (notifyInvalEntry cap parent name).1.sys =
      [outHeader (32 + name.length + 1) 3 0 ++ (le64 parent ++ le32 name.length ++ le32 0) ++ (name ++ [0])] ∧
    (notifyInvalEntry cap parent name).2 = .ok (32 + name.length + 1) ∧
    msgLen (outHeader (32 + name.length + 1) 3 0 ++ (le64 parent ++ le32 name.length ++ le32 0) ++ (name ++ [0]))
      = 32 + name.length + 1 := by
  have hfold : ([outHeader (OUT_HDR + 16 + (name.length + 1)) 3 0, le64 parent ++ le32 name.length ++ le32 0,
      name ++ [0]] : List Bytes).foldl (· ++ ·) [] =
      outHeader (32 + name.length + 1) 3 0 ++ (le64 parent ++ le32 name.length ++ le32 0) ++ (name ++ [0]) := by
    have e : OUT_HDR + 16 + (name.length + 1) = 32 + name.length + 1 := by unfold OUT_HDR; omega
    rw [e]; simp [List.foldl]
  unfold notifyInvalEntry
  rw [notifyMsg_fits cap _ _ hfold (by simp [outHeader_length]; omega) (by simp [outHeader_length]; omega)]
  refine ⟨rfl, by simp [outHeader_length]; omega, ?_⟩
  rw [List.append_assoc, msgLen_header, Nat.mod_eq_of_lt hlen]

/-- **notify_inval_inode**: 40 bytes, code 2, the three arguments in order. -/
theorem notify_inval_inode_encoding (cap ino off len : Nat) (hcap : 40 ≤ cap) :
    (notifyInvalInode cap ino off len).1.sys = [outHeader 40 2 0 ++ (le64 ino ++ le64 off ++ le64 len)] ∧
    (notifyInvalInode cap ino off len).2 = .ok 40 := by
  unfold notifyInvalInode
  have hfold : ([outHeader (OUT_HDR + 24) 2 0, le64 ino ++ le64 off ++ le64 len] : List Bytes).foldl (· ++ ·) [] =
      outHeader 40 2 0 ++ (le64 ino ++ le64 off ++ le64 len) := by simp [List.foldl, OUT_HDR]
  rw [notifyMsg_fits cap _ _ hfold (by simp [outHeader_length]) (by simp [outHeader_length]; omega)]
  exact ⟨rfl, by simp [outHeader_length]⟩

/-- **notify_resend**: the bare 16-byte header with code 7. -/
theorem notify_resend_encoding (cap : Nat) (hcap : 16 ≤ cap) :
    (notifyResend cap).1.sys = [outHeader 16 7 0] ∧ (notifyResend cap).2 = .ok 16 := by
  unfold notifyResend
  have hfold : ([outHeader OUT_HDR 7 0] : List Bytes).foldl (· ++ ·) [] = outHeader 16 7 0 := by
    simp [List.foldl, OUT_HDR]
  rw [notifyMsg_fits cap _ _ hfold (by simp [outHeader_length]) (by simp [outHeader_length]; omega)]
  exact ⟨rfl, by simp [outHeader_length]⟩

/-- non-vacuity of the hypothesis of `dirents_whole_aligned`: a concrete size and capacity -/
example : (24 : Nat) + 16 ≤ ({ fusedev := true, cap := 4096 } : Cfg).cap := by decide

/-! ### whole-request reply theorems for the small reply structures

For a request that reaches its handler (`Req fs h`: well-formed header, length within the limit,
id-remap not refused) and a file system that answers the operation with the given value, the
bytes handed to the transport are exactly `header ++ body` with the body the kernel's structure
for that opcode.  `emit cfg m` = one `write` of `m` on /dev/fuse, or `m` stored at the start of
the reply area on virtio-fs. -/

/-- the common tail: one file-system call, reply = header ++ body ++ data -/
theorem simple_out (cfg : Cfg) (fs : Call → Ans) (u : Nat) (calls0 : List Call) (c : Call) (al : List Nat)
    (okb : Ans → Option (Bytes × Bytes)) (body data : Bytes) (hne : ∀ e, fs c ≠ .err e)
    (hb : okb (fs c) = some (body, data)) (hfit : 16 + body.length + data.length ≤ cfg.cap) :
    (simple cfg fs u calls0 c al okb).out =
      emit cfg (outHeader (16 + body.length + data.length) 0 u ++ body ++ data) :=
  ok_reply_is_concatenation cfg u _ al (fs c) okb body data hne hb hfit

/-- LSEEK: the new offset as `fuse_lseek_out` -/
theorem lseek_reply_exact (cfg : Cfg) (fs : Call → Ans) (h : Hdr) (R : Req fs h) (hop : h.op = 46)
    (fh off whence pad n : Nat) (trail : Bytes)
    (hans : ∀ c, c.method = "lseek" → fs c = .count n) (hcap : 24 ≤ cfg.cap) :
    (handle cfg fs (encHdr h ++ (le64 fh ++ le64 off ++ le32 whence ++ le32 pad ++ trail))).out =
      emit cfg (outHeader 24 0 h.unique ++ le64 n) := by
  rw [handle_reaches_handler R hop, handleBody, withObj_append (by simp)]
  rw [simple_out_of_answer hans nofun (by rfl) (by simp) hcap]
  simp

theorem lseek_reply_decodes (n : Nat) (rest : Bytes) : u64At (le64 n ++ rest) 0 = n % 2 ^ 64 := by
  wire_norm

/-- WRITE: the number of bytes the file system reported as `fuse_write_out` (size, padding 0) -/
theorem write_reply_exact (cfg : Cfg) (fs : Call → Ans) (h : Hdr) (R : Req fs h) (hop : h.op = 16)
    (fh off wf owner flags pad n : Nat) (payload : Bytes)
    (hans : ∀ c, c.method = "write" → fs c = .count n) (hcap : 24 ≤ cfg.cap) :
    (handle cfg fs (encHdr h ++ ((le64 fh ++ le64 off ++ le32 payload.length ++ le32 wf ++ le64 owner ++
        le32 flags ++ le32 pad) ++ payload))).out =
      emit cfg (outHeader 24 0 h.unique ++ (le32 n ++ le32 0)) := by
  rw [handle_reaches_handler R hop, handleBody, withObj_append (by simp)]
  rw [simple_out_of_answer hans nofun (by rfl) (by simp) hcap]
  simp

theorem write_reply_decodes (n : Nat) (rest : Bytes) :
    u32At (le32 n ++ le32 0 ++ rest) 0 = n % 2 ^ 32 ∧ u32At (le32 n ++ le32 0 ++ rest) 4 = 0 := by
  constructor <;> wire_norm

/-- STATFS: `fuse_kstatfs` converted from the file system's `statvfs64` -/
theorem statfs_reply_exact (cfg : Cfg) (fs : Call → Ans) (h : Hdr) (R : Req fs h) (hop : h.op = 17)
    (s : Statvfs) (trail : Bytes)
    (hans : ∀ c, c.method = "statfs" → fs c = .statfs s) (hcap : 96 ≤ cfg.cap) :
    (handle cfg fs (encHdr h ++ trail)).out =
      emit cfg (outHeader 96 0 h.unique ++ kstatfsBytes (kstatfsOfStatvfs s)) := by
  rw [handle_reaches_handler R hop, handleBody]
  rw [simple_out_of_answer hans nofun (by rfl) (by simp [kstatfsBytes, zeros]) hcap]
  simp

/-- what the kernel reads from the STATFS reply: every `statvfs64` field, truncated to the wire widths -/
theorem statfs_reply_decodes (s : Statvfs) (rest : Bytes) :
    let b := kstatfsBytes (kstatfsOfStatvfs s) ++ rest
    u64At b 0 = s.blocks % 2 ^ 64 ∧ u64At b 8 = s.bfree % 2 ^ 64 ∧ u64At b 16 = s.bavail % 2 ^ 64 ∧
    u64At b 24 = s.files % 2 ^ 64 ∧ u64At b 32 = s.ffree % 2 ^ 64 ∧ u32At b 40 = s.bsize % 2 ^ 32 ∧
    u32At b 44 = s.namemax % 2 ^ 32 ∧ u32At b 48 = s.frsize % 2 ^ 32 := by
  unfold kstatfsBytes kstatfsOfStatvfs
  simp only [List.append_assoc]
  refine ⟨?_, ?_, ?_, ?_, ?_, ?_, ?_, ?_⟩ <;> wire_norm <;> simp only [u32, Nat.mod_mod]

theorem bmap_reply_exact (cfg : Cfg) (fs : Call → Ans) (h : Hdr) (R : Req fs h) (hop : h.op = 37)
    (block bs pad n : Nat) (trail : Bytes)
    (hans : ∀ c, c.method = "bmap" → fs c = .count n) (hcap : 24 ≤ cfg.cap) :
    (handle cfg fs (encHdr h ++ (le64 block ++ le32 bs ++ le32 pad ++ trail))).out =
      emit cfg (outHeader 24 0 h.unique ++ le64 n) := by
  rw [handle_reaches_handler R hop, handleBody, withObj_append (by simp)]
  rw [simple_out_of_answer hans nofun (by rfl) (by simp) hcap]
  simp

/-- POLL: the ready events as `fuse_poll_out` -/
theorem poll_reply_exact (cfg : Cfg) (fs : Call → Ans) (h : Hdr) (R : Req fs h) (hop : h.op = 40)
    (fh kh flags events n : Nat) (trail : Bytes)
    (hans : ∀ c, c.method = "poll" → fs c = .count n) (hcap : 24 ≤ cfg.cap) :
    (handle cfg fs (encHdr h ++ (le64 fh ++ le64 kh ++ le32 flags ++ le32 events ++ trail))).out =
      emit cfg (outHeader 24 0 h.unique ++ (le32 n ++ le32 0)) := by
  rw [handle_reaches_handler R hop, handleBody, withObj_append (by simp)]
  rw [simple_out_of_answer hans nofun (by rfl) (by simp) hcap]
  simp

/-- LISTXATTR with size 0 asks for the length: `fuse_getxattr_out` -/
theorem listxattr_size_reply_exact (cfg : Cfg) (fs : Call → Ans) (h : Hdr) (R : Req fs h) (hop : h.op = 23)
    (size pad n : Nat) (trail : Bytes)
    (hans : ∀ c, c.method = "listxattr" → fs c = .count n) (hcap : 24 ≤ cfg.cap) :
    (handle cfg fs (encHdr h ++ (le32 size ++ le32 pad ++ trail))).out =
      emit cfg (outHeader 24 0 h.unique ++ (le32 n ++ le32 0)) := by
  rw [handle_reaches_handler R hop, handleBody, withObj_append (by simp)]
  rw [simple_out_of_answer hans nofun (by rfl) (by simp) hcap]
  simp

/-- LISTXATTR names: the reply payload is exactly the bytes the file system returned -/
theorem listxattr_data_reply_exact (cfg : Cfg) (fs : Call → Ans) (h : Hdr) (R : Req fs h) (hop : h.op = 23)
    (size pad : Nat) (d trail : Bytes)
    (hans : ∀ c, c.method = "listxattr" → fs c = .data d) (hcap : 16 + d.length ≤ cfg.cap) :
    (handle cfg fs (encHdr h ++ (le32 size ++ le32 pad ++ trail))).out =
      emit cfg (outHeader (16 + d.length) 0 h.unique ++ d) := by
  rw [handle_reaches_handler R hop, handleBody, withObj_append (by simp)]
  rw [simple_out_of_answer hans nofun (by rfl) (by simp) hcap]
  simp

/-- GETLK: the conflicting lock as `fuse_lk_out` -/
theorem getlk_reply_exact (cfg : Cfg) (fs : Call → Ans) (h : Hdr) (R : Req fs h) (hop : h.op = 31)
    (fh owner st en typ pid lkf pad s e t p : Nat) (trail : Bytes)
    (hans : ∀ c, c.method = "getlk" → fs c = .lock s e t p) (hcap : 40 ≤ cfg.cap) :
    (handle cfg fs (encHdr h ++ (le64 fh ++ le64 owner ++ le64 st ++ le64 en ++ le32 typ ++ le32 pid ++
        le32 lkf ++ le32 pad ++ trail))).out =
      emit cfg (outHeader 40 0 h.unique ++ (le64 s ++ le64 e ++ le32 t ++ le32 p)) := by
  rw [handle_reaches_handler R hop, handleBody, withObj_append (by simp)]
  rw [simple_out_of_answer hans nofun (by rfl) (by simp) hcap]
  simp

theorem getlk_reply_decodes (s e t p : Nat) (rest : Bytes) :
    let b := le64 s ++ le64 e ++ le32 t ++ le32 p ++ rest
    u64At b 0 = s % 2 ^ 64 ∧ u64At b 8 = e % 2 ^ 64 ∧ u32At b 16 = t % 2 ^ 32 ∧ u32At b 20 = p % 2 ^ 32 := by
  simp only
  refine ⟨?_, ?_, ?_, ?_⟩ <;> wire_norm

/-- OPENDIR: handle and options; never a passthrough id -/
theorem opendir_reply_exact (cfg : Cfg) (fs : Call → Ans) (h : Hdr) (R : Req fs h) (hop : h.op = 27)
    (flags pad : Nat) (fh pt : Option Nat) (opts : Nat) (trail : Bytes)
    (hans : ∀ c, c.method = "opendir" → fs c = .opened fh opts pt) (hcap : 32 ≤ cfg.cap) :
    (handle cfg fs (encHdr h ++ (le32 flags ++ le32 pad ++ trail))).out =
      emit cfg (outHeader 32 0 h.unique ++ openOutBytes fh opts none) := by
  rw [handle_reaches_handler R hop, handleBody, withObj_append (by simp)]
  rw [simple_out_of_answer hans nofun (by rfl) (by simp [openOutBytes]) hcap]
  simp

/-- requests answered without a body (here FLUSH; the same shape serves RELEASE, FSYNC, ACCESS,
    SETLK, FALLOCATE, …): a bare header with error 0 -/
theorem flush_reply_is_bare_header (cfg : Cfg) (fs : Call → Ans) (h : Hdr) (R : Req fs h) (hop : h.op = 25)
    (fh un pad owner : Nat) (trail : Bytes)
    (hans : ∀ c, c.method = "flush" → fs c = .unit) (hcap : 16 ≤ cfg.cap) :
    (handle cfg fs (encHdr h ++ (le64 fh ++ le32 un ++ le32 pad ++ le64 owner ++ trail))).out =
      emit cfg (outHeader 16 0 h.unique) := by
  rw [handle_reaches_handler R hop, handleBody, withObj_append (by simp)]
  rw [simple_out_of_answer hans nofun (by rfl) (by simp) hcap]
  simp

/-- and an error from the file system on such a request is the bare header with the negated errno -/
theorem flush_error_reply (cfg : Cfg) (fs : Call → Ans) (h : Hdr) (R : Req fs h) (hop : h.op = 25)
    (fh un pad owner n : Nat) (trail : Bytes)
    (hans : ∀ c, c.method = "flush" → fs c = .err (.os n)) (h1 : 1 ≤ n) (hn : n < 2 ^ 32) (hcap : 16 ≤ cfg.cap) :
    (handle cfg fs (encHdr h ++ (le64 fh ++ le32 un ++ le32 pad ++ le64 owner ++ trail))).out =
      emit cfg (outHeader 16 (2 ^ 32 - n) h.unique) := by
  rw [handle_reaches_handler R hop, handleBody, withObj_append (by simp)]
  unfold simple
  rw [hans (mkCall _ "flush" _) rfl, error_reply_is_header _ _ _ _ _ _ hcap, errField, Nat.mod_eq_of_lt hn,
    Nat.mod_eq_of_lt (by omega : 2 ^ 32 - n < 2 ^ 32)]

end Fbr.Thm.C03
