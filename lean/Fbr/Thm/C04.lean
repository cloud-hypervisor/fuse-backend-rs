/-
  C04 — Transport readers/writers move every byte exactly once, in order, within bounds.

  PROPERTY THEOREMS ONLY (helper lemmas: `Fbr.Lemmas.Xport*`).  Model: `Fbr.Xport` (IoBuffers,
  Reader, VirtioFsWriter, FuseDevWriter, the FileVolatileSlice adapter) and `Fbr.XportSys` (handle
  table + operation lists).  Specification: `Fbr.XportSpec` — ONE FLAT LIST AND A CURSOR:
  a buffer list denotes its flat list of byte addresses `addrs segs` (content = that list read
  through memory, `flat m segs`), and every operation is `take`/`drop` on it (`Spec.advance`,
  `Spec.split`).

  `Start st` (Fbr.Lemmas.XportSys) = a virtio-fs request before the server touched it: empty
  access log and dirty log, no fusedev writer, page size > 0, counters that cannot overflow usize
  (what the constructors guarantee: `constructors_establish_invariants`); `readable st` /
  `writable st` = the byte addresses of the reader's / writer's buffers; `exec st ops` = the
  handle table after an arbitrary operation list (`Fbr.XportSys`).

  Notes (DESIGN §7): S5 — the trait-default `*_vectored_at_volatile` use `bufs.first()`; modelled
  as they are (`Script.writeVectored/readVectored`, kind `dflt`) and all theorems hold for both
  kinds of file, a leading zero-length buffer just makes such a file transfer 0 bytes.
  F3 — `FileVolatileSlice::read_slice` used to call `write_slice`; fixed in /repo (681974b), so
  `bytes_adapter_is_plain_view` is stated at full strength.

  `w.log` is the list of raw memory accesses performed (each `copy_nonoverlapping`, each range a
  scripted file touched); `rdAddrs`/`wrAddrs` are the byte addresses read / written, in order.

  Content vocabulary (Fbr.Lemmas.XportStep): `delivered s i op` = the bytes operation `op`, run
  in state `s`, returns into the caller's buffer (`read`, `read_obj`) or hands to its sink
  (`read_to(_at)`, `read_exact_to`) through reader handle `i` (`[]` if `op` is not a reader
  operation on `i`); `placed s i op` = the bytes `op` stores through writer handle `i`: the first
  `n` bytes of its source — the caller's buffer(s) in order, the scripted file's byte stream from
  its position — with `n` the advance of the cursor (= the count the operation reports,
  `writer_ops_place_what_they_report`); `deliveredAll s i ops` / `placedAll s i ops` = their
  concatenation over an operation list, in operation order, each operation evaluated in the
  state the previous ones left.
-/
import Fbr.Lemmas.XportCThm
import Fbr.Lemmas.XportFuseThm
import Fbr.Thm.C01
import Fbr.Lemmas.FileIo

namespace Fbr.Thm.C04
open Fbr.Xport

/-- `Reader::read(buf)` IS `Spec.advance`: it returns `min(n, available)`, the addresses it reads
    are the next ones of the flat list in order, and the cursor afterwards is the advanced spec
    cursor.  (Any buffer list: zero-length buffers, any borders.) -/
theorem read_refines_spec (b : IoBufs) (w : World) (n : Nat) (hov : b.consumed + total b.segs < USIZE) :
    let o := Reader.read b w n
    o.res = .ok (min n (total b.segs))
      ∧ rdAddrs o.w.log = rdAddrs w.log ++ (b.abs.advance n).1
      ∧ wrAddrs o.w.log = wrAddrs w.log
      ∧ o.b.abs = (b.abs.advance n).2 := by
  intro o
  have h := read_advBy_min b w n hov
  rw [Spec.advance_min, show b.abs.rest.length = total b.segs from length_addrs _, h.abs]
  exact ⟨read_res b w n hov, h.rlog, h.rother, rfl⟩

/-- `split_at(k)` IS `Spec.split`: it fails exactly when `k` exceeds what is available (and then
    changes nothing — the result carries no new state); otherwise `self` keeps the first `k`
    addresses and its counter, `other` gets the rest with a zero counter.  Any buffer list, any
    cut point (inside a buffer, on a border, 0, everything). -/
theorem split_partitions (b : IoBufs) (k : Nat) :
    (b.available < k ↔ ∃ e, b.splitAt k = .error e)
    ∧ (∀ a o, b.splitAt k = .ok (a, o) →
        b.abs.split k = some (a.abs, o.abs)
          ∧ addrs a.segs ++ addrs o.segs = addrs b.segs
          ∧ a.available = k ∧ o.available = b.available - k ∧ a.consumed = b.consumed ∧ o.consumed = 0) := by
  refine ⟨by rw [available_eq_total]; exact splitAt_error_iff b k, ?_⟩
  intro a o h
  obtain ⟨hk, ha, ho, ca, co, la, lo⟩ := splitAt_ok h
  refine ⟨?_, (splitAt_addrs h).symm, by rw [available_eq_total, la],
    by rw [available_eq_total, available_eq_total, lo], ca, co⟩
  simp only [Spec.split, IoBufs.abs, length_addrs, hk, if_true, ha, ho, ca, co]

/-- **Counters add up.**  Start from any readers/writers (any chain shape) and run ANY operation
    list: the sum of `available + consumed` over all readers (including those created by splits)
    is still the total length of the readable buffers, and the same for writers. -/
theorem counters_add_up (st : St) (ops : List Op) (h : Start st) :
    sizes (exec st ops).readers = sizes st.readers ∧ sizes (exec st ops).writers = sizes st.writers :=
  ⟨(exec_ainv ops (start_ainv h)).rsum, (exec_ainv ops (start_ainv h)).wsum⟩

/-- **Accesses in bounds.**  After ANY operation list, every byte address read lies in one of the
    reader's original buffers and every byte address written lies in one of the writer's original
    buffers — nothing outside the descriptor chain is ever touched, and readers never write. -/
theorem accesses_in_bounds (st : St) (ops : List Op) (h : Start st) :
    (∀ a ∈ rdAddrs (exec st ops).w.log, a ∈ readable st)
    ∧ (∀ a ∈ wrAddrs (exec st ops).w.log, a ∈ writable st) :=
  ⟨(exec_ainv ops (start_ainv h)).inv.w.rd_in, (exec_ainv ops (start_ainv h)).inv.w.wr_in⟩

/-- … and therefore inside the memory regions, when the chain's buffers are (`WF`, which the
    constructors check with `get_slice`). -/
theorem accesses_inside_regions (st : St) (ops : List Op) (h : Start st) (m : Mem)
    (hr : ∀ b ∈ st.readers, WF m b.segs) (hw : ∀ b ∈ st.writers, WF m b.segs) :
    ∀ a ∈ rdAddrs (exec st ops).w.log ++ wrAddrs (exec st ops).w.log, a.2 < (m.get a.1).length := by
  intro a ha
  have hb := accesses_in_bounds st ops h
  rw [readable_eq_ahead, writable_eq_ahead] at hb
  rcases List.mem_append.mp ha with h1 | h1
  · exact inMem_ahead hr a (hb.1 a h1)
  · exact inMem_ahead hw a (hb.2 a h1)

/-- The cursors that remain after ANY operation list still cover only chain addresses. -/
theorem remaining_buffers_in_bounds (st : St) (ops : List Op) (h : Start st) :
    (∀ b ∈ (exec st ops).readers, ∀ a ∈ addrs b.segs, a ∈ readable st)
    ∧ (∀ b ∈ (exec st ops).writers, ∀ a ∈ addrs b.segs, a ∈ writable st) :=
  ⟨fun b hb => ((exec_ainv ops (start_ainv h)).inv.readers b hb).sub, fun b hb => ((exec_ainv ops (start_ainv h)).inv.writers b hb).sub⟩

/-- **Every byte exactly once.**  After ANY operation list, the addresses read so far together
    with the addresses still ahead of all readers (however split) are a permutation of the
    readable descriptors' addresses — and likewise written/writers/writable.  Hence, when the
    descriptors do not overlap, no byte is read twice, written twice, or both consumed and still
    ahead of some cursor. -/
theorem every_byte_moved_exactly_once (st : St) (ops : List Op) (h : Start st) :
    (rdAddrs (exec st ops).w.log ++ ahead (exec st ops).readers).Perm (readable st)
    ∧ (wrAddrs (exec st ops).w.log ++ ahead (exec st ops).writers).Perm (writable st) :=
  ⟨(exec_ainv ops (start_ainv h)).ronce, (exec_ainv ops (start_ainv h)).wonce⟩

theorem no_byte_written_twice (st : St) (ops : List Op) (h : Start st) (hnd : (writable st).Nodup) :
    (wrAddrs (exec st ops).w.log).Nodup ∧ (ahead (exec st ops).writers).Nodup
      ∧ ∀ a ∈ wrAddrs (exec st ops).w.log, a ∉ ahead (exec st ops).writers :=
  nodup_of_perm_append (exec_ainv ops (start_ainv h)).wonce hnd

/-- **Overflow fails without writing**: a `write` of more bytes than available returns an error
    and leaves the cursor, memory, dirty log and access log exactly as they were. -/
theorem overflow_fails_without_writing (b : IoBufs) (w : World) (data : Bytes) (h : b.available < data.length) :
    let o := VirtioW.write b w data
    o.res = .error .invalidData ∧ o.b = b ∧ o.w.mem = w.mem ∧ o.w.log = w.log ∧ o.w.dirty = w.dirty := by
  intro o
  simp [o, vwrite_of_err w data (checkAvail_overflow b _ h)]

/-- … the same for `write_vectored` (total length) and `write_from(_at)` / `write_all_from`
    (requested count). -/
theorem overflow_fails_without_writing_vectored (b : IoBufs) (w : World) (bufs : List Bytes)
    (h : b.available < bufs.foldl (fun acc x => acc + x.length) 0) :
    let o := VirtioW.writeVectored b w bufs
    o.res = .error .invalidData ∧ o.b = b ∧ o.w.mem = w.mem ∧ o.w.log = w.log ∧ o.w.dirty = w.dirty := by
  intro o
  simp [o, VirtioW.writeVectored, checkAvail_overflow b _ h]

theorem overflow_fails_without_writing_from (b : IoBufs) (w : World) (src : Script) (count : Nat)
    (at_ : Option Nat) (h : b.available < count) :
    let o := VirtioW.writeFrom b w src count at_
    o.res = .error .invalidData ∧ o.b = b ∧ o.w.mem = w.mem ∧ o.w.log = w.log ∧ o.w.dirty = w.dirty
      ∧ o.aux.offered = src.offered := by
  intro o
  simp [o, writeFrom_of_err w src at_ (checkAvail_overflow b _ h)]

/-- A `write` that fits succeeds with the full length (no spurious short writes). -/
theorem write_that_fits_succeeds (b : IoBufs) (w : World) (data : Bytes)
    (hov : b.consumed + total b.segs < USIZE) (h : data.length ≤ b.available) :
    (VirtioW.write b w data).res = .ok data.length :=
  vwrite_res_ok b w data hov (by rw [← available_eq_total]; exact h)

/-- **Zero-length segments are harmless**: inserting or removing zero-length buffers anywhere in
    a chain changes nothing in the flat list the cursor operations act on (and all operation
    theorems above are stated on that flat list). -/
theorem zero_length_segments_harmless (segs : List Seg) :
    addrs (segs.filter fun s => s.len ≠ 0) = addrs segs ∧ total (segs.filter fun s => s.len ≠ 0) = total segs := by
  induction segs with
  | nil => exact ⟨rfl, rfl⟩
  | cons s rest ih =>
    by_cases h : s.len = 0
    · rw [List.filter_cons_of_neg (by simp [h])]
      simp only [addrs, total, segAddrs_zero s h, List.nil_append, h, Nat.zero_add]
      exact ih
    · rw [List.filter_cons_of_pos (by simp [h])]
      simp only [addrs, total, ih.1, ih.2, and_self]

/-- **Byte-level refinement of `read`.**  With the buffers inside their regions, `read(buf)`
    returns exactly the next `n` bytes of the flat content (`Spec.advance` on the flat *byte*
    list), leaves the rest as the new content, and does not modify memory. -/
theorem read_returns_request_bytes (b : IoBufs) (w : World) (n : Nat) (hwf : WF w.mem b.segs)
    (hov : b.consumed + total b.segs < USIZE) :
    let o := Reader.read b w n
    o.aux = ((b.absBytes w.mem).advance n).1 ∧ o.b.absBytes w.mem = ((b.absBytes w.mem).advance n).2
      ∧ o.w.mem = w.mem := by
  intro o
  have hrc := read_rdc b w n hwf.inMem hov
  -- `read` passes `min n available` bytes
  have hk : o.aux.length = min n (b.absBytes w.mem).rest.length := by
    have h1 := (read_advBy_min b w n hov).consumed
    have h2 := hrc.advBy.consumed
    simp only [IoBufs.absBytes, flat_eq_map _ _ hwf.inMem, List.length_map, length_addrs]
    show (Reader.read b w n).aux.length = _
    omega
  rw [Spec.advance_min, ← hk, hrc.absBytes hwf.inMem]
  exact ⟨rfl, rfl, hrc.mem⟩

/-- **Reads are the request bytes, in order** (content level, any operation list).  Start from
    any request (any chain layout; the readable and the writable descriptors do not share a
    byte), run ANY operation list `pre` (reads, object reads, file transfers, splits, writes on
    any handles), pick ANY reader handle `i` that exists then — the original reader or one half
    of any split — and run ANY further operation list `ops` that does not split handle `i`
    itself (operations on all other handles, including their splits, and all writer operations
    may be interleaved arbitrarily; `read_to(_at)`/`read_exact_to` go through scripted files
    with short counts, EIO, EINTR, with or without vectored overrides).  Then the bytes
    delivered through `i` — returned by `read`/`read_obj`, handed to the sinks — concatenated in
    operation order, followed by what the handle still holds, are exactly what it held before,
    read through the ORIGINAL memory: a prefix of the request bytes, nothing skipped, nothing
    repeated, nothing altered; the counter grew by the number of bytes delivered; and what is
    still ahead is still unmodified in memory. -/
theorem reads_are_request_bytes_in_order (st : St) (pre ops : List Op) (h : Start st)
    (hdisj : ∀ a ∈ readable st, a ∉ writable st)
    (hr : ∀ b ∈ st.readers, WF st.w.mem b.segs) (hw : ∀ b ∈ st.writers, WF st.w.mem b.segs)
    (i : Nat) (b0 : IoBufs) (hi : (exec st pre).readers[i]? = some b0) (hns : ∀ k, Op.rs i k ∉ ops) :
    ∃ bf, (exec (exec st pre) ops).readers[i]? = some bf
      ∧ deliveredAll (exec st pre) i ops ++ flat st.w.mem bf.segs = flat st.w.mem b0.segs
      ∧ bf.consumed = b0.consumed + (deliveredAll (exec st pre) i ops).length
      ∧ (∀ a ∈ addrs bf.segs, (exec (exec st pre) ops).w.mem.byteAt a = st.w.mem.byteAt a) :=
  reads_run (fun ops' => (exec_vinv ops' (start_vinv h hw)).memOff) pre ops (start_rdinv h hdisj hr) i b0 hi hns

/-- `delivered` is what a caller observes (and what the differential run compares with the real
    `Reader`): the `bytes` of the observation of `step` — for `read` always, for `read_obj` when it
    succeeds (a failing `read_obj` has consumed and dropped what `delivered` lists), for the file
    transfers when the scripted sink starts empty (its `got` afterwards). -/
theorem delivered_bytes_are_the_observed_ones (s : St) (h : Nat) (b : IoBufs) (hg : s.readers[h]? = some b) :
    (∀ n, (step s (.rd h n)).2.bytes = delivered s h (.rd h n))
    ∧ (∀ n, (Reader.readObj b s.w n).res = .ok () → (step s (.ro h n)).2.bytes = delivered s h (.ro h n))
    ∧ (∀ count at_ sc, sc.got = [] → (step s (.rt h count at_ sc)).2.bytes = delivered s h (.rt h count at_ sc))
    ∧ (∀ count sc, sc.got = [] → (step s (.re h count sc)).2.bytes = delivered s h (.re h count sc)) := by
  refine ⟨?_, ?_, ?_, ?_⟩
  · intro n
    rw [delivered_eq (op := .rd h n) rfl hg]; simp [step, hg, obsOf, readerOut]
  · intro n hok
    rw [delivered_eq (op := .ro h n) rfl hg]; simp [step, hg, obsOf, readerOut, hok]
  · intro count at_ sc hsc
    rw [delivered_eq (op := .rt h count at_ sc) rfl hg]; simp [step, hg, obsOf, readerOut, hsc]
  · intro count sc hsc
    rw [delivered_eq (op := .re h count sc) rfl hg]; simp [step, hg, obsOf, readerOut, hsc]

/-- The same on addresses for EVERY reader operation (object reads, file transfers with any
    scripted file, retry loops): each advances the cursor by some `n`, reading exactly the next
    `n` addresses in order and leaving the rest — so over any operation list no byte is visited
    twice or skipped.  (`Adv` is closed under sequencing: `Adv.trans`.) -/
theorem every_reader_op_advances (b : IoBufs) (w : World) (hov : b.consumed + total b.segs < USIZE) :
    (∀ n, Adv false false b w (Reader.readObj b w n).b (Reader.readObj b w n).w)
    ∧ (∀ dst count at_, Adv false false b w (Reader.readTo b w dst count at_).b (Reader.readTo b w dst count at_).w)
    ∧ (∀ fuel dst count, Adv false false b w (Reader.readExactTo fuel b w dst count).b (Reader.readExactTo fuel b w dst count).w) :=
  ⟨fun n => readObj_adv b w n hov, fun dst count at_ => ⟨_, readTo_advBy b w dst count at_ hov⟩,
   fun fuel dst count => readExactTo_adv fuel b w dst count hov⟩

/-- … and EVERY writer operation likewise (with the pages of exactly those addresses marked). -/
theorem every_writer_op_advances (b : IoBufs) (w : World) (hp : 0 < w.p) (hov : b.consumed + total b.segs < USIZE) :
    (∀ data, Adv true true b w (VirtioW.write b w data).b (VirtioW.write b w data).w)
    ∧ (∀ bufs, Adv true true b w (VirtioW.writeVectored b w bufs).b (VirtioW.writeVectored b w bufs).w)
    ∧ (∀ src count at_, Adv true true b w (VirtioW.writeFrom b w src count at_).b (VirtioW.writeFrom b w src count at_).w)
    ∧ (∀ src count, Adv true true b w (VirtioW.writeAllFrom b w src count).b (VirtioW.writeAllFrom b w src count).w) :=
  ⟨fun d => ⟨_, vwrite_advBy b w d hov⟩, fun bufs => writeVectored_adv b w bufs hov,
   fun src count at_ => ⟨_, (writeFrom_advBy b w src count at_ hov).2⟩, fun src count => writeAllFrom_adv b w src count hov⟩

/-- **Writes are the concatenation written** (content level, any operation list).  Start from
    any request whose writable descriptors do not overlap, run ANY operation list `pre`, pick
    ANY writer handle `i` that exists then (the original writer or a half of any split), and run
    ANY further operation list `ops` that does not split handle `i` itself (`write`,
    `write_vectored`, `write_from(_at)`, `write_all_from` with any scripted source — short counts,
    EIO, EINTR, trait-default vectored methods —, failing and refused operations, operations on
    every other handle and reader operations interleaved arbitrarily).  Then the buffers handle
    `i` held hold exactly the concatenation, in operation order, of what was stored through it,
    followed by their old content (unused space untouched); its counter grew by that length; it
    still holds exactly the rest; and no byte outside the space the writers held changed. -/
theorem writes_are_concatenation (st : St) (pre ops : List Op) (h : Start st) (hnd : (writable st).Nodup)
    (hr : ∀ b ∈ st.readers, WF st.w.mem b.segs) (hw : ∀ b ∈ st.writers, WF st.w.mem b.segs)
    (i : Nat) (b0 : IoBufs) (hi : (exec st pre).writers[i]? = some b0) (hns : ∀ k, Op.ws i k ∉ ops) :
    ∃ bf, (exec (exec st pre) ops).writers[i]? = some bf
      ∧ flat (exec (exec st pre) ops).w.mem b0.segs
          = placedAll (exec st pre) i ops
            ++ (flat (exec st pre).w.mem b0.segs).drop (placedAll (exec st pre) i ops).length
      ∧ bf.consumed = b0.consumed + (placedAll (exec st pre) i ops).length
      ∧ addrs bf.segs = (addrs b0.segs).drop (placedAll (exec st pre) i ops).length
      ∧ (∀ a, a ∉ ahead (exec st pre).writers →
          (exec (exec st pre) ops).w.mem.byteAt a = (exec st pre).w.mem.byteAt a) := by
  have hv := exec_vinv pre (start_vinv h hw)
  obtain ⟨bf, hgf, hwr, hfr⟩ := writer_handle_run ops hv hnd i b0 hi hns
  exact ⟨bf, hgf, writer_flat_run ops hv hnd i b0 hi hns, hwr.consumed, hwr.addrs', hfr⟩

/-- **All bytes delivered are request bytes** (global form, splits of every handle allowed).  After
    ANY operation list — any readers, however split, in any interleaving — the bytes delivered by
    all reader operations (`deliveredLog`: `delivered` of each operation through the handle it
    acts on, concatenated in operation order) are exactly the bytes of the ORIGINAL memory at the
    addresses read, in the order they were read.  With `every_byte_moved_exactly_once` (those
    addresses, together with what the readers still hold, are a permutation of the readable
    descriptors' addresses): no request byte is delivered twice, none is invented or altered. -/
theorem all_delivered_bytes_are_request_bytes (st : St) (ops : List Op) (h : Start st)
    (hdisj : ∀ a ∈ readable st, a ∉ writable st)
    (hr : ∀ b ∈ st.readers, WF st.w.mem b.segs) (hw : ∀ b ∈ st.writers, WF st.w.mem b.segs) :
    deliveredLog st ops = (rdAddrs (exec st ops).w.log).map st.w.mem.byteAt := by
  have := exec_rdlog ops (start_vinv h hw) (start_rdinv h hdisj hr)
  rw [h.log] at this
  simpa [rdAddrs] using this.symm

/-- **All bytes written hold what was stored** (global form, splits of every handle allowed).  After
    ANY operation list on non-overlapping writable descriptors, the addresses written, in the order
    they were written, hold exactly the bytes stored by all writer operations (`placedLog`:
    `placed` of each operation through the handle it acts on, concatenated in operation order) —
    no later operation, on any handle, has disturbed an earlier one's bytes. -/
theorem all_written_bytes_hold_what_was_placed (st : St) (ops : List Op) (h : Start st) (hnd : (writable st).Nodup)
    (hr : ∀ b ∈ st.readers, WF st.w.mem b.segs) (hw : ∀ b ∈ st.writers, WF st.w.mem b.segs) :
    (wrAddrs (exec st ops).w.log).map (exec st ops).w.mem.byteAt = placedLog st ops := by
  have := exec_wl ops (start_vinv h hw) hnd
  rw [h.log] at this
  simpa [wrAddrs] using this

/-- **What a writer operation stores is what it reports** (the `n` in `placed`): a successful
    `write` stores the whole buffer and reports its length, a failing one stores nothing; a
    successful `write_vectored` reporting `n` stores the first `n` bytes of the buffers in order;
    `write_from(_at)` reporting `n ≤ count` stores the `n` bytes the scripted file delivered
    (from its position, or from the given offset), a failing one stores nothing; a successful
    `write_all_from(count)` stores `count` bytes of the file's stream.  (A failing
    `write_all_from`/`write_vectored` may have stored a prefix: `placed` is that prefix.) -/
theorem writer_ops_place_what_they_report (b : IoBufs) (w : World) (hp : 0 < w.p) (hwf : WF w.mem b.segs)
    (hov : b.consumed + total b.segs < USIZE) (h : Nat) :
    (∀ data n, (VirtioW.write b w data).res = .ok n → n = data.length ∧ writerIn b w (.wr h data) = data)
    ∧ (∀ data e, (VirtioW.write b w data).res = .error e → writerIn b w (.wr h data) = [])
    ∧ (∀ datas n, (VirtioW.writeVectored b w datas).res = .ok n → writerIn b w (.wv h datas) = datas.flatten.take n)
    ∧ (∀ count at_ sc n, (VirtioW.writeFrom b w sc count at_).res = .ok n →
        n ≤ count ∧ writerIn b w (.wf h count at_ sc) = patBytes sc.seed (at_.getD sc.pos) n)
    ∧ (∀ count at_ sc e, (VirtioW.writeFrom b w sc count at_).res = .error e → writerIn b w (.wf h count at_ sc) = [])
    ∧ (∀ count sc, (VirtioW.writeAllFrom b w sc count).res = .ok () →
        writerIn b w (.wa h count sc) = patBytes sc.seed sc.pos count) := by
  have hin := hwf.inMem
  refine ⟨?_, ?_, ?_, ?_, ?_, ?_⟩
  · exact fun data => (take_all_or_nothing (vwrite_delta b w data hov)).1
  · exact fun data => (take_all_or_nothing (vwrite_delta b w data hov)).2
  · intro datas n hn
    simp only [writerIn]
    rw [(writeVectored_wrc b w datas hin hov).2 n hn]
  · intro count at_ sc n hn
    obtain ⟨_, _, _, dm, dle⟩ := writeFrom_wrc b w sc count at_ hin hov rfl
    simp only [writerIn]
    rw [dm, hn] at dle ⊢
    exact ⟨dle, rfl⟩
  · intro count at_ sc e he
    simp only [writerIn]
    rw [(writeFrom_wrc b w sc count at_ hin hov rfl).2.2.2.1, he]; rfl
  · intro count sc hok
    simp only [writerIn]
    rw [(writeAllFrom_wrc b w sc count hin hov).2 hok]

/-- **Memory changes only where something was written**: after ANY operation list every byte
    whose address is not in the write log is as it was — with `accesses_in_bounds`: nothing
    outside the writable descriptors ever changes, and (`no_byte_written_twice`) space a writer
    has not consumed is untouched. -/
theorem memory_changes_only_where_written (st : St) (ops : List Op) (h : Start st)
    (hr : ∀ b ∈ st.readers, WF st.w.mem b.segs) (hw : ∀ b ∈ st.writers, WF st.w.mem b.segs) :
    (∀ a, a ∉ wrAddrs (exec st ops).w.log → (exec st ops).w.mem.byteAt a = st.w.mem.byteAt a)
    ∧ (∀ x, ((exec st ops).w.mem.get x).length = (st.w.mem.get x).length) :=
  ⟨(exec_vinv ops (start_vinv h hw)).frame, (exec_vinv ops (start_vinv h hw)).len⟩

/-- **Split header/data writers** (content level, any operation list).  After ANY operation list
    `pre`, split ANY writer handle `i` at `k` into a header half (still `i`) and a data half (the
    new handle, index `writers.length`), then run ANY operation list that does not split these
    two halves again — any interleaving of any writer operations on the two halves (data first,
    header first, alternating, short or failing `write_from`s, …) and of operations on other
    handles.  The buffers the writer held before the split then hold
    `(everything stored through the header half) ++ (untouched rest of the first k bytes) ++
     (everything stored through the data half) ++ (untouched rest)`. -/
theorem split_writers_concatenate (st : St) (pre ops : List Op) (h : Start st) (hnd : (writable st).Nodup)
    (hr : ∀ b ∈ st.readers, WF st.w.mem b.segs) (hw : ∀ b ∈ st.writers, WF st.w.mem b.segs)
    (i k : Nat) (b a o : IoBufs) (hi : (exec st pre).writers[i]? = some b) (hs : b.splitAt k = .ok (a, o))
    (hns : ∀ k', Op.ws i k' ∉ ops ∧ Op.ws (exec st pre).writers.length k' ∉ ops) :
    flat (exec (exec st (pre ++ [.ws i k])) ops).w.mem b.segs
      = (placedAll (exec st (pre ++ [.ws i k])) i ops
          ++ (flat (exec st pre).w.mem a.segs).drop (placedAll (exec st (pre ++ [.ws i k])) i ops).length)
        ++ (placedAll (exec st (pre ++ [.ws i k])) (exec st pre).writers.length ops
          ++ (flat (exec st pre).w.mem o.segs).drop
              (placedAll (exec st (pre ++ [.ws i k])) (exec st pre).writers.length ops).length) := by
  rw [exec_append]
  exact split_writer_run ops (exec_vinv pre (start_vinv h hw)) hnd hi hs hns

/-- The constructors establish the hypotheses used above: a cursor built from ANY descriptor
    chain starts at 0, cannot overflow `usize`, keeps the descriptor lengths in order, and every
    buffer lies inside a region of the guest memory layout. -/
theorem constructors_establish_invariants (lay : Layout) (chain : List Desc) (wr : Bool) (b : IoBufs)
    (h : fromChain lay chain wr = .ok b) :
    b.consumed = 0 ∧ b.consumed + total b.segs < USIZE ∧ (∀ s ∈ b.segs, Fits lay s)
      ∧ b.segs.map (·.len) = (chain.filter (·.writable == wr)).map (·.len) := by
  unfold fromChain at h
  cases hc : fromChainAux lay (chain.filter (·.writable == wr)) 0 [] with
  | error e => simp [hc] at h
  | ok segs =>
    simp only [hc, Except.ok.injEq] at h
    subst h
    obtain ⟨i1, i2, i3⟩ := fromChainAux_spec lay _ 0 [] segs rfl (by simp [USIZE]) (by simp) hc
    exact ⟨rfl, by simpa using i1, i2, by simpa using i3⟩

/-- The `assert!(buffered || buf.is_empty())` is reachable through the public API exactly by a
    further write on an unbuffered writer that has already written (the documented one-shot
    rule); no other writer state panics. -/
theorem fuse_assert_only_on_one_shot_violation (f : FuseW) (sz : Nat) (hok : f.ok) :
    (∃ s, f.checkAvail sz = .error (.panic s)) ↔ (f.buffered = false ∧ f.len ≠ 0) := by
  rw [fcheckAvail_eq hok]
  by_cases h1 : f.buffered = true ∨ f.len = 0
  · rw [if_pos h1]
    constructor
    · rintro ⟨s, hs⟩
      split at hs <;> cases hs
    · rintro ⟨hb, hl⟩
      simp [hb, hl] at h1
  · rw [if_neg h1]
    simpa using h1

/-- `write` never reallocates the borrowed buffer and keeps `len ≤ cap` (so
    `available_bytes = capacity - len` never underflows) — for every writer state and data. -/
theorem fuse_never_realloc (f : FuseW) (w : World) (data : Bytes) (hok : f.ok) :
    (FuseW.write f w data).f.ok ∧ (FuseW.write f w data).f.cap = f.cap
      ∧ (FuseW.write f w data).res ≠ .error (.panic "realloc of borrowed buffer") := by
  have key : (FuseW.write f w data).f.ok ∧ (FuseW.write f w data).f.cap = f.cap := by
    cases hc : f.checkAvail data.length with
    | error e => rw [fwrite_of_err w hc]; exact ⟨hok, rfl⟩
    | ok u =>
      have hfit := fcheckAvail_ok_any hok hc
      cases hb : f.buffered with
      | true =>
        obtain ⟨w1, e⟩ := extend_ok w hfit
        rw [fwrite_buffered w hb hc, e]
        exact ⟨hfit, rfl⟩
      | false => rw [fwrite_unbuffered w hb hc]; exact ⟨hfit, rfl⟩
  exact ⟨key.1, key.2, fun h => (fwrite_benign f w data hok h).1 rfl⟩

/-- `split_at(k)` fails iff `k > capacity`; otherwise the two writers own adjacent windows whose
    capacities add up, share the bytes already written, and both are buffered. -/
theorem fuse_split_partitions (f : FuseW) (k : Nat) (hok : f.ok) :
    ((∃ e, f.splitAt k = .error e) ↔ f.cap < k)
    ∧ ∀ a o, f.splitAt k = .ok (a, o) →
        a.ok ∧ o.ok ∧ a.cap + o.cap = f.cap ∧ a.base = f.base ∧ o.base = f.base + a.cap
          ∧ a.len + o.len = f.len ∧ a.buffered = true ∧ o.buffered = true ∧ k ≤ f.cap ∧ a.cap = k :=
  ⟨fsplit_error_iff f k, fun _ _ => fsplit_ok hok⟩

/-- A buffered write that fits appends exactly `data` to the writer's buffer, writes nothing to
    the descriptor and touches no other byte; one that does not fit is refused. -/
theorem fuse_buffered_write_appends (f : FuseW) (w : World) (data : Bytes) (hb : f.buffered = true) (hok : f.ok)
    (hfit : data.length ≤ f.cap - f.len) (hin : f.inMem w.mem) :
    (FuseW.write f w data).res = .ok data.length
      ∧ (FuseW.write f w data).f.slice (FuseW.write f w data).w.mem = f.slice w.mem ++ data
      ∧ (FuseW.write f w data).w.fd = w.fd
      ∧ (∀ a : Addr, ¬ (a.1 = f.region ∧ f.base + f.len ≤ a.2 ∧ a.2 < f.base + f.len + data.length) →
          (FuseW.write f w data).w.mem.byteAt a = w.mem.byteAt a) := by
  obtain ⟨h1, hc⟩ := fwrite_fits f w data hb hok hfit hin
  exact ⟨h1, hc.slice hin, hc.fd, fun a ha => hc.s.frame a (fun hm => ha (mem_segAddrs.mp hm))⟩

/-- `commit(other)` issues at most one record: `self.buf ++ other.buf`. -/
theorem fuse_commit_is_concatenation (f : FuseW) (w : World) (other : Option FuseW) (hb : f.buffered = true) :
    ∃ r : Bytes, r = f.slice w.mem ++ (match other with | some g => g.slice w.mem | none => [])
      ∧ (FuseW.commit f w other).1 = .ok r.length
      ∧ (FuseW.commit f w other).2.fd = (if r.isEmpty then w.fd else w.fd ++ [r])
      ∧ (FuseW.commit f w other).2.mem = w.mem :=
  fcommit_spec f w other hb

/-! ### FuseDevWriter: any operation list

  `FStart st R base cap` (Fbr.Lemmas.XportFuseThm) = a /dev/fuse reply before the server touched
  it: one fresh `FuseDevWriter::new` over the buffer `[base, base+cap)` of region `R` (inside
  memory), no virtio-fs writer, an empty access log, any readers.  `fahead fws` = the addresses of
  the windows `[base, base+cap)` of all writers of a table; `fwriterIn f w op` / `fplaced s i op` /
  `fplacedAll s i ops` = the bytes an operation / an operation list appends through fusedev
  handle `i` (as `placed`/`placedAll`: the first `n` bytes of the source, `n` the growth of `len` =
  the count reported, `fuse_ops_append_what_they_report`). -/

/-- **FuseDevWriter invariant over ANY operation list** (writes, vectored writes, `write_from(_at)`,
    `write_all_from` with any scripted file, splits at any offset of any writer — also after
    partial writes —, commits, failing and refused operations, reader operations in between, in
    any order): every writer keeps `len ≤ cap` — the `Vec` laid over the borrowed buffer never
    outgrows its capacity, so it never reallocates and `capacity - len` never underflows —, stays
    inside the original buffer, the windows of all writers (however split) always PARTITION the
    original buffer, `available_bytes + bytes_written`
    of every writer is its capacity and the capacities add up to the buffer size, every memory write lies inside it, the
    memory regions keep their sizes, and no virtio-fs writer appears. -/
theorem fuse_invariant_any_operation_list (st : St) (R base cap : Nat) (ops : List Op) (h : FStart st R base cap) :
    (∀ f ∈ (exec st ops).fws, f.len ≤ f.cap ∧ f.region = R ∧ base ≤ f.base ∧ f.base + f.cap ≤ base + cap
        ∧ f.availableBytes + f.bytesWritten = f.cap)
    ∧ (fahead (exec st ops).fws).Perm (segAddrs ⟨R, base, cap⟩)
    ∧ (((exec st ops).fws.map FuseW.cap).sum = cap)
    ∧ (∀ a ∈ wrAddrs (exec st ops).w.log, a ∈ segAddrs ⟨R, base, cap⟩)
    ∧ (∀ x, ((exec st ops).w.mem.get x).length = (st.w.mem.get x).length)
    ∧ (exec st ops).writers = [] := by
  have hi := exec_finv ops (fstart_finv h)
  refine ⟨?_, hi.part, ?_, hi.wrin, hi.len, hi.nowr⟩
  · intro f hf
    obtain ⟨h1, h2, h3, h4⟩ := hi.each f hf
    unfold FuseW.ok at h1
    exact ⟨h1, h2, h3, h4, by unfold FuseW.availableBytes FuseW.bytesWritten; omega⟩
  · rw [← length_fahead, hi.part.length_eq]; simp

/-- … and no operation on a writer with `len ≤ cap` inside memory (every writer of every reachable
    table, by the theorem above) ends in the "realloc of borrowed buffer" or the "capacity - len
    underflow" outcome: whatever fails, fails with an ordinary error (no room, the file's error,
    the documented one-shot assert). -/
theorem fuse_no_operation_reallocates (f : FuseW) (w : World) (hok : f.ok) (hin : f.inMem w.mem) (e : IoErr) :
    (∀ data, (FuseW.write f w data).res = .error e → Benign e)
    ∧ (∀ bufs, (FuseW.writeVectored f w bufs).res = .error e → Benign e)
    ∧ (∀ src count at_, (FuseW.writeFrom f w src count at_).res = .error e → Benign e)
    ∧ (∀ src count, (FuseW.writeAllFrom f w src count).res = .error e → Benign e) :=
  ⟨fun data => fwrite_benign f w data hok, fun bufs => fwriteVectored_benign f w bufs hok hin,
   fun src count at_ => fwriteFrom_benign f w src count at_ hok,
   fun src count => fwriteAllFrom_benign f w src count hok hin⟩

/-- **Reads are the request bytes, in order — on the /dev/fuse transport.**  The same statement as
    `reads_are_request_bytes_in_order` for the `Reader` living next to FuseDevWriters: request
    buffer(s) inside memory and outside the reply buffer; ANY operation list `pre`, ANY reader
    handle `i` existing then, ANY further operation list that does not split `i` (all FuseDevWriter
    operations, splits and commits, and operations on other readers interleaved arbitrarily). -/
theorem fuse_reads_are_request_bytes_in_order (st : St) (R base cap : Nat) (pre ops : List Op) (h : FStart st R base cap)
    (hov : ∀ b ∈ st.readers, b.consumed + total b.segs < USIZE)
    (hr : ∀ b ∈ st.readers, WF st.w.mem b.segs)
    (hout : ∀ b ∈ st.readers, ∀ a ∈ addrs b.segs, a ∉ segAddrs ⟨R, base, cap⟩)
    (i : Nat) (b0 : IoBufs) (hi : (exec st pre).readers[i]? = some b0) (hns : ∀ k, Op.rs i k ∉ ops) :
    ∃ bf, (exec (exec st pre) ops).readers[i]? = some bf
      ∧ deliveredAll (exec st pre) i ops ++ flat st.w.mem bf.segs = flat st.w.mem b0.segs
      ∧ bf.consumed = b0.consumed + (deliveredAll (exec st pre) i ops).length
      ∧ (∀ a ∈ addrs bf.segs, (exec (exec st pre) ops).w.mem.byteAt a = st.w.mem.byteAt a) := by
  refine reads_run (fun ops' => (exec_finv ops' (fstart_finv h)).memOff) pre ops ⟨hov, inMem_ahead hr, ?_⟩ i b0 hi hns
  · intro a ha
    obtain ⟨b, hb, hab⟩ := mem_ahead.mp ha
    exact hout b hb a hab

/-- **Overflow fails without writing** on /dev/fuse: a `write`, `write_vectored`, `write_from(_at)` or
    `write_all_from` asking for more than `capacity - len` (on any writer that may write at all:
    buffered, or unbuffered and fresh) returns `InvalidData` and leaves the writer, memory, the
    descriptor, the logs and the scripted file exactly as they were. -/
theorem fuse_overflow_fails_without_writing (f : FuseW) (w : World) (hok : f.ok) (hmode : f.buffered = true ∨ f.len = 0) :
    (∀ data : Bytes, f.cap - f.len < data.length →
        (FuseW.write f w data).res = .error .invalidData ∧ (FuseW.write f w data).f = f ∧ (FuseW.write f w data).w = w)
    ∧ (∀ bufs : List Bytes, f.cap - f.len < bufs.flatten.length →
        (FuseW.writeVectored f w bufs).res = .error .invalidData ∧ (FuseW.writeVectored f w bufs).f = f
          ∧ (FuseW.writeVectored f w bufs).w = w)
    ∧ (∀ src count at_, f.cap - f.len < count →
        (FuseW.writeFrom f w src count at_).res = .error .invalidData ∧ (FuseW.writeFrom f w src count at_).f = f
          ∧ (FuseW.writeFrom f w src count at_).w = w ∧ (FuseW.writeFrom f w src count at_).aux = src)
    ∧ (∀ src count, f.cap - f.len < count →
        (FuseW.writeAllFrom f w src count).res = .error .invalidData ∧ (FuseW.writeAllFrom f w src count).f = f
          ∧ (FuseW.writeAllFrom f w src count).w = w ∧ (FuseW.writeAllFrom f w src count).aux = src) := by
  refine ⟨?_, ?_, ?_, ?_⟩
  · intro data h
    rw [fwrite_of_err w (fcheckAvail_overflow hok hmode h)]; exact ⟨rfl, rfl, rfl⟩
  · intro bufs h
    rw [fwriteVectored_of_err w (fcheckAvail_overflow hok hmode h)]; exact ⟨rfl, rfl, rfl⟩
  · intro src count at_ h
    rw [fwriteFrom_of_err w src at_ (fcheckAvail_overflow hok hmode h)]; exact ⟨rfl, rfl, rfl, rfl⟩
  · intro src count h
    rw [fwriteAllFrom_of_err w src (fcheckAvail_overflow hok hmode h)]; exact ⟨rfl, rfl, rfl, rfl⟩

/-- An unbuffered (never split) fresh writer sends each write straight to the descriptor as ONE
    record: `write` the buffer (memory untouched), `write_vectored` the concatenation of the
    buffers (none when it is empty), `write_from(_at)` reporting `n` exactly the `n` bytes the file
    delivered. -/
theorem fuse_unbuffered_write_is_one_record (f : FuseW) (w : World) (hb : f.buffered = false) (hl : f.len = 0)
    (hin : f.inMem w.mem) :
    (∀ data : Bytes, data.length ≤ f.cap →
        (FuseW.write f w data).res = .ok data.length ∧ (FuseW.write f w data).w.fd = w.fd ++ [data]
          ∧ (FuseW.write f w data).w.mem = w.mem)
    ∧ (∀ bufs : List Bytes, bufs ≠ [] → bufs.flatten.length ≤ f.cap →
        (FuseW.writeVectored f w bufs).res = .ok bufs.flatten.length
          ∧ (FuseW.writeVectored f w bufs).w.fd = (if bufs.flatten.isEmpty then w.fd else w.fd ++ [bufs.flatten])
          ∧ (FuseW.writeVectored f w bufs).w.mem = w.mem)
    ∧ (∀ src count at_ n, (FuseW.writeFrom f w src count at_).res = .ok n →
        (FuseW.writeFrom f w src count at_).w.fd = w.fd ++ [patBytes src.seed (at_.getD src.pos) n]) := by
  have hok := FuseW.ok_of_empty hl
  have hca : ∀ sz, sz ≤ f.cap → f.checkAvail sz = .ok () :=
    fun sz hsz => fcheckAvail_fit hok (.inr hl) (by omega)
  refine ⟨?_, ?_, ?_⟩
  · intro data hfit
    rw [fwrite_unbuffered w hb (hca _ hfit)]
    exact ⟨rfl, rfl, rfl⟩
  · intro bufs hne hfit
    obtain ⟨km, _, kf⟩ := fdWritev_keep w bufs.flatten
    rw [fwriteVectored_unbuffered w hb (hca _ hfit)]
    exact ⟨rfl, kf, km⟩
  · intro src count at_ n hn
    obtain ⟨hs, hc, _, _, _, dm, hrec⟩ := fwriteFrom_fws f w src count at_ hok hin rfl
    rw [hrec hb n hn]
    have hd := dm
    rw [hn, moved_ok] at hd
    rw [hd, hl, Nat.add_zero] at hc
    have hfit := hs.fits
    rw [hd, hl] at hfit
    unfold FuseW.inMem at hin
    have i1 : InMem (FuseW.writeFrom f w src count at_).w.mem (segAddrs ⟨f.region, f.base, n⟩) :=
      inMem_seg (by rw [hs.len]; omega)
    rw [readSeg_eq_map _ _ i1, hc]

/-- **Buffered appends, any operation list.**  After ANY operation list `pre`, take ANY buffered
    writer `i` (any half of any split) and run ANY further operation list `ops` that does not
    split `i` itself (all operations on all other writers, their splits, commits and reader
    operations interleaved arbitrarily): its buffer is then its old buffer followed by exactly
    what was appended through it, in operation order; only `len` moved; it is still buffered. -/
theorem fuse_buffered_writes_append_any_operation_list (st : St) (R base cap : Nat) (pre ops : List Op)
    (h : FStart st R base cap) (i : Nat) (f0 : FuseW) (hi : (exec st pre).fws[i]? = some f0)
    (hb : f0.buffered = true) (hns : ∀ k, Op.fs i k ∉ ops) :
    ∃ ff, (exec (exec st pre) ops).fws[i]? = some ff ∧ ff.buffered = true
      ∧ ff = { f0 with len := f0.len + (fplacedAll (exec st pre) i ops).length }
      ∧ ff.slice (exec (exec st pre) ops).w.mem = f0.slice (exec st pre).w.mem ++ fplacedAll (exec st pre) i ops :=
  fuse_slice_run ops (exec_finv pre (fstart_finv h)) i f0 hi hb hns

/-- What a buffered operation appends is what it reports: `write` the whole buffer (or nothing,
    refused), `write_vectored` all buffers in order (or nothing), `write_from(_at)` reporting `n` the
    `n` bytes the file delivered (nothing on error). -/
theorem fuse_ops_append_what_they_report (f : FuseW) (w : World) (hb : f.buffered = true) (hok : f.ok)
    (hin : f.inMem w.mem) (h : Nat) :
    (∀ data n, (FuseW.write f w data).res = .ok n → n = data.length ∧ fwriterIn f w (.fw h data) = data)
    ∧ (∀ data e, (FuseW.write f w data).res = .error e → fwriterIn f w (.fw h data) = [])
    ∧ (∀ datas n, (FuseW.writeVectored f w datas).res = .ok n →
        n = datas.flatten.length ∧ fwriterIn f w (.fv h datas) = datas.flatten)
    ∧ (∀ datas e, (FuseW.writeVectored f w datas).res = .error e → fwriterIn f w (.fv h datas) = [])
    ∧ (∀ count at_ sc n, (FuseW.writeFrom f w sc count at_).res = .ok n →
        fwriterIn f w (.ff h count at_ sc) = patBytes sc.seed (at_.getD sc.pos) n)
    ∧ (∀ count at_ sc e, (FuseW.writeFrom f w sc count at_).res = .error e → fwriterIn f w (.ff h count at_ sc) = []) := by
  refine ⟨?_, ?_, ?_, ?_, ?_, ?_⟩
  · exact fun data => (take_all_or_nothing (fwrite_fwc f w data hb hok hin).2).1
  · exact fun data => (take_all_or_nothing (fwrite_fwc f w data hb hok hin).2).2
  · exact fun datas => (take_all_or_nothing (fwriteVectored_fwc f w datas hb hok hin).2).1
  · exact fun datas => (take_all_or_nothing (fwriteVectored_fwc f w datas hb hok hin).2).2
  · intro count at_ sc n hn
    simp only [fwriterIn]
    rw [(fwriteFrom_fws f w sc count at_ hok hin rfl).2.2.2.2.2.1, hn, moved_ok]
  · intro count at_ sc e he
    simp only [fwriterIn]
    rw [(fwriteFrom_fws f w sc count at_ hok hin rfl).2.2.2.2.2.1, he]; rfl

/-- **Split header/data writers on /dev/fuse committed together** (any operation list).  Fresh
    writer, `split_at(k)` for any `k ≤ cap`, then ANY operation list without further splits and
    commits — any number of `write`/`write_vectored`/`write_from(_at)`/`write_all_from` on the two
    halves in any interleaving (data first, header first, alternating), fitting or refused, short
    or failing file reads, reader operations in between —, then `first.commit(Some(second))`:
    nothing reached the descriptor before the commit, the commit reports the total length, and
    exactly ONE record reaches the descriptor: (everything appended through the first half) ++
    (everything appended through the second half) — none if both are empty. -/
theorem fuse_split_header_data_one_record (st : St) (R base cap : Nat) (h : FStart st R base cap) (k : Nat)
    (hk : k ≤ cap) (ops : List Op) (hns : ∀ i k', Op.fs i k' ∉ ops) (hnc : ∀ i o, Op.fc i o ∉ ops) :
    (exec (step st (.fs 0 k)).1 ops).w.fd = st.w.fd
    ∧ (step (exec (step st (.fs 0 k)).1 ops) (.fc 0 (some 1))).2.res
        = .ok (fplacedAll (step st (.fs 0 k)).1 0 ops ++ fplacedAll (step st (.fs 0 k)).1 1 ops).length
    ∧ (step (exec (step st (.fs 0 k)).1 ops) (.fc 0 (some 1))).1.w.fd
        = (if (fplacedAll (step st (.fs 0 k)).1 0 ops ++ fplacedAll (step st (.fs 0 k)).1 1 ops).isEmpty then st.w.fd
           else st.w.fd ++ [fplacedAll (step st (.fs 0 k)).1 0 ops ++ fplacedAll (step st (.fs 0 k)).1 1 ops]) := by
  have hsp : (FuseW.new R base cap).splitAt k
      = .ok (⟨R, base, 0, k, true⟩, ⟨R, base + k, 0, cap - k, true⟩) := by
    unfold FuseW.splitAt FuseW.new
    have : ¬ (cap < k) := by omega
    simp [this]
  obtain ⟨r, hr, hfd, c1, c2⟩ := fuse_split_commit_run ops (fstart_finv h) (i := 0) (by rw [h.fws]; rfl) hsp
    (by rw [h.fws]; nofun) (fun k' => ⟨hns 0 k', by rw [h.fws]; exact hns 1 k'⟩) hnc
  rw [slice_len_zero _ _ rfl, slice_len_zero _ _ rfl, List.nil_append, List.nil_append, h.fws] at hr
  subst hr
  rw [h.fws] at c1 c2
  exact ⟨hfd, c1, c2⟩

/-- **The buffer adapter is a plain view.**  `read`/`read_slice`/`load` return the slice's bytes
    and (by their type) cannot change it; `write`/`write_slice`/`store` replace exactly the bytes
    addressed and keep the length; what is written is what is read back. -/
theorem bytes_adapter_is_plain_view (sl : Bytes) (addr : Nat) :
    -- read / read_slice
    (∀ n, 0 < n → addr < sl.length → Adapter.read sl n addr = .ok ((sl.drop addr).take n))
    ∧ (∀ old : Bytes, addr + old.length ≤ sl.length → 0 < old.length →
        Adapter.readSlice sl old addr = (.ok (), (sl.drop addr).take old.length))
    -- write / write_slice / store: length kept, exactly the addressed bytes replaced, read back
    ∧ (∀ buf : Bytes, 0 < buf.length → addr + buf.length ≤ sl.length →
        Adapter.write sl buf addr = .ok (writeAt sl addr buf, buf.length)
        ∧ (writeAt sl addr buf).length = sl.length
        ∧ (∀ i, (writeAt sl addr buf).getD i 0 = if addr ≤ i ∧ i < addr + buf.length then buf.getD (i - addr) 0 else sl.getD i 0)
        ∧ Adapter.read (writeAt sl addr buf) buf.length addr = .ok buf
        ∧ Adapter.writeSlice sl buf addr = (.ok [], writeAt sl addr buf))
    ∧ (∀ val : Bytes, 0 < val.length → addr + val.length ≤ sl.length → addr % val.length = 0 →
        Adapter.store sl val addr 0 = (.ok (), writeAt sl addr val)
        ∧ Adapter.load (writeAt sl addr val) val.length addr 0 = .ok val) := by
  refine ⟨?_, ?_, ?_, ?_⟩
  · intro n hn ha
    simp [Adapter.read, Nat.ne_of_gt hn, Nat.not_le.mpr ha]
  · intro old h hn
    have h1 : ¬ (old.length = 0) := by omega
    have h2 : ¬ (addr ≥ sl.length) := by omega
    have hl : ((sl.drop addr).take old.length).length = old.length := by simp; omega
    simp only [Adapter.readSlice, Adapter.read, h1, h2, if_false, hl, ne_eq, not_true_eq_false]
    simp
  · intro buf hn h
    have h1 : buf.isEmpty = false := by cases buf <;> simp_all
    have h2 : ¬ (addr ≥ sl.length) := by omega
    have hc : min buf.length (sl.length - addr) = buf.length := by omega
    have hw : Adapter.write sl buf addr = .ok (writeAt sl addr buf, buf.length) := by
      simp only [Adapter.write, h1, h2, if_false, hc, List.take_length, Bool.false_eq_true]
    refine ⟨hw, length_writeAt _ _ _ h, fun i => getD_writeAt _ _ _ h i, ?_, ?_⟩
    · have h3 : ¬ (addr ≥ (writeAt sl addr buf).length) := by rw [length_writeAt _ _ _ h]; omega
      simp only [Adapter.read, Nat.ne_of_gt hn, h3, if_false, take_drop_writeAt _ _ _ h]
    · simp only [Adapter.writeSlice, hw, ne_eq, not_true_eq_false, if_false]
  · intro val hn h hal
    have h1 : ¬ (addr + val.length > sl.length) := by omega
    have h2 : ¬ ((0 + addr) % val.length ≠ 0) := by simp [hal]
    refine ⟨by simp only [Adapter.store, h1, h2, if_false], ?_⟩
    have h3 : ¬ (addr + val.length > (writeAt sl addr val).length) := by rw [length_writeAt _ _ _ h]; omega
    simp only [Adapter.load, h3, h2, if_false, take_drop_writeAt _ _ _ h]

/-- Accesses beyond the slice are refused and change nothing. -/
theorem bytes_adapter_refuses_out_of_bounds (sl : Bytes) (addr : Nat) (h : sl.length ≤ addr) :
    (∀ n, 0 < n → Adapter.read sl n addr = .error (.outOfBounds addr))
    ∧ (∀ buf : Bytes, 0 < buf.length → Adapter.write sl buf addr = .error (.outOfBounds addr)
        ∧ (Adapter.writeSlice sl buf addr).2 = sl)
    ∧ (∀ val : Bytes, 0 < val.length → (Adapter.store sl val addr 0).2 = sl) := by
  refine ⟨?_, ?_, ?_⟩
  · intro n hn; simp [Adapter.read, Nat.ne_of_gt hn, h]
  · intro buf hn
    have h1 : buf.isEmpty = false := by cases buf <;> simp_all
    have hw : Adapter.write sl buf addr = .error (.outOfBounds addr) := by
      simp [Adapter.write, h1, h]
    exact ⟨hw, by simp [Adapter.writeSlice, hw]⟩
  · intro val hn
    have : addr + val.length > sl.length := by omega
    simp [Adapter.store, this]

/-! ### non-vacuity -/

example : Start exampleStart ∧ (∀ b ∈ exampleStart.readers, WF exampleStart.w.mem b.segs)
    ∧ (∀ b ∈ exampleStart.writers, WF exampleStart.w.mem b.segs) := by
  refine ⟨⟨rfl, rfl, rfl, by decide, by decide, by decide⟩, ?_, ?_⟩ <;> decide +kernel

/-- `read_refines_spec`, `write_that_fits_succeeds`: a cursor whose counter cannot overflow -/
example : (⟨[⟨1, 10, 8⟩, ⟨1, 20, 0⟩, ⟨2, 0, 33⟩], 5⟩ : IoBufs).consumed
    + total (⟨[⟨1, 10, 8⟩, ⟨1, 20, 0⟩, ⟨2, 0, 33⟩], 5⟩ : IoBufs).segs < USIZE := by decide

/-- `overflow_fails_without_writing`: a writer with 3 bytes left asked to take 4 -/
example : (⟨[⟨1, 10, 3⟩], 0⟩ : IoBufs).available < (patBytes 1 0 4).length := by decide

/-- `split_partitions`: a split inside a buffer after partial consumption -/
example : ∃ a o, (⟨[⟨1, 13, 5⟩, ⟨1, 20, 0⟩, ⟨2, 0, 33⟩], 3⟩ : IoBufs).splitAt 7 = .ok (a, o) :=
  ⟨_, _, rfl⟩

/-- `writes_are_concatenation`, `split_writers_concatenate`, `no_byte_written_twice`:
    non-overlapping buffers inside their regions (incl. a zero-length one) -/
example : (addrs exampleStart.writers[0]!.segs).Nodup ∧ WF exampleStart.w.mem exampleStart.writers[0]!.segs
    ∧ ∃ a o, exampleStart.writers[0]!.splitAt 16 = .ok (a, o) ∧ 16 ≤ a.available ∧ 100 ≤ o.available := by
  refine ⟨nodup_addrs _ (by decide), by decide +kernel, _, _, rfl, by decide, by decide⟩

/-- `reads_are_request_bytes_in_order`: readable and writable descriptors share no byte there; and
    the theorem speaks about something: a `read`, a split, a short `read_to` through a file that
    takes 2 of the 3 bytes offered, then a read on the split-off half — handle 0 delivered the 3+2
    bytes in order, handle 1 (created by the split) its first byte -/
example : (∀ a ∈ readable exampleStart, a ∉ writable exampleStart)
    ∧ (deliveredAll exampleStart 0 [.rd 0 3, .rs 0 3, .rt 0 3 none ⟨.full, [.n 2], 0, 0, [], []⟩, .rd 1 1]).length = 5
    ∧ (deliveredAll (exec exampleStart [.rd 0 3, .rs 0 3]) 1 [.rt 0 3 none ⟨.full, [.n 2], 0, 0, [], []⟩, .rd 1 1]).length = 1 := by
  refine ⟨by decide +kernel, by decide +kernel, by decide +kernel⟩

/-- `writes_are_concatenation` / `split_writers_concatenate`: a split writer, data through the
    second half from a file that delivers 5 of 8 bytes, a header through the first half, more
    data: what was stored through each half, in operation order -/
example :
    placedAll (exec exampleStart [.ws 0 4]) 0
        [.wf 1 8 none ⟨.full, [.n 5], 3, 0, [], []⟩, .wr 0 [1, 2, 3], .wr 1 [9], .wr 0 [4, 5]] = [1, 2, 3]
    ∧ placedAll (exec exampleStart [.ws 0 4]) 1
        [.wf 1 8 none ⟨.full, [.n 5], 3, 0, [], []⟩, .wr 0 [1, 2, 3], .wr 1 [9], .wr 0 [4, 5]]
        = patBytes 3 0 5 ++ [9] := by
  refine ⟨by decide +kernel, by decide +kernel⟩

/-- the fusedev theorems: a start state, and a header/data scenario with interleaved writes — one
    record `header ++ data` at commit, nothing before -/
example : FStart exampleFuse 2 64 64
    ∧ (∀ b ∈ exampleFuse.readers, b.consumed + total b.segs < USIZE ∧ WF exampleFuse.w.mem b.segs
        ∧ ∀ a ∈ addrs b.segs, a ∉ segAddrs ⟨2, 64, 64⟩)
    ∧ (step (exec (step exampleFuse (.fs 0 16)).1 [.fw 1 [1, 2, 3], .fw 0 [8, 9], .rd 0 4, .fw 1 [4], .fw 0 [7]])
        (.fc 0 (some 1))).1.w.fd = [[8, 9, 7, 1, 2, 3, 4]] := by
  refine ⟨⟨rfl, rfl, by decide +kernel, rfl⟩, by decide +kernel, by decide +kernel⟩

/-- FuseDevWriter: a fresh writer over a 64-byte window split at 16 -/
example : (FuseW.new 2 64 64).ok ∧ (FuseW.new 2 64 64).len = 0
    ∧ (FuseW.new 2 64 64).inMem ⟨[(2, List.replicate 192 0)]⟩
    ∧ ∃ a o, (FuseW.new 2 64 64).splitAt 16 = .ok (a, o) := by
  refine ⟨by unfold FuseW.ok; decide, rfl, by unfold FuseW.inMem; decide +kernel, _, _, rfl⟩

/-- `fuse_assert_only_on_one_shot_violation` is not vacuous either way: an unbuffered writer that
    has written panics on the next write, a buffered one does not -/
example : (∃ s, (⟨2, 64, 8, 64, false⟩ : FuseW).checkAvail 1 = .error (.panic s))
    ∧ (⟨2, 64, 8, 64, true⟩ : FuseW).checkAvail 1 = .ok () := ⟨⟨_, rfl⟩, rfl⟩

/-- a chain accepted by the constructors -/
example : ∃ b, fromChain [(1, 4096, 8192), (2, 65536, 4096)]
    [⟨false, 4100, 8⟩, ⟨false, 4200, 0⟩, ⟨true, 65536, 4096⟩, ⟨true, 5000, 1⟩] true = .ok b := ⟨_, rfl⟩


/-! ### the file adapters (`file_traits.rs`, `async_file.rs`)

`Fbr.FileIo.readVec` / `writeVec` have the shape of the vectored file operations — one positioned
operation per buffer at an offset advanced by the buffer's size, stopping after the first short
count (the asynchronous implementation unrolls this in groups of 4, 3, 2 and 1).  The trait's
contract is "must behave as a single call with the buffers concatenated". -/

/-- a vectored read delivers, buffer after buffer, exactly what one read of the total size at the
    same offset returns — for every file, offset and list of buffer sizes (zero-sized ones included) -/
theorem file_vectored_read_is_single_read (file : Fbr.FileIo.Bytes) (off : Nat) (caps : List Nat) :
    (Fbr.FileIo.readVec file off caps).1.flatten = Fbr.FileIo.preadAt file off caps.sum ∧
    (Fbr.FileIo.readVec file off caps).2 = (Fbr.FileIo.preadAt file off caps.sum).length :=
  Fbr.FileIo.readVec_flat file off caps

/-- no buffer receives more than its size, and there is one result per buffer -/
theorem file_vectored_read_respects_buffers (file : Fbr.FileIo.Bytes) (off : Nat) (caps : List Nat) :
    (Fbr.FileIo.readVec file off caps).1.length = caps.length ∧
    ∀ i, ((Fbr.FileIo.readVec file off caps).1.getD i []).length ≤ caps.getD i 0 :=
  Fbr.FileIo.readVec_each_le file off caps

/-- a vectored write leaves the file exactly as one write of the concatenation at the same offset
    does, and reports the total length -/
theorem file_vectored_write_is_single_write (file : Fbr.FileIo.Bytes) (off : Nat) (ds : List Fbr.FileIo.Bytes) :
    Fbr.FileIo.writeVec file off ds = (Fbr.FileIo.pwriteAt file off ds.flatten, ds.flatten.length) :=
  Fbr.FileIo.writeVec_concat file off ds

example : Fbr.FileIo.writeVec [1, 2, 3, 4] 6 [[7, 8], [], [9]] = ([1, 2, 3, 4, 0, 0, 7, 8, 9], 3) := by decide
example : (Fbr.FileIo.readVec [1, 2, 3, 4, 5] 1 [2, 0, 5, 1]).1 = [[2, 3], [], [4, 5], []] := by decide

/-! ### composition with the server model (C01)

The server model treats the writer as a flat cursor of capacity `cfg.cap`; this theorem justifies
that abstraction: `reply_fits_reply_buffer` (C01) gives `|reply| ≤ cfg.cap`, and `vwrite_flat` (one
`write` that fits, into buffers that do not overlap; `writes_are_concatenation` for operation lists) does
the rest. -/

/-- For every request, every file system, every layout of the reply descriptors (`b0`, any list of
    non-overlapping buffers whose total room is at least the capacity the server assumed): after the
    virtio writer stores the server's reply, the flat content of the reply descriptors is the reply
    followed by the old content, and no byte outside the writable descriptors changed. -/
theorem server_reply_lands_at_start_of_reply_area (cfg : Fbr.Srv.Cfg) (fs : Fbr.Srv.Call → Fbr.Srv.Ans)
    (req : Fbr.Wire.Bytes) (st : St) (h : Start st) (hnd : (writable st).Nodup)
    (hr : ∀ b ∈ st.readers, WF st.w.mem b.segs) (hw : ∀ b ∈ st.writers, WF st.w.mem b.segs)
    (b0 : IoBufs) (hi : st.writers[0]? = some b0) (hroom : cfg.cap ≤ b0.available)
    (hcap : cfg.cap < 2 ^ 32) (hfs : Fbr.Srv.FsSane fs) :
    let msg := (Fbr.Srv.handle cfg fs req).out.area
    let sf := exec st [Op.wr 0 msg]
    flat sf.w.mem b0.segs = msg ++ (flat st.w.mem b0.segs).drop msg.length
      ∧ (∀ a, a ∉ ahead st.writers → sf.w.mem.byteAt a = st.w.mem.byteAt a) := by
  intro msg sf
  have hfit : msg.length ≤ total b0.segs :=
    available_eq_total b0 ▸ Nat.le_trans (Fbr.Thm.C01.reply_fits_reply_buffer cfg fs req hcap hfs).2 hroom
  have hmem : b0 ∈ st.writers := List.mem_of_getElem? hi
  have hin := (hw b0 hmem).inMem
  -- one `write` through handle 0: the table's memory afterwards is that of the writer operation
  have e : sf.w.mem = (VirtioW.write b0 st.w msg).w.mem := by simp only [sf, exec, step, hi]
  rw [e]
  exact ⟨vwrite_flat b0 st.w msg (ahead_nodup_handle (writable_eq_ahead st ▸ hnd) hi) hin (h.wov b0 hmem) hfit,
    fun a ha => (vwrite_fits b0 st.w msg hin (h.wov b0 hmem) hfit).frame a fun hm =>
      ha (mem_ahead_of hi (List.mem_of_mem_take hm))⟩


end Fbr.Thm.C04
