/-
  C02 — Each request is decoded into exactly the operation and arguments the client sent.

  PROPERTY THEOREMS ONLY (helpers: `Fbr.Lemmas.SrvDecode`, `Wire`).
  The client's encoding is written here from the kernel's layout (`encHdr`, `le32`/`le64` per
  field in wire order) — independently of the library's structs, whose equality with the kernel
  layout is C13.  Each `*_exact` theorem says: for EVERY value of every field (within its wire
  width), every trailing byte string, every file system and configuration, the file system
  receives exactly the per-request id-remap call followed by exactly one call of the operation the
  opcode denotes, with every argument equal to what the client encoded, optional arguments
  following their flag bits.

  Every proof has the same three steps: the request reaches the arm of its opcode
  (`handle_reaches_handler`, the equation of `handleBody` at a literal opcode); the request
  structure is present (`withObj_simple_calls`, `withObj_named_simple_calls`, or `withObj_append`,
  `named_ok`, `getBody_exact` one by one); each field read at its offset is the value encoded there
  (`wire_norm`).
-/
import Fbr.Lemmas.SrvDecode
import Fbr.SrvSpec
import Fbr.Gen.Server
import Fbr.Gen.FsAsync
import Fbr.Gen.FsSync

namespace Fbr.Thm.C02
open Fbr.Srv Fbr.Wire

-- The statements bound every field of a request by its wire width, also padding and fields the
-- handler never reads; no proof needs those bounds, so the unused-variable linter names them.

/-- Today's handlers (request struct, bindings, helper calls, fs call + argument expressions,
    reply constructors) and dispatch arms are the ones `Fbr.Srv` was written from (checked by
    the kernel's definitional equality on the two closed tables). -/
theorem handlers_as_modelled :
    Gen.srvSyncFns = SrvSpec.expectedSyncFns ∧ Gen.srvSyncDispatch = SrvSpec.expectedSyncDispatch :=
  ⟨rfl, rfl⟩

/-- … and the buffer constants are the ones the model uses. -/
theorem constants_as_modelled :
    Gen.srvModConsts.lookup "MAX_BUFFER_SIZE" = some MAX_BUFFER_SIZE ∧
    Gen.srvModConsts.lookup "BUFFER_HEADER_SIZE" = some BUFFER_HEADER_SIZE ∧
    Gen.srvModConsts.lookup "MIN_READ_BUFFER" = some MIN_READ_BUFFER ∧
    Gen.srvModConsts.lookup "MAX_REQ_PAGES" = some MAX_REQ_PAGES := by
  decide +kernel

/-- the caller ids reach the file system unchanged unless the remap call rewrote them -/
theorem context_from_header (fs : Call → Ans) (h : Hdr) (hk : ∀ u g, fs (remapOf h) ≠ .remapSet u g) :
    ctxFor h (fs (remapOf h)) = { uid := h.uid, gid := h.gid, pid := h.pid } := by
  unfold ctxFor
  split
  · next u g heq => exact absurd heq (hk u g)
  · rfl

theorem forget_exact (cfg : Cfg) (fs : Call → Ans) (h : Hdr) (R : Req fs h) (hop : h.op = 2)
    (n : Nat) (hn : n < 2 ^ 64) (trail : Bytes) :
    (handle cfg fs (encHdr h ++ (le64 n ++ trail))).calls =
      [remapOf h, call fs h "forget" [.n h.nodeid, .n n]] := by
  rw [handle_reaches_handler R hop, handleBody, withObj_append (by simp)]
  simp only [remap_then_call]
  wire_norm

/-- GETATTR: the handle is present iff GETATTR_FH (bit 0) is set -/
theorem getattr_exact (cfg : Cfg) (fs : Call → Ans) (h : Hdr) (R : Req fs h) (hop : h.op = 3)
    (flags dummy fh : Nat) (hf : flags < 2 ^ 32) (hd : dummy < 2 ^ 32) (hfh : fh < 2 ^ 64) (trail : Bytes) :
    (handle cfg fs (encHdr h ++ (le32 flags ++ le32 dummy ++ le64 fh ++ trail))).calls =
      [remapOf h, call fs h "getattr" [.n h.nodeid, .optN (if flags &&& 1 != 0 then some fh else none)]] := by
  rw [handle_reaches_handler R hop, handleBody, withObj_simple_calls (by simp), remap_then_call, GETATTR_FH]
  wire_norm

theorem open_exact (cfg : Cfg) (fs : Call → Ans) (h : Hdr) (R : Req fs h) (hop : h.op = 14)
    (flags fuseFlags : Nat) (hf : flags < 2 ^ 32) (hff : fuseFlags < 2 ^ 32) (trail : Bytes) :
    (handle cfg fs (encHdr h ++ (le32 flags ++ le32 fuseFlags ++ trail))).calls =
      [remapOf h, call fs h "open" [.n h.nodeid, .n flags, .n fuseFlags]] := by
  rw [handle_reaches_handler R hop, handleBody, withObj_simple_calls (by simp), remap_then_call]
  wire_norm

/-- FSYNC / FSYNCDIR: datasync is bit 0 of fsync_flags -/
theorem fsync_exact (cfg : Cfg) (fs : Call → Ans) (h : Hdr) (R : Req fs h) (hop : h.op = 20)
    (fh ff pad : Nat) (hfh : fh < 2 ^ 64) (hff : ff < 2 ^ 32) (hp : pad < 2 ^ 32) (trail : Bytes) :
    (handle cfg fs (encHdr h ++ (le64 fh ++ le32 ff ++ le32 pad ++ trail))).calls =
      [remapOf h, call fs h "fsync" [.n h.nodeid, .b (ff &&& 1 != 0), .n fh]] := by
  rw [handle_reaches_handler R hop, handleBody, withObj_simple_calls (by simp), remap_then_call]
  wire_norm

/-- RELEASE: flush / flock-unlock from the release flags, lock owner present iff either is set -/
theorem release_exact (cfg : Cfg) (fs : Call → Ans) (h : Hdr) (R : Req fs h) (hop : h.op = 18)
    (fh flags rf owner : Nat) (hfh : fh < 2 ^ 64) (hfl : flags < 2 ^ 32) (hrf : rf < 2 ^ 32)
    (ho : owner < 2 ^ 64) (trail : Bytes) :
    (handle cfg fs (encHdr h ++ (le64 fh ++ le32 flags ++ le32 rf ++ le64 owner ++ trail))).calls =
      [remapOf h, call fs h "release" [.n h.nodeid, .n flags, .n fh, .b (rf &&& 1 != 0), .b (rf &&& 2 != 0),
        .optN (if (rf &&& 1 != 0) || (rf &&& 2 != 0) then some owner else none)]] := by
  rw [handle_reaches_handler R hop, handleBody, withObj_simple_calls (by simp), remap_then_call, RELEASE_FLUSH, RELEASE_FLOCK_UNLOCK]
  wire_norm

theorem fallocate_exact (cfg : Cfg) (fs : Call → Ans) (h : Hdr) (R : Req fs h) (hop : h.op = 43)
    (fh off len mode pad : Nat) (hfh : fh < 2 ^ 64) (hoff : off < 2 ^ 64) (hl : len < 2 ^ 64)
    (hm : mode < 2 ^ 32) (hp : pad < 2 ^ 32) (trail : Bytes) :
    (handle cfg fs (encHdr h ++ (le64 fh ++ le64 off ++ le64 len ++ le32 mode ++ le32 pad ++ trail))).calls =
      [remapOf h, call fs h "fallocate" [.n h.nodeid, .n fh, .n mode, .n off, .n len]] := by
  rw [handle_reaches_handler R hop, handleBody, withObj_simple_calls (by simp), remap_then_call]
  wire_norm

theorem lseek_exact (cfg : Cfg) (fs : Call → Ans) (h : Hdr) (R : Req fs h) (hop : h.op = 46)
    (fh off whence pad : Nat) (hfh : fh < 2 ^ 64) (hoff : off < 2 ^ 64) (hwh : whence < 2 ^ 32)
    (hp : pad < 2 ^ 32) (trail : Bytes) :
    (handle cfg fs (encHdr h ++ (le64 fh ++ le64 off ++ le32 whence ++ le32 pad ++ trail))).calls =
      [remapOf h, call fs h "lseek" [.n h.nodeid, .n fh, .n off, .n whence]] := by
  rw [handle_reaches_handler R hop, handleBody, withObj_simple_calls (by simp), remap_then_call]
  wire_norm

theorem access_exact (cfg : Cfg) (fs : Call → Ans) (h : Hdr) (R : Req fs h) (hop : h.op = 34)
    (mask pad : Nat) (hm : mask < 2 ^ 32) (hp : pad < 2 ^ 32) (trail : Bytes) :
    (handle cfg fs (encHdr h ++ (le32 mask ++ le32 pad ++ trail))).calls =
      [remapOf h, call fs h "access" [.n h.nodeid, .n mask]] := by
  rw [handle_reaches_handler R hop, handleBody, withObj_simple_calls (by simp), remap_then_call]
  wire_norm

/-- SETLKW reaches `setlkw` (not `setlk`) with the lock description -/
theorem setlkw_exact (cfg : Cfg) (fs : Call → Ans) (h : Hdr) (R : Req fs h) (hop : h.op = 33)
    (fh owner s e ty pid lf pad : Nat) (h1 : fh < 2 ^ 64) (h2 : owner < 2 ^ 64) (h3 : s < 2 ^ 64)
    (h4 : e < 2 ^ 64) (h5 : ty < 2 ^ 32) (h6 : pid < 2 ^ 32) (h7 : lf < 2 ^ 32) (h8 : pad < 2 ^ 32)
    (trail : Bytes) :
    (handle cfg fs (encHdr h ++ (le64 fh ++ le64 owner ++ le64 s ++ le64 e ++ le32 ty ++ le32 pid ++
        le32 lf ++ le32 pad ++ trail))).calls =
      [remapOf h, call fs h "setlkw" [.n h.nodeid, .n fh, .n owner, .lock s e ty pid, .n lf]] := by
  rw [handle_reaches_handler R hop, handleBody, withObj_simple_calls (by simp), remap_then_call]
  wire_norm

/-- READ: six arguments in the right places, lock owner present iff READ_LOCKOWNER (bit 1);
    needs a reply buffer that can hold the header (otherwise the request is refused before the
    file system is asked) -/
theorem read_exact (cfg : Cfg) (fs : Call → Ans) (h : Hdr) (R : Req fs h) (hop : h.op = 15)
    (hcap : 16 ≤ cfg.cap)
    (fh off size rf owner flags pad : Nat) (h1 : fh < 2 ^ 64) (h2 : off < 2 ^ 64) (h3 : size < 2 ^ 32)
    (h4 : rf < 2 ^ 32) (h5 : owner < 2 ^ 64) (h6 : flags < 2 ^ 32) (h7 : pad < 2 ^ 32) (trail : Bytes) :
    (handle cfg fs (encHdr h ++ (le64 fh ++ le64 off ++ le32 size ++ le32 rf ++ le64 owner ++ le32 flags ++
        le32 pad ++ trail))).calls =
      [remapOf h, call fs h "read" [.n h.nodeid, .n fh, .n size, .n off,
        .optN (if rf &&& 2 != 0 then some owner else none), .n flags]] := by
  have hc : ¬ cfg.cap < OUT_HDR := Nat.not_lt.mpr hcap
  rw [handle_reaches_handler R hop, handleBody, withObj_append (by simp)]
  simp only [if_neg hc, readReply_calls, remap_then_call, READ_LOCKOWNER]
  wire_norm

/-- a file name as the client sends it: no NUL inside -/
def NameOk (n : Bytes) : Prop := ∀ b ∈ n, b ≠ 0

/-- LOOKUP / UNLINK / RMDIR / REMOVEXATTR: the name of every length, byte for byte -/
theorem name_ops_exact (cfg : Cfg) (fs : Call → Ans) (h : Hdr) (R : Req fs h) (name : Bytes) (hn : NameOk name)
    (hl : h.len = IN_HDR + 0 + (name.length + 1)) :
    (h.op = 1 → (handle cfg fs (encHdr h ++ ([] ++ (name ++ [0])))).calls =
        [remapOf h, call fs h "lookup" [.n h.nodeid, .bytes name]]) ∧
    (h.op = 10 → (handle cfg fs (encHdr h ++ ([] ++ (name ++ [0])))).calls =
        [remapOf h, call fs h "unlink" [.n h.nodeid, .bytes name]]) ∧
    (h.op = 11 → (handle cfg fs (encHdr h ++ ([] ++ (name ++ [0])))).calls =
        [remapOf h, call fs h "rmdir" [.n h.nodeid, .bytes name]]) ∧
    (h.op = 24 → (handle cfg fs (encHdr h ++ ([] ++ (name ++ [0])))).calls =
        [remapOf h, call fs h "removexattr" [.n h.nodeid, .bytes name]]) := by
  refine ⟨?_, ?_, ?_, ?_⟩ <;> intro hop <;>
    (rw [handle_reaches_handler R hop, handleBody, named_ok _ _ _ _ [] name 0 _ rfl hl hn]
     simp only [simple_calls, lookupReply_calls, remap_then_call])

/-- MKNOD: mode, rdev, umask and the name -/
theorem mknod_exact (cfg : Cfg) (fs : Call → Ans) (h : Hdr) (R : Req fs h) (hop : h.op = 8)
    (mode rdev umask pad : Nat) (h1 : mode < 2 ^ 32) (h2 : rdev < 2 ^ 32) (h3 : umask < 2 ^ 32) (h4 : pad < 2 ^ 32)
    (name : Bytes) (hn : NameOk name) (hl : h.len = IN_HDR + 16 + (name.length + 1)) :
    (handle cfg fs (encHdr h ++ ((le32 mode ++ le32 rdev ++ le32 umask ++ le32 pad) ++ (name ++ [0])))).calls =
      [remapOf h, call fs h "mknod" [.n h.nodeid, .bytes name, .n mode, .n rdev, .n umask]] := by
  rw [handle_reaches_handler R hop, handleBody, withObj_named_simple_calls (by simp) hl hn, remap_then_call]
  wire_norm

theorem mkdir_exact (cfg : Cfg) (fs : Call → Ans) (h : Hdr) (R : Req fs h) (hop : h.op = 9)
    (mode umask : Nat) (h1 : mode < 2 ^ 32) (h3 : umask < 2 ^ 32)
    (name : Bytes) (hn : NameOk name) (hl : h.len = IN_HDR + 8 + (name.length + 1)) :
    (handle cfg fs (encHdr h ++ ((le32 mode ++ le32 umask) ++ (name ++ [0])))).calls =
      [remapOf h, call fs h "mkdir" [.n h.nodeid, .bytes name, .n mode, .n umask]] := by
  rw [handle_reaches_handler R hop, handleBody, withObj_named_simple_calls (by simp) hl hn, remap_then_call]
  wire_norm

/-- LINK: the existing inode, the new parent (header node id) and the new name -/
theorem link_exact (cfg : Cfg) (fs : Call → Ans) (h : Hdr) (R : Req fs h) (hop : h.op = 13)
    (old : Nat) (h1 : old < 2 ^ 64) (name : Bytes) (hn : NameOk name)
    (hl : h.len = IN_HDR + 8 + (name.length + 1)) :
    (handle cfg fs (encHdr h ++ (le64 old ++ (name ++ [0])))).calls =
      [remapOf h, call fs h "link" [.n old, .n h.nodeid, .bytes name]] := by
  rw [handle_reaches_handler R hop, handleBody, withObj_named_simple_calls (by simp) hl hn, remap_then_call]
  wire_norm

/-- CREATE: the whole `fuse_create_in` and the name -/
theorem create_exact (cfg : Cfg) (fs : Call → Ans) (h : Hdr) (R : Req fs h) (hop : h.op = 35)
    (flags mode umask ff : Nat) (h1 : flags < 2 ^ 32) (h2 : mode < 2 ^ 32) (h3 : umask < 2 ^ 32) (h4 : ff < 2 ^ 32)
    (name : Bytes) (hn : NameOk name) (hl : h.len = IN_HDR + 16 + (name.length + 1)) :
    (handle cfg fs (encHdr h ++ ((le32 flags ++ le32 mode ++ le32 umask ++ le32 ff) ++ (name ++ [0])))).calls =
      [remapOf h, call fs h "create" [.n h.nodeid, .bytes name, .create flags mode umask ff]] := by
  rw [handle_reaches_handler R hop, handleBody, withObj_named_simple_calls (by simp) hl hn, remap_then_call]
  wire_norm

/-- GETXATTR: the attribute name and the client's buffer size -/
theorem getxattr_exact (cfg : Cfg) (fs : Call → Ans) (h : Hdr) (R : Req fs h) (hop : h.op = 22)
    (size pad : Nat) (h1 : size < 2 ^ 32) (h2 : pad < 2 ^ 32)
    (name : Bytes) (hn : NameOk name) (hl : h.len = IN_HDR + 8 + (name.length + 1)) :
    (handle cfg fs (encHdr h ++ ((le32 size ++ le32 pad) ++ (name ++ [0])))).calls =
      [remapOf h, call fs h "getxattr" [.n h.nodeid, .bytes name, .n size]] := by
  rw [handle_reaches_handler R hop, handleBody, withObj_named_simple_calls (by simp) hl hn, remap_then_call]
  wire_norm

/-- SYMLINK: link name then target, both NUL terminated -/
theorem symlink_exact (cfg : Cfg) (fs : Call → Ans) (h : Hdr) (R : Req fs h) (hop : h.op = 6)
    (name target : Bytes) (hn : NameOk name) (ht : NameOk target)
    (hl : h.len = IN_HDR + 0 + (name.length + 1 + (target.length + 1))) :
    (handle cfg fs (encHdr h ++ (name ++ 0 :: (target ++ [0])))).calls =
      [remapOf h, call fs h "symlink" [.bytes target, .n h.nodeid, .bytes name]] := by
  rw [handle_reaches_handler R hop, handleBody]
  rw [getBody_exact hl (by simp; omega)]
  simp only
  rw [twoCstrs_ok name target hn ht]
  simp only [simple_calls, remap_then_call]

/-- RENAME / RENAME2: old and new name, the new directory, flags masked to the three rename
    flags the protocol defines (RENAME is flags = 0) -/
theorem rename2_exact (cfg : Cfg) (fs : Call → Ans) (h : Hdr) (R : Req fs h) (hop : h.op = 45)
    (newdir flags pad : Nat) (h1 : newdir < 2 ^ 64) (h2 : flags < 2 ^ 32) (h3 : pad < 2 ^ 32)
    (o n : Bytes) (ho : NameOk o) (hn : NameOk n)
    (hl : h.len = IN_HDR + 16 + (o.length + 1 + (n.length + 1))) :
    (handle cfg fs (encHdr h ++ ((le64 newdir ++ le32 flags ++ le32 pad) ++ (o ++ 0 :: (n ++ [0]))))).calls =
      [remapOf h, call fs h "rename" [.n h.nodeid, .bytes o, .n newdir, .bytes n, .n (flags &&& 7)]] := by
  rw [handle_reaches_handler R hop, handleBody, withObj_append (by simp)]
  rw [List.drop_left' (by simp), getBody_exact hl (by simp; omega)]
  simp only
  rw [twoCstrs_ok o n ho hn]
  simp only [simple_calls, remap_then_call, RENAME_MASK]
  wire_norm
  rfl

theorem rename_exact (cfg : Cfg) (fs : Call → Ans) (h : Hdr) (R : Req fs h) (hop : h.op = 12)
    (newdir : Nat) (h1 : newdir < 2 ^ 64) (o n : Bytes) (ho : NameOk o) (hn : NameOk n)
    (hl : h.len = IN_HDR + 8 + (o.length + 1 + (n.length + 1))) :
    (handle cfg fs (encHdr h ++ (le64 newdir ++ (o ++ 0 :: (n ++ [0]))))).calls =
      [remapOf h, call fs h "rename" [.n h.nodeid, .bytes o, .n newdir, .bytes n, .n 0]] := by
  rw [handle_reaches_handler R hop, handleBody, withObj_append (by simp)]
  rw [List.drop_left' (by simp), getBody_exact hl (by simp; omega)]
  simp only
  rw [twoCstrs_ok o n ho hn]
  simp only [simple_calls, remap_then_call]
  wire_norm

/-- WRITE: handle, offset, size, flags, the payload bytes, lock owner iff WRITE_LOCKOWNER (bit 1),
    delayed-write iff WRITE_CACHE (bit 0) -/
theorem write_exact (cfg : Cfg) (fs : Call → Ans) (h : Hdr) (R : Req fs h) (hop : h.op = 16)
    (fh off wf owner flags pad : Nat) (payload : Bytes) (h1 : fh < 2 ^ 64) (h2 : off < 2 ^ 64)
    (h3 : payload.length < 2 ^ 32) (h4 : wf < 2 ^ 32) (h5 : owner < 2 ^ 64) (h6 : flags < 2 ^ 32) (h7 : pad < 2 ^ 32) :
    (handle cfg fs (encHdr h ++ ((le64 fh ++ le64 off ++ le32 payload.length ++ le32 wf ++ le64 owner ++ le32 flags ++
        le32 pad) ++ payload))).calls =
      [remapOf h, call fs h "write" [.n h.nodeid, .n fh, .bytes payload, .n payload.length, .n off,
        .optN (if wf &&& 2 != 0 then some owner else none), .b (wf &&& 1 != 0), .n flags, .n wf]] := by
  rw [handle_reaches_handler R hop, handleBody, withObj_append (by simp), List.drop_left' (by simp)]
  simp only [simple_calls, remap_then_call, WRITE_LOCKOWNER, WRITE_CACHE]
  wire_norm
  rw [List.take_of_length_le (Nat.le_refl _)]

theorem flush_exact (cfg : Cfg) (fs : Call → Ans) (h : Hdr) (R : Req fs h) (hop : h.op = 25)
    (fh un pad owner : Nat) (h1 : fh < 2 ^ 64) (h2 : un < 2 ^ 32) (h3 : pad < 2 ^ 32) (h4 : owner < 2 ^ 64) (trail : Bytes) :
    (handle cfg fs (encHdr h ++ (le64 fh ++ le32 un ++ le32 pad ++ le64 owner ++ trail))).calls =
      [remapOf h, call fs h "flush" [.n h.nodeid, .n fh, .n owner]] := by
  rw [handle_reaches_handler R hop, handleBody, withObj_simple_calls (by simp), remap_then_call]
  wire_norm

theorem opendir_exact (cfg : Cfg) (fs : Call → Ans) (h : Hdr) (R : Req fs h) (hop : h.op = 27)
    (flags pad : Nat) (h1 : flags < 2 ^ 32) (h2 : pad < 2 ^ 32) (trail : Bytes) :
    (handle cfg fs (encHdr h ++ (le32 flags ++ le32 pad ++ trail))).calls =
      [remapOf h, call fs h "opendir" [.n h.nodeid, .n flags]] := by
  rw [handle_reaches_handler R hop, handleBody, withObj_simple_calls (by simp), remap_then_call]
  wire_norm

theorem releasedir_exact (cfg : Cfg) (fs : Call → Ans) (h : Hdr) (R : Req fs h) (hop : h.op = 29)
    (fh flags rf owner : Nat) (h1 : fh < 2 ^ 64) (h2 : flags < 2 ^ 32) (h3 : rf < 2 ^ 32) (h4 : owner < 2 ^ 64) (trail : Bytes) :
    (handle cfg fs (encHdr h ++ (le64 fh ++ le32 flags ++ le32 rf ++ le64 owner ++ trail))).calls =
      [remapOf h, call fs h "releasedir" [.n h.nodeid, .n flags, .n fh]] := by
  rw [handle_reaches_handler R hop, handleBody, withObj_simple_calls (by simp), remap_then_call]
  wire_norm

theorem fsyncdir_exact (cfg : Cfg) (fs : Call → Ans) (h : Hdr) (R : Req fs h) (hop : h.op = 30)
    (fh ff pad : Nat) (hfh : fh < 2 ^ 64) (hff : ff < 2 ^ 32) (hp : pad < 2 ^ 32) (trail : Bytes) :
    (handle cfg fs (encHdr h ++ (le64 fh ++ le32 ff ++ le32 pad ++ trail))).calls =
      [remapOf h, call fs h "fsyncdir" [.n h.nodeid, .b (ff &&& 1 != 0), .n fh]] := by
  rw [handle_reaches_handler R hop, handleBody, withObj_simple_calls (by simp), remap_then_call]
  wire_norm

theorem getlk_setlk_exact (cfg : Cfg) (fs : Call → Ans) (h : Hdr) (R : Req fs h)
    (fh owner s e ty pid lf pad : Nat) (h1 : fh < 2 ^ 64) (h2 : owner < 2 ^ 64) (h3 : s < 2 ^ 64)
    (h4 : e < 2 ^ 64) (h5 : ty < 2 ^ 32) (h6 : pid < 2 ^ 32) (h7 : lf < 2 ^ 32) (h8 : pad < 2 ^ 32)
    (trail : Bytes) :
    (h.op = 31 → (handle cfg fs (encHdr h ++ (le64 fh ++ le64 owner ++ le64 s ++ le64 e ++ le32 ty ++ le32 pid ++
        le32 lf ++ le32 pad ++ trail))).calls =
      [remapOf h, call fs h "getlk" [.n h.nodeid, .n fh, .n owner, .lock s e ty pid, .n lf]]) ∧
    (h.op = 32 → (handle cfg fs (encHdr h ++ (le64 fh ++ le64 owner ++ le64 s ++ le64 e ++ le32 ty ++ le32 pid ++
        le32 lf ++ le32 pad ++ trail))).calls =
      [remapOf h, call fs h "setlk" [.n h.nodeid, .n fh, .n owner, .lock s e ty pid, .n lf]]) := by
  constructor <;> intro hop <;>
    (rw [handle_reaches_handler R hop, handleBody, withObj_simple_calls (by simp), remap_then_call]
     wire_norm)

theorem listxattr_exact (cfg : Cfg) (fs : Call → Ans) (h : Hdr) (R : Req fs h) (hop : h.op = 23)
    (size pad : Nat) (h1 : size < 2 ^ 32) (h2 : pad < 2 ^ 32) (trail : Bytes) :
    (handle cfg fs (encHdr h ++ (le32 size ++ le32 pad ++ trail))).calls =
      [remapOf h, call fs h "listxattr" [.n h.nodeid, .n size]] := by
  rw [handle_reaches_handler R hop, handleBody, withObj_simple_calls (by simp), remap_then_call]
  wire_norm

theorem bmap_exact (cfg : Cfg) (fs : Call → Ans) (h : Hdr) (R : Req fs h) (hop : h.op = 37)
    (block bs pad : Nat) (h1 : block < 2 ^ 64) (h2 : bs < 2 ^ 32) (h3 : pad < 2 ^ 32) (trail : Bytes) :
    (handle cfg fs (encHdr h ++ (le64 block ++ le32 bs ++ le32 pad ++ trail))).calls =
      [remapOf h, call fs h "bmap" [.n h.nodeid, .n block, .n bs]] := by
  rw [handle_reaches_handler R hop, handleBody, withObj_simple_calls (by simp), remap_then_call]
  wire_norm

theorem poll_exact (cfg : Cfg) (fs : Call → Ans) (h : Hdr) (R : Req fs h) (hop : h.op = 40)
    (fh kh flags events : Nat) (h1 : fh < 2 ^ 64) (h2 : kh < 2 ^ 64) (h3 : flags < 2 ^ 32) (h4 : events < 2 ^ 32)
    (trail : Bytes) :
    (handle cfg fs (encHdr h ++ (le64 fh ++ le64 kh ++ le32 flags ++ le32 events ++ trail))).calls =
      [remapOf h, call fs h "poll" [.n h.nodeid, .n fh, .n kh, .n flags, .n events]] := by
  rw [handle_reaches_handler R hop, handleBody, withObj_simple_calls (by simp), remap_then_call]
  wire_norm

/-- READLINK / STATFS: no request structure, one call with the node id -/
theorem readlink_statfs_exact (cfg : Cfg) (fs : Call → Ans) (h : Hdr) (R : Req fs h) (body : Bytes) :
    (h.op = 5 → (handle cfg fs (encHdr h ++ body)).calls = [remapOf h, call fs h "readlink" [.n h.nodeid]]) ∧
    (h.op = 17 → (handle cfg fs (encHdr h ++ body)).calls = [remapOf h, call fs h "statfs" [.n h.nodeid]]) := by
  constructor <;> intro hop <;>
    rw [handle_reaches_handler R hop, handleBody, simple_calls, remap_then_call]

/-- INTERRUPT reaches no file-system operation at all; DESTROY reaches `destroy` -/
theorem interrupt_destroy_exact (cfg : Cfg) (fs : Call → Ans) (h : Hdr) (R : Req fs h) (body : Bytes) :
    (h.op = 36 → (handle cfg fs (encHdr h ++ body)).calls = [remapOf h]) ∧
    (h.op = 38 → (handle cfg fs (encHdr h ++ body)).calls =
        [remapOf h, { method := "destroy", ctx := { uid := 0, gid := 0, pid := 0 }, args := [] }]) := by
  constructor <;> intro hop <;> rw [handle_reaches_handler R hop, handleBody] <;> rfl

/-- READDIR / READDIRPLUS: handle, size and offset (the fs is asked only when the reply buffer
    can hold the header plus the requested size) -/
theorem readdir_exact (cfg : Cfg) (fs : Call → Ans) (h : Hdr) (R : Req fs h)
    (fh off size rf owner flags pad : Nat) (h1 : fh < 2 ^ 64) (h2 : off < 2 ^ 64) (h3 : size < 2 ^ 32)
    (h4 : rf < 2 ^ 32) (h5 : owner < 2 ^ 64) (h6 : flags < 2 ^ 32) (h7 : pad < 2 ^ 32) (trail : Bytes)
    (hcap : size + 16 ≤ cfg.cap) :
    (h.op = 28 → (handle cfg fs (encHdr h ++ (le64 fh ++ le64 off ++ le32 size ++ le32 rf ++ le64 owner ++ le32 flags ++
        le32 pad ++ trail))).calls = [remapOf h, call fs h "readdir" [.n h.nodeid, .n fh, .n size, .n off]]) ∧
    (h.op = 44 → (handle cfg fs (encHdr h ++ (le64 fh ++ le64 off ++ le32 size ++ le32 rf ++ le64 owner ++ le32 flags ++
        le32 pad ++ trail))).calls = [remapOf h, call fs h "readdirplus" [.n h.nodeid, .n fh, .n size, .n off]]) := by
  have hc1 : ¬ cfg.cap < size + OUT_HDR := Nat.not_lt.mpr hcap
  have hc2 : ¬ cfg.cap < OUT_HDR := fun hlt => hc1 (Nat.lt_of_lt_of_le hlt (Nat.le_add_left _ _))
  constructor <;> intro hop <;>
    (rw [handle_reaches_handler R hop, handleBody, withObj_append (by simp)]
     wire_norm
     simp only [if_neg hc1, if_neg hc2, dirReply_calls, remap_then_call, Nat.reduceBEq, Bool.false_eq_true, if_false,
       if_true])

/-- SETATTR: every settable field reaches the file system in the host structure, the handle is
    present iff FATTR_FH (bit 6), the valid mask is the ten attribute bits of `valid` -/
theorem setattr_exact (cfg : Cfg) (fs : Call → Ans) (h : Hdr) (R : Req fs h) (hop : h.op = 4)
    (valid pad fh size lo atime mtime ctime ans mns cns mode u4 uid gid u5 : Nat)
    (b1 : valid < 2 ^ 32) (b2 : pad < 2 ^ 32) (b3 : fh < 2 ^ 64) (b4 : size < 2 ^ 64) (b5 : lo < 2 ^ 64)
    (b6 : atime < 2 ^ 64) (b7 : mtime < 2 ^ 64) (b8 : ctime < 2 ^ 64) (b9 : ans < 2 ^ 32) (b10 : mns < 2 ^ 32)
    (b11 : cns < 2 ^ 32) (b12 : mode < 2 ^ 32) (b13 : u4 < 2 ^ 32) (b14 : uid < 2 ^ 32) (b15 : gid < 2 ^ 32)
    (b16 : u5 < 2 ^ 32) (trail : Bytes) :
    (handle cfg fs (encHdr h ++ (le32 valid ++ le32 pad ++ le64 fh ++ le64 size ++ le64 lo ++ le64 atime ++
        le64 mtime ++ le64 ctime ++ le32 ans ++ le32 mns ++ le32 cns ++ le32 mode ++ le32 u4 ++ le32 uid ++
        le32 gid ++ le32 u5 ++ trail))).calls =
      [remapOf h, call fs h "setattr" [.n h.nodeid,
        .stat { ino := 0, size := size, blocks := 0, atime := atime, mtime := mtime, ctime := ctime,
                atimeNsec := ans, mtimeNsec := mns, ctimeNsec := cns, mode := mode, nlink := 0,
                uid := uid, gid := gid, rdev := 0, blksize := 0 },
        .optN (if valid &&& 64 != 0 then some fh else none), .n (valid &&& SETATTR_VALID_MASK)]] := by
  rw [handle_reaches_handler R hop, handleBody, withObj_simple_calls (by simp), remap_then_call]
  simp only [FATTR_FH, setattrOf, Conv.statOfSetattr]
  wire_norm

/-- SETXATTR: name, value bytes (exactly `size` of them) and flags -/
theorem setxattr_exact (cfg : Cfg) (fs : Call → Ans) (h : Hdr) (R : Req fs h) (hop : h.op = 21)
    (flags : Nat) (h2 : flags < 2 ^ 32) (name value : Bytes) (hn : NameOk name) (hv : value.length < 2 ^ 32)
    (hl : h.len = IN_HDR + 8 + (name.length + 1 + value.length)) :
    (handle cfg fs (encHdr h ++ ((le32 value.length ++ le32 flags) ++ (name ++ 0 :: value)))).calls =
      [remapOf h, call fs h "setxattr" [.n h.nodeid, .bytes name, .bytes value, .n flags]] := by
  rw [handle_reaches_handler R hop, handleBody, withObj_append (by simp)]
  rw [List.drop_left' (by simp), getBody_exact hl (by simp; omega)]
  simp only
  have hc : (name ++ 0 :: value).contains 0 = true := by simp
  simp only [hc, Bool.not_true, Bool.false_eq_true, if_false, takeWhile_name name value hn, drop_name]
  wire_norm
  simp only [bne_self_eq_false, Bool.false_eq_true, if_false, simple_calls, remap_then_call]

/-- BATCH_FORGET with ANY number of items: every (node id, count) pair reaches the file system,
    in order, with exact values (the only bound is the server's own size limit) -/
theorem batch_forget_exact (cfg : Cfg) (fs : Call → Ans) (h : Hdr) (R : Req fs h) (hop : h.op = 42)
    (dummy : Nat) (items : List (Nat × Nat)) (h1 : dummy < 2 ^ 32)
    (hb : ∀ p ∈ items, p.1 < 2 ^ 64 ∧ p.2 < 2 ^ 64)
    (hn : items.length * 16 ≤ MAX_BUFFER_SIZE + BUFFER_HEADER_SIZE - 8 - IN_HDR) (trail : Bytes) :
    (handle cfg fs (encHdr h ++ (le32 items.length ++ le32 dummy ++ encPairs items ++ trail))).calls =
      [remapOf h, call fs h "batch_forget" [.pairs items]] := by
  have hn32 : items.length < 2 ^ 32 := by
    unfold MAX_BUFFER_SIZE BUFFER_HEADER_SIZE IN_HDR at hn; omega
  have hc : u32At (le32 items.length ++ le32 dummy) 0 = items.length := by wire_norm
  rw [handle_reaches_handler R hop, handleBody, List.append_assoc (le32 _ ++ le32 _),
    withObj_append (by simp)]
  simp only [hc, List.drop_left' (by simp : (le32 items.length ++ le32 dummy).length = 8)]
  rw [if_neg (by omega), if_neg (by simp only [List.length_append, encPairs_length]; omega)]
  simp only [remap_then_call, pairs_decode items hb trail]

/-- BATCH_FORGET with a single item -/
theorem batch_forget_exact_one (cfg : Cfg) (fs : Call → Ans) (h : Hdr) (R : Req fs h) (hop : h.op = 42)
    (dummy ino cnt : Nat) (h1 : dummy < 2 ^ 32) (h2 : ino < 2 ^ 64) (h3 : cnt < 2 ^ 64) (trail : Bytes) :
    (handle cfg fs (encHdr h ++ (le32 1 ++ le32 dummy ++ le64 ino ++ le64 cnt ++ trail))).calls =
      [remapOf h, call fs h "batch_forget" [.pairs [(ino, cnt)]]] := by
  have := batch_forget_exact cfg fs h R hop dummy [(ino, cnt)] h1 (by simpa using ⟨h2, h3⟩)
    (by simp [MAX_BUFFER_SIZE, BUFFER_HEADER_SIZE, IN_HDR]) trail
  simpa [encPairs] using this

/-- SETUPMAPPING (virtio-fs with a DAX window): all five fields -/
theorem setupmapping_exact (cfg : Cfg) (fs : Call → Ans) (h : Hdr) (R : Req fs h) (hop : h.op = 48)
    (hvu : cfg.hasVuReq = true)
    (fh foffset len flags moffset : Nat) (h1 : fh < 2 ^ 64) (h2 : foffset < 2 ^ 64) (h3 : len < 2 ^ 64)
    (h4 : flags < 2 ^ 64) (h5 : moffset < 2 ^ 64) (trail : Bytes) :
    (handle cfg fs (encHdr h ++ (le64 fh ++ le64 foffset ++ le64 len ++ le64 flags ++ le64 moffset ++ trail))).calls =
      [remapOf h, call fs h "setupmapping" [.n h.nodeid, .n fh, .n foffset, .n len, .n flags, .n moffset]] := by
  rw [handle_reaches_handler R hop, handleBody]
  simp only [hvu, Bool.not_true, Bool.false_eq_true, if_false]
  rw [withObj_simple_calls (by simp), remap_then_call]
  wire_norm

/-- without a DAX window SETUPMAPPING / REMOVEMAPPING never reach the file system -/
theorem mapping_needs_window (cfg : Cfg) (fs : Call → Ans) (h : Hdr) (R : Req fs h) (hop : h.op = 48 ∨ h.op = 49)
    (hvu : cfg.hasVuReq = false) (body : Bytes) :
    (handle cfg fs (encHdr h ++ body)).calls = [remapOf h] := by
  rcases hop with hop | hop <;>
    (rw [handle_reaches_handler R hop, handleBody]; simp only [hvu, Bool.not_false, if_true]; rfl)

/-- REMOVEMAPPING with ANY number of items: every (offset, length) pair, in order -/
theorem removemapping_exact (cfg : Cfg) (fs : Call → Ans) (h : Hdr) (R : Req fs h) (hop : h.op = 49)
    (hvu : cfg.hasVuReq = true) (items : List (Nat × Nat))
    (hb : ∀ p ∈ items, p.1 < 2 ^ 64 ∧ p.2 < 2 ^ 64)
    (hn : items.length * 16 ≤ MAX_BUFFER_SIZE) (trail : Bytes) :
    (handle cfg fs (encHdr h ++ (le32 items.length ++ encPairs items ++ trail))).calls =
      [remapOf h, call fs h "removemapping" [.n h.nodeid, .pairs items]] := by
  have hn32 : items.length < 2 ^ 32 := by unfold MAX_BUFFER_SIZE at hn; omega
  have hc : u32At (le32 items.length) 0 = items.length := by wire_norm
  rw [handle_reaches_handler R hop, handleBody]
  simp only [hvu, Bool.not_true, Bool.false_eq_true, if_false]
  rw [List.append_assoc (le32 _), withObj_append (by simp)]
  simp only [hc, List.drop_left' (le32_length items.length)]
  rw [if_neg (by omega), if_neg (by simp only [List.length_append, encPairs_length]; omega)]
  simp only [simple_calls, remap_then_call, pairs_decode items hb trail]

/-- IOCTL: handle, flags, command, the `in_size` input bytes and the output size -/
theorem ioctl_exact (cfg : Cfg) (fs : Call → Ans) (h : Hdr) (R : Req fs h) (hop : h.op = 39)
    (fh flags cmd arg os : Nat) (data : Bytes) (h1 : fh < 2 ^ 64) (h2 : flags < 2 ^ 32) (h3 : cmd < 2 ^ 32)
    (h4 : arg < 2 ^ 64) (h5 : data.length < 2 ^ 32) (h6 : os < 2 ^ 32) :
    (handle cfg fs (encHdr h ++ ((le64 fh ++ le32 flags ++ le32 cmd ++ le64 arg ++ le32 data.length ++ le32 os) ++ data))).calls =
      [remapOf h, call fs h "ioctl" [.n h.nodeid, .n fh, .n flags, .n cmd,
        .optN (if data.isEmpty then none else some 1), .bytes data, .n os]] := by
  rw [handle_reaches_handler R hop, handleBody, withObj_append (by simp), List.drop_left' (by simp)]
  wire_norm
  simp only [if_neg (Nat.lt_irrefl _), List.take_of_length_le (Nat.le_refl _), simple_calls, remap_then_call]

/-- NOTIFY_REPLY reaches `notify_reply` (which takes no arguments) -/
theorem notify_reply_exact (cfg : Cfg) (fs : Call → Ans) (h : Hdr) (R : Req fs h) (hop : h.op = 41) (body : Bytes) :
    (handle cfg fs (encHdr h ++ body)).calls =
      [remapOf h, { method := "notify_reply", ctx := { uid := 0, gid := 0, pid := 0 }, args := [] }] := by
  rw [handle_reaches_handler R hop, handleBody, notifyReply_calls]
  rfl

/-! ### the `Arc<FS>` wrappers (`api/filesystem/sync_io.rs`, `async_io.rs`)

A server is usually built over `Arc<FS>` (`Server<Arc<Vfs>>`); the wrapper implements the trait by
hand, method by method.  Over the table regenerated from the source: every method the trait
declares is implemented by the wrapper (so no trait default silently replaces the file system's
own method) and forwards to the method OF THE SAME NAME. -/

abbrev FnRow := String × String × String × String × List (String × List String) × List String

def traitMethods (rows : List FnRow) (tr : String) : List String :=
  rows.filterMap fun r => if r.1 == "trait:" ++ tr then some r.2.2.1 else none

def forwards (rows : List FnRow) (impl tr m : String) : Bool :=
  rows.any fun r => r.1 == impl && r.2.1 == tr && r.2.2.1 == m && r.2.2.2.2.2.contains ("self.deref()." ++ m)

theorem arc_wrapper_forwards_every_method :
    (traitMethods Fbr.Gen.fsSyncFns "FileSystem").all (forwards Fbr.Gen.fsSyncFns "Arc<FS>" "FileSystem") = true ∧
    (traitMethods Fbr.Gen.fsAsyncFns "AsyncFileSystem").all
      (forwards Fbr.Gen.fsAsyncFns "Arc<FS>" "AsyncFileSystem") = true := by
  constructor <;> decide +kernel

/-- the table is not empty: 46 and 10 methods -/
theorem arc_wrapper_table_sizes :
    (traitMethods Fbr.Gen.fsSyncFns "FileSystem").length = 46 ∧
    (traitMethods Fbr.Gen.fsAsyncFns "AsyncFileSystem").length = 10 := by
  constructor <;> decide +kernel

/-- no other file-system operation is invoked: apart from the id-remap, one call -/
theorem exactly_one_call_example (cfg : Cfg) (fs : Call → Ans) (h : Hdr) (R : Req fs h) (hop : h.op = 14)
    (flags fuseFlags : Nat) (hf : flags < 2 ^ 32) (hff : fuseFlags < 2 ^ 32) (trail : Bytes) :
    (handle cfg fs (encHdr h ++ (le32 flags ++ le32 fuseFlags ++ trail))).calls.length = 2 := by
  rw [open_exact cfg fs h R hop flags fuseFlags hf hff trail]; rfl

/-- non-vacuity: a concrete request satisfies `Req` -/
example : Req (fun _ => Ans.unit) { len := 56, op := 3, unique := 7, nodeid := 1, uid := 1000, gid := 1000, pid := 42, pad := 0 } where
  wf := by constructor <;> decide
  len := by decide
  remapOk := by intro e h; cases h

end Fbr.Thm.C02
