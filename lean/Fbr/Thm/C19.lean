/-
  C19 — Saving and restoring VFS state reproduces the same namespace (persist feature).

  PROPERTY THEOREMS ONLY (+ non-vacuity examples).  Model: `Fbr.Persist` (`save`, `restore`,
  `toV1`, `liveMounts`, `reattach`, `saveRestore`) over `Fbr.Vfs`.  The byte format
  (`versionize` / `dbs-snapshot`) is trusted and exercised by the correspondence run.

  Known findings (model follows the code; counterexample theorems below):
    * the global id mapping is not part of what `restore_from_bytes` can restore (F11),
    * `initialized` is restored as `!in_opts.is_empty()` (S4),
    * with `remove_pseudo_root`, evicting a non-leaf pseudo directory makes snapshots unloadable.
-/
import Fbr.Vfs
import Fbr.Persist
import Fbr.Lemmas.VfsStep
import Fbr.Lemmas.VfsInv
import Fbr.Lemmas.VfsMap
import Fbr.Lemmas.VfsPseudo
import Fbr.Lemmas.VfsPersist
import Fbr.Lemmas.VfsReattach
import Fbr.Gen.AbiRust

namespace Fbr.Thm.C19
open Fbr.Vfs Fbr.Persist Fbr.Lemmas.VfsStep Fbr.Lemmas.VfsInv Fbr.Lemmas.VfsMap Fbr.Lemmas.VfsPseudo Fbr.Lemmas.VfsPersist
open Fbr.Lemmas.VfsReattach

/-- histories of a live VFS (mount / umount / init / destroy / requests) -/
def liveOps (ops : List Op) : Prop := ∀ op ∈ ops, (match op with | .saveRestore _ => false | _ => true) = true

/-- after every history of a VFS that does not evict pseudo directories: the mount-table
    invariant, a well-formed pseudo tree (numbers increasing in creation order, children lists =
    parent links in creation order, every parent present) and a 256-entry mapping table -/
theorem wellformed_all_histories (opts : Opts) (ops : List Op) (hl : liveOps ops) :
    Inv (after (State.new opts false) ops) ∧ PInv (after (State.new opts false) ops) :=
  after_lift (fun s => Inv s ∧ PInv s) (fun h => h.1.next)
    (fun h hp => ⟨prim_inv h.1 hp, prim_pinv h.2 hp⟩) ops
    hl (fun h => by cases h) ⟨inv_new opts false, pinv_new opts⟩

/-- restoring a saved state into a fresh instance (built with the same global mapping) succeeds
    and reproduces, exactly: the pseudo tree (every node, number, parent, name, children order),
    `next_inode`, `next_super`, the options, the per-mount mapping table; nothing is mounted yet;
    `initialized` is *derived* from `in_opts` (see the known finding below) -/
theorem restore_save (s : State) (h : PInv s) :
    ∃ s', restore s.globalMap s.rmRoot (save s) false = some s' ∧
      s'.pseudo = s.pseudo ∧ s'.nextSuper = s.nextSuper ∧ s'.opts = s.opts ∧
      s'.mountMaps = s.mountMaps ∧ s'.globalMap = s.globalMap ∧ s'.rmRoot = s.rmRoot ∧
      s'.initialized = decide (s.opts.inOpts ≠ 0) ∧
      (∀ i, s'.supers i = none) ∧ (∀ p, s'.mnts p = none) :=
  ⟨restored0 s, restore_eq h, rfl, rfl, rfl, loadMaps_save s h.range, rfl, rfl, rfl, fun _ => rfl, fun _ => rfl⟩

/-- the same paths resolve to the same pseudo inode numbers on the restored instance -/
theorem same_paths_same_pseudo_inodes (s s' : State) (h : PInv s)
    (hr : restore s.globalMap s.rmRoot (save s) false = some s') (comps : List Comp) :
    s'.pseudo.pathWalk 1 comps = s.pseudo.pathWalk 1 comps := by
  rw [restore_eq h] at hr
  cases hr
  rfl

/-- pseudo directories created afterwards get the numbers they would have got without the
    save/restore: walking (and creating) any path gives the same tree and the same number -/
theorem future_pseudo_dirs_same_numbers (s s' : State) (h : PInv s)
    (hr : restore s.globalMap s.rmRoot (save s) false = some s') (comps : List Comp) :
    s'.pseudo.mountWalk 1 comps = s.pseudo.mountWalk 1 comps := by
  rw [restore_eq h] at hr
  cases hr
  rfl

/-- mounts made afterwards are allocated from the same `next_super`: once the slots hold the same
    backends again, `allocate_fs_idx` returns the same index -/
theorem future_mounts_same_indices (s s' t : State) (h : PInv s)
    (hr : restore s.globalMap s.rmRoot (save s) false = some s')
    (ht1 : t.nextSuper = s'.nextSuper) (ht2 : ∀ i, (t.supers i).isSome = (s.supers i).isSome) :
    t.allocateFsIdx.2 = s.allocateFsIdx.2 ∧ t.allocateFsIdx.1.nextSuper = s.allocateFsIdx.1.nextSuper := by
  rw [restore_eq h] at hr
  cases hr
  unfold State.allocateFsIdx
  rw [ht1, Fbr.Lemmas.VfsAlloc.allocLoop_congr ht2]
  exact ⟨rfl, rfl⟩

/-- every invariant the identity theorem needs holds after every live history -/
theorem all_invariants_all_histories (opts : Opts) (ops : List Op) (hl : liveOps ops) :
    Inv (after (State.new opts false) ops) ∧ MapInv (after (State.new opts false) ops) ∧
    PInv (after (State.new opts false) ops) ∧ XInv (after (State.new opts false) ops) :=
  after_lift (fun s => Inv s ∧ MapInv s ∧ PInv s ∧ XInv s) (fun h => h.1.next)
    (fun h hp => ⟨prim_inv h.1 hp, prim_mapInv h.1 h.2.1 hp, prim_pinv h.2.2.1 hp, prim_xinv h.2.2.1 h.2.2.2 hp⟩) ops
    hl (fun h => by cases h)
    ⟨inv_new opts false, mapInv_new opts false, pinv_new opts, xinv_new opts false⟩

/-- saving, restoring into a fresh instance built with the same constructor options and
    re-attaching the backends at their recorded indices gives back *the same state*: same mount
    table (every old inode number routes to the corresponding backend), same pseudo tree, same
    per-mount and global mappings, same options, same `next_super` / `next_inode`.
    PARTIAL with respect to the property text in exactly the known-finding inputs: the hypothesis
    `initialized = (in_opts ≠ 0)` excludes sessions negotiated with no flag bits / destroyed /
    failed INIT (C19:initialized:*), "same constructor options" excludes the lost global mapping
    (C19:global-map-not-restored), and `State.new _ false` excludes `remove_pseudo_root`
    (C19:restore-fails:evicted-parent); counterexample theorems below. -/
theorem restore_save_identity_partial (opts : Opts) (ops : List Op) (hl : liveOps ops)
    (hinit : (after (State.new opts false) ops).initialized = decide ((after (State.new opts false) ops).opts.inOpts ≠ 0)) :
    (saveRestore (after (State.new opts false) ops) .same).1 = after (State.new opts false) ops ∧
    (saveRestore (after (State.new opts false) ops) .same).2.1 = .unit := by
  obtain ⟨hi, hm, hp, hx⟩ := all_invariants_all_histories opts ops hl
  exact saveRestore_identity hi hm hp hx hinit

/-- ... hence the restored instance is a bisimulation partner of the original for every later
    history (mount, umount, init, destroy, every request, further save/restores): all replies and
    all backend call logs are equal, and mounts / pseudo directories created afterwards receive the
    indices and numbers they would have received without the save/restore -/
theorem restore_save_bisimilar_partial (opts : Opts) (ops : List Op) (hl : liveOps ops)
    (hinit : (after (State.new opts false) ops).initialized = decide ((after (State.new opts false) ops).opts.inOpts ≠ 0))
    (later : List Op) :
    run (saveRestore (after (State.new opts false) ops) .same).1 later = run (after (State.new opts false) ops) later := by
  rw [(restore_save_identity_partial opts ops hl hinit).1]

/-- a version-1 snapshot of the same state (no per-mount mappings) still loads, with the same
    pseudo tree, `next_inode`, `next_super` and options; every per-mount mapping is `None` -/
theorem v1_loads (s : State) (h : PInv s) :
    ∃ s', restore s.globalMap s.rmRoot (toV1 (save s)) true = some s' ∧
      s'.pseudo = s.pseudo ∧ s'.nextSuper = s.nextSuper ∧ s'.opts = s.opts ∧
      (∀ i, s'.mountMaps i = none) := by
  have hp : restorePseudo (toV1 (save s)).nextInode (toV1 (save s)).inodes = some s.pseudo := restorePseudo_save h.wf
  unfold restore
  rw [hp]
  refine ⟨_, rfl, rfl, rfl, rfl, ?_⟩
  intro i
  simp only [loadMaps, if_true]
  by_cases hi : i < MAX_VFS_INDEX
  · simp [hi]
  · rw [List.getElem?_eq_none (by simp; omega)]; rfl

/-! ### known findings (the full-strength statement is false of the code) -/

/-- full strength would be: `saveRestore` into a fresh default instance leaves every later answer
    unchanged.  KNOWN FINDING `C19:global-map-not-restored`: the global id mapping is a plain field
    set by `Vfs::new`; a fresh `Vfs::new(VfsOptions::default())` that loads the snapshot translates
    nothing.  Witness: global mapping (0,1000,65536), `/a` mounted, GETATTR by uid 1005: the
    original shows the backend uid 5, the restored instance shows it 1005. -/
theorem global_map_not_restored_counterexample :
    ∃ (s : State) (r : Req), (saveRestore s .dflt).2.1 = .unit ∧
      ((saveRestore s .dflt).1.handle r).map (·.2) ≠ (s.handle r).map (·.2) := by
  refine ⟨(State.new { Opts.default with idMapping := (0, 1000, 65536) } false |>.mount
      { id := 1, mountErr := none, rootIno := 1, rootUid := 5, rootGid := 6, maxIno := 100, ie := 0 } [47, 97] none).1,
    { op := .getattr, uid := 1005, gid := 1006, ino := 1 * SHIFT + 7, ans := .ent 7 5 6 }, ?_, ?_⟩ <;> decide

/-- `restore_save` with the same constructor options is exact on `globalMap` (hypothesis of every
    bisimulation statement): the partial form of the full-strength claim -/
theorem global_map_kept_with_same_ctor_options_partial (s : State) (h : PInv s) :
    ∃ s', restore s.globalMap s.rmRoot (save s) false = some s' ∧ s'.globalMap = s.globalMap :=
  ⟨restored0 s, restore_eq h, rfl⟩

/-- KNOWN FINDING `C19:initialized:*`: `initialized` is not saved but derived from `in_opts`.
    (a) INIT with no flag bits: the original refuses a second INIT, the restored one accepts it;
    (b) INIT + DESTROY: the original accepts a new INIT, the restored one refuses it. -/
theorem initialized_not_restored_counterexample :
    (∃ s : State, s.initialized = true ∧ (saveRestore s .same).1.initialized = false) ∧
    (∃ s : State, s.initialized = false ∧ (saveRestore s .same).1.initialized = true) := by
  refine ⟨⟨((State.new Opts.default false).init 0).1, ?_, ?_⟩,
          ⟨((((State.new Opts.default false).init 1).1).destroy).1, ?_, ?_⟩⟩ <;> decide

/-- ... and `initialized` is reproduced exactly when it agrees with `in_opts ≠ 0` -/
theorem initialized_restored_partial (s : State) (h : PInv s) (hi : s.initialized = decide (s.opts.inOpts ≠ 0)) :
    ∃ s', restore s.globalMap s.rmRoot (save s) false = some s' ∧ s'.initialized = s.initialized :=
  ⟨restored0 s, restore_eq h, hi.symm⟩

def bkPlain (id : Nat) : Bk := { id := id, mountErr := none, rootIno := 1, rootUid := 0, rootGid := 0, maxIno := 100, ie := 0 }
/-- mount `/a/b`, mount `/a`, umount `/a` on an instance with `remove_pseudo_root` -/
def evictWitness : State :=
  let s0 := State.new Opts.default true
  let s1 := (s0.mount (bkPlain 1) [47, 97, 47, 98] none).1
  let s2 := (s1.mount (bkPlain 2) [47, 97] none).1
  (s2.umount [47, 97]).1

/-- KNOWN FINDING `C19:restore-fails:evicted-parent`: with `remove_pseudo_root`, umount evicts a
    pseudo directory that still has children; the orphan is saved and the snapshot does not load.
    Witness: mount `/a/b`, mount `/a`, umount `/a`. -/
theorem restore_fails_after_evict_counterexample :
    ∃ s : State, s.rmRoot = true ∧ restore s.globalMap s.rmRoot (save s) false = none := by
  refine ⟨evictWitness, ?_, ?_⟩ <;> decide

/-- mount `/a`, mount `/a/../b`, umount `/a` on an instance with `remove_pseudo_root` -/
def recreateWitness : State :=
  let s0 := State.new Opts.default true
  let s1 := (s0.mount (bkPlain 1) [47, 97] none).1
  let s2 := (s1.mount (bkPlain 2) [47, 97, 47, 46, 46, 47, 98] none).1
  (s2.umount [47, 97]).1

/-- KNOWN FINDING `C19:rm-evicted:reattach-recreates-dir`: `restore_mount` walks the recorded
    mount path with `PseudoFs::mount`; a path through an evicted directory creates it again, so
    the restored pseudo tree differs from the original (`a` is back, `next_inode` moved on) -/
theorem reattach_recreates_evicted_dir_counterexample :
    ∃ s : State, s.rmRoot = true ∧ (saveRestore s .same).2.1 = .unit ∧
      (saveRestore s .same).1.pseudo.nextInode ≠ s.pseudo.nextInode := by
  refine ⟨recreateWitness, ?_, ?_, ?_⟩ <;> decide

/-- the `FsOptions` bits `Vfs::init` manipulates have the values the generated table gives them -/
theorem init_bits_match_source :
    (Fbr.Gen.rustBitflags.find? (·.1 == "FsOptions")).map (fun t =>
      [t.2.2.lookup "ATOMIC_O_TRUNC", t.2.2.lookup "WRITEBACK_CACHE", t.2.2.lookup "ZERO_MESSAGE_OPEN",
       t.2.2.lookup "ZERO_MESSAGE_OPENDIR", t.2.2.lookup "HANDLE_KILLPRIV_V2"])
      = some [some ATOMIC_O_TRUNC, some WRITEBACK_CACHE, some ZERO_MESSAGE_OPEN, some ZERO_MESSAGE_OPENDIR, some HANDLE_KILLPRIV_V2] := by
  decide +kernel

def bkA : Bk := { id := 1, mountErr := none, rootIno := 1, rootUid := 5, rootGid := 6, maxIno := 100, ie := 0 }
def sA : State := ((State.new Opts.default false |>.mount bkA [47, 97, 47, 98] (some (0, 1000, 65536))).1.mount
  { bkA with id := 2 } [47, 100] none).1

example : PInv sA := (wellformed_all_histories Opts.default
  [.mount bkA [47, 97, 47, 98] (some (0, 1000, 65536)), .mount { bkA with id := 2 } [47, 100] none] (by intro op h; simp at h; rcases h with h | h <;> subst h <;> rfl)).2
/-- the snapshot lists the three pseudo directories a, a/b, d with their numbers -/
example : (save sA).inodes = [{ ino := 2, parent := 1, name := [97] }, { ino := 3, parent := 2, name := [98] }, { ino := 4, parent := 1, name := [100] }] := by
  decide
/-- save + restore + re-attach gives back both mounts at their indices -/
example : (saveRestore sA .same).2.1 = .unit ∧ ((saveRestore sA .same).1.supers 1).map (·.id) = some 1 ∧
    ((saveRestore sA .same).1.supers 2).map (·.id) = some 2 ∧ (saveRestore sA .same).1.nextSuper = 3 := by
  decide

end Fbr.Thm.C19
