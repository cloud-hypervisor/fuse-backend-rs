/-
  C14 — UID/GID mapping translates every id crossing the VFS, per mount, both ways.

  PROPERTY THEOREMS ONLY (+ non-vacuity examples).  Model: `Fbr.Vfs` (`remapId`, `remapPair`,
  `State.effectiveMap`, `State.convertEntry`, `State.remapIdx`, `State.handle`, `State.backendReply`).
  The model follows the code after the three `fix:` commits recorded in known_findings.json
  (86fa535 double translation of mount roots, 970e802 mapping inherited through slot reuse,
  deb3769 root mount context translated with the global mapping).
-/
import Fbr.Vfs
import Fbr.Persist
import Fbr.Lemmas.VfsStep
import Fbr.Lemmas.VfsInv
import Fbr.Lemmas.VfsMap
import Fbr.Lemmas.VfsRoute
import Fbr.Lemmas.VfsNoPanic
import Fbr.Gen.VfsSync
import Fbr.Gen.VfsMod

namespace Fbr.Thm.C14
open Fbr.Vfs Fbr.Persist Fbr.Lemmas.VfsStep Fbr.Lemmas.VfsInv Fbr.Lemmas.VfsMap Fbr.Lemmas.VfsRoute Fbr.Lemmas.VfsNoPanic

/-- there and back is the identity on the range, under the exact no-overflow guard
    `base + range ≤ 2^32` on the target side of each direction -/
theorem remap_inverse (v a b r : Nat) (ha : a + r ≤ U32) (hb : b + r ≤ U32) (h1 : a ≤ v) (h2 : v - a < r) :
    ∃ w, remapId v a b r = some w ∧ b ≤ w ∧ w - b < r ∧ remapId w b a r = some v := by
  refine ⟨v - a + b, remapId_in_range hb h1 h2, by omega, by omega, ?_⟩
  rw [remapId_in_range ha (by omega) (by omega)]
  congr 1
  omega

/-- ids outside the source range pass unchanged -/
theorem remap_identity_outside (v a b r : Nat) (h : ¬ (a ≤ v ∧ v - a < r)) : remapId v a b r = some v :=
  remapId_outside h

/-- under the guard the translation of a `u32` never overflows and yields a `u32` -/
theorem remap_total_under_guard (v a b r : Nat) (hb : b + r ≤ U32) (hv : v < U32) :
    ∃ w, remapId v a b r = some w ∧ w < U32 :=
  remapId_total a hb hv

/-- the guard is necessary: with `to_base + range > 2^32` an id of the range overflows `u32`
    (mapping (0, 4294967000, 65536), id 1000) -/
theorem remap_guard_needed_counterexample :
    ¬ (∀ v a b r : Nat, v < U32 → a < U32 → b < U32 → r < U32 → (remapId v a b r).isSome = true) := by
  intro h
  have := h 1000 0 4294967000 65536 (by decide) (by decide) (by decide) (by decide)
  revert this
  decide

/-- `remap_id` as a build without overflow checks computes it (wrapping `u32` arithmetic) -/
def remapIdWrap (v a b r : Nat) : Nat := if a ≤ v ∧ v - a < r then (v - a + b) % U32 else v

/-- ... and there the round trip silently fails: 1000 → 704 → 704 -/
theorem wrapping_remap_not_inverse_counterexample :
    ¬ (∀ v a b r : Nat, a ≤ v → v - a < r → remapIdWrap (remapIdWrap v a b r) b a r = v) := by
  intro h
  have := h 1000 0 4294967000 65536 (by decide) (by decide)
  revert this
  decide

/-- with every configured mapping inside the guard and `u32` ids in the request and in the
    backend's answer, no request overflows the id arithmetic (or panics otherwise) -/
theorem request_never_overflows_under_guard (s : State) (hinv : Inv s) (hg : MapsGuarded s) (r : Req)
    (hids : r.uid < U32 ∧ r.gid < U32 ∧ r.setUid < U32 ∧ r.setGid < U32) (hans : AnsOk r.ans) :
    ∃ res calls, s.handle r = some (res, calls) ∧ res ≠ .panic :=
  handle_no_panic hinv hg r hids hans

/-- ... and the guard is necessary at this level too: a mapping beyond it makes a plain GETATTR
    panic (overflow checks on) -/
theorem request_overflows_beyond_guard_counterexample :
    ∃ (s : State) (r : Req), Inv s ∧ r.uid < U32 ∧ r.gid < U32 ∧ s.handle r = none := by
  refine ⟨State.new { Opts.default with idMapping := (4294967000, 0, 65536) } false,
    { op := .getattr, uid := 1000, gid := 0, ino := 1 }, inv_new _ _, by decide, by decide, by decide⟩

/-- `Inv ∧ MapInv` hold after every history of mounts (with or without a mapping), over-mounts,
    umounts, failed mounts, init/destroy and requests — in particular after slot reuse -/
theorem mapping_invariant_all_histories (opts : Opts) (rm : Bool) (ops : List Op)
    (hl : ∀ op ∈ ops, (match op with | .saveRestore _ => false | _ => true) = true) :
    Inv (after (State.new opts rm) ops) ∧ MapInv (after (State.new opts rm) ops) :=
  after_lift (fun s => Inv s ∧ MapInv s) (fun h => h.1.next)
    (fun h hp => ⟨prim_inv h.1 hp, prim_mapInv h.1 h.2 hp⟩) ops
    hl (fun h => by cases h) ⟨inv_new opts rm, mapInv_new opts rm⟩

/-- each mount uses its own mapping if it was given one and the global mapping otherwise:
    `effectiveMap` of a mount point's slot is the mapping recorded at its mount, else the global
    one — whatever occupied the slot before -/
theorem effective_map_is_own_or_global (s : State) (h : MapInv s) (p : Nat) (m : Mnt) (hm : s.mnts p = some m) :
    s.effectiveMap m.idx = (match m.map with
      | some x => some x
      | none => s.globalMap) := by
  obtain ⟨a, _⟩ := h p m hm
  unfold State.effectiveMap
  rw [a]
  cases m.map <;> rfl

/-- the mapping recorded at a mount is the one given to that `mount` call (`None` included), and
    the record names the backend that was mounted -/
theorem mount_records_given_map (s : State) (hn : s.nextSuper < 256) (b : Bk) (path : Name) (map : Option Map) (idx : Nat)
    (h : (s.mount b path map).2.1 = .mounted idx) :
    ∃ p m, (s.mount b path map).1.mnts p = some m ∧ m.idx = idx ∧ m.map = map ∧ m.bk = b.id :=
  (mount_mounted hn h).2.2.2.2

/-- for every operation that reaches a backend: it is the backend of the mount the request inode
    resolves to, and the context ids it sees — and for SETATTR the owner ids to be set — are the
    client's ids translated external → internal with the mapping of *that* mount (also for node 1
    of a root mount, and for LINK whose header addresses the new parent) -/
theorem backend_sees_internal (s : State) (hinv : Inv s) (r : Req) (res : Res) (c : Call)
    (h : s.handle r = some (res, [c])) :
    ∃ b idx i, s.getRealRootfs r.ino = some (.ok (.backend b idx i)) ∧ s.supers idx = some b ∧ c.bk = b.id ∧
      remapPair (s.effectiveMap idx) false r.uid r.gid = some (c.uid, c.gid) ∧
      (r.op = .setattr → ∃ au ag, remapPair (s.effectiveMap idx) false r.setUid r.setGid = some (au, ag) ∧
          c.args = [.n i, .n au, .n ag]) := by
  obtain ⟨res', _, hr⟩ := handle_routed h
  exact hr.delivered

/-- the slot whose mapping translates the request context is the slot that serves the request
    (root mount included: the defect fixed by deb3769) -/
theorem ctx_mapping_is_serving_mount (s : State) (ino : Nat) (b : Bk) (idx i : Nat)
    (h : s.getRealRootfs ino = some (.ok (.backend b idx i))) : s.remapIdx ino = idx :=
  remapIdx_of_target h

/-- entry replies (LOOKUP, MKDIR, MKNOD, SYMLINK, LINK, CREATE): the owner ids the client sees are
    the backend's ids translated internal → external exactly once with the mount's mapping -/
theorem client_sees_external_once_entry (s : State) (r : Req) (idx i ino uid gid : Nat) (e : Ent)
    (hop : r.op = .lookup ∨ r.op = .mkdir ∨ r.op = .mknod ∨ r.op = .symlink ∨ r.op = .link ∨ r.op = .create)
    (hans : r.ans = .ent ino uid gid)
    (h : s.backendReply r idx i = some (.entry e)) :
    remapPair (s.effectiveMap idx) true uid gid = some (e.uid, e.gid) :=
  (convertEntry_ok (backendReply_entry hop hans h)).2.2

/-- GETATTR / SETATTR replies likewise -/
theorem client_sees_external_once_attr (s : State) (r : Req) (idx i st uid gid x u g : Nat)
    (hop : r.op = .getattr ∨ r.op = .setattr) (hans : r.ans = .ent st uid gid)
    (h : s.backendReply r idx i = some (.attr x u g)) :
    remapPair (s.effectiveMap idx) true uid gid = some (u, g) :=
  (backendReply_attr hop hans h).2

/-- READDIRPLUS: every entry delivered to the client carries the owner ids of one of the entries
    the backend offered, translated exactly once with the mount's mapping -/
theorem client_sees_external_once_readdirplus (s : State) (r : Req) (idx i : Nat)
    (l : List (Nat × Nat × Nat × Nat × Name)) (e : Option Nat) (out : List PEnt)
    (hop : r.op = .readdirplus) (hans : r.ans = .plus l)
    (h : s.backendReply r idx i = some (.plusents e out)) :
    ∀ y ∈ out, ∃ d ∈ l, remapPair (s.effectiveMap idx) true d.2.2.1 d.2.2.2.1 = some (y.ent.uid, y.ent.gid) ∧
      convertInode idx d.2.1 = .ok y.ent.inode ∧ y.ino = y.ent.inode ∧ y.ent.stIno = y.ent.inode := by
  unfold State.backendReply at h
  simp only [hans, hop] at h
  intro y hy
  obtain ⟨x, hx, hfx⟩ := plusents_mem h y hy
  refine ⟨x.2, (List.of_mem_zip hx).2, ?_⟩
  cases hc : convertInode idx x.2.2.1 with
  | error n => simp [hc] at hfx
  | ok ino =>
    simp only [hc] at hfx
    cases hr : remapPair (s.effectiveMap idx) true x.2.2.2.1 x.2.2.2.2.1 with
    | none => simp [hr] at hfx
    | some p =>
      simp only [hr, Option.map_some, Option.some.injEq, Except.ok.injEq] at hfx
      subst hfx
      exact ⟨rfl, rfl, rfl, rfl⟩

/-- mount roots: a LOOKUP that crosses a mount point returns the root of the mounted backend with
    its owner translated exactly once with the mount's own (else the global) mapping — not twice
    (the defect fixed by 86fa535) and not with a stranger's mapping (970e802) -/
theorem mount_root_seen_external_once_lookup (s : State) (h : MapInv s) (idata : Nat) (name : Name) (ino : Nat) (m : Mnt)
    (hl : s.pseudo.lookup (lowIno idata) name = .ok ino) (hm : s.mnts ino = some m) :
    ∃ b, s.supers m.idx = some b ∧
      s.lookupPseudo idata name = some (.entry m.rootEntry) ∧
      remapPair (match m.map with
                 | some x => some x
                 | none => s.globalMap) true b.rootUid b.rootGid = some (m.rootEntry.uid, m.rootEntry.gid) := by
  obtain ⟨_, b, hb, _, _, _, hr⟩ := h ino m hm
  exact ⟨b, hb, lookupPseudo_mnt hl hm, effective_map_is_own_or_global s h ino m hm ▸ hr⟩

/-- ... and READDIRPLUS of a pseudo directory shows the same once-translated root entry -/
theorem mount_root_seen_external_once_readdirplus (s : State) (r : Req) (idata : Nat)
    (l : List (Nat × Nat × Name)) (e : Option Nat) (out : List PEnt)
    (hop : r.op = .readdirplus) (hl : s.pseudo.dirList (lowIno idata) r.size r.off = .ok l)
    (h : s.pseudoReq r idata = some (.plusents e out)) :
    ∀ y ∈ out, ∃ d ∈ l, ∀ m, s.mnts d.1 = some m →
      y.ent.uid = m.rootEntry.uid ∧ y.ent.gid = m.rootEntry.gid ∧ y.ent.inode = m.rootEntry.inode := by
  unfold State.pseudoReq at h
  simp only [hop, hl] at h
  intro y hy
  obtain ⟨x, hx, hfx⟩ := plusents_mem h y hy
  refine ⟨x, hx, fun m hm => ?_⟩
  simp only [hm, Option.some.injEq] at hfx
  cases hc : convertInode m.idx m.ino with
  | error n => simp [hc, Except.map] at hfx
  | ok v =>
    simp only [hc, Except.map, Except.ok.injEq] at hfx
    subst hfx
    exact ⟨rfl, rfl, rfl⟩

/-- KNOWN FINDING `C14:pseudo-dir:lookup-getattr-differ`: under a global mapping a pseudo directory
    reports its (synthetic, internal 0) owner translated in LOOKUP but untranslated in GETATTR and
    READDIRPLUS.  Concrete witness: global mapping (0, 1000, 65536), `/a/b` mounted, pseudo dir `a`
    (inode 2): LOOKUP shows uid 1000, GETATTR shows uid 0.  The theorems above are therefore stated
    for backend-owned inodes and mount roots; this one records the exception. -/
theorem pseudo_dir_owner_counterexample :
    ∃ (s : State) (idata : Nat) (name : Name) (e : Ent) (u g : Nat),
      s.lookupPseudo idata name = some (.entry e) ∧
      s.pseudoReq { op := .getattr, uid := 0, gid := 0, ino := e.inode } e.inode = some (.attr e.inode u g) ∧
      e.uid ≠ u := by
  refine ⟨(State.new { Opts.default with idMapping := (0, 1000, 65536) } false |>.mount
      { id := 1, mountErr := none, rootIno := 1, rootUid := 5, rootGid := 6, maxIno := 100, ie := 0 } [47, 97, 47, 98] none).1,
    1, [97], { inode := 2, stIno := 2, uid := 1000, gid := 1000 }, 0, 0, ?_, ?_, ?_⟩ <;> decide

def callsOf (tbl : List (String × String × String × String × List (String × List String) × List String)) (fn : String) : List String :=
  match tbl.find? (fun f => f.2.2.1 == fn) with
  | some f => f.2.2.2.2.2
  | none => []

/-- the translation call sites the model assumes are the ones in the source today: GETATTR and
    SETATTR convert the reply (`convert_attr`), SETATTR translates the owner first
    (`remap_attr_id`), the entry operations go through `convert_backend_entry`, READDIRPLUS
    translates each entry (`remap_attr_id`), `id_remap_with_nodeid` translates the context with the
    effective mapping, and `lookup_pseudo` calls `convert_entry` exactly once (the non-crossing
    branch; the crossing branch returns the stored root entry) -/
theorem translation_call_sites_match_source :
    "self.convert_attr" ∈ callsOf Fbr.Gen.vfsSyncFns "getattr" ∧
    "self.convert_attr" ∈ callsOf Fbr.Gen.vfsSyncFns "setattr" ∧
    "self.remap_attr_id" ∈ callsOf Fbr.Gen.vfsSyncFns "setattr" ∧
    "self.remap_attr_id" ∈ callsOf Fbr.Gen.vfsSyncFns "readdirplus" ∧
    (∀ fn ∈ ["lookup", "symlink", "mknod", "mkdir", "link", "create"],
        "self.convert_backend_entry" ∈ callsOf Fbr.Gen.vfsSyncFns fn) ∧
    "self.remap_ctx_ids" ∈ callsOf Fbr.Gen.vfsSyncFns "id_remap_with_nodeid" ∧
    "self.get_effective_id_mapping" ∈ callsOf Fbr.Gen.vfsSyncFns "id_remap_with_nodeid" ∧
    ((callsOf Fbr.Gen.vfsModFns "lookup_pseudo").filter (· == "self.convert_entry")).length = 1 ∧
    "self.get_effective_id_mapping" ∈ callsOf Fbr.Gen.vfsModFns "convert_entry" ∧
    "self.mount_id_mappings.store" ∈ callsOf Fbr.Gen.vfsModFns "mount_with_id_mapping" := by
  decide +kernel

def bkA : Bk := { id := 1, mountErr := none, rootIno := 1, rootUid := 5, rootGid := 6, maxIno := 100, ie := 0 }
def sA : State := (State.new Opts.default false |>.mount bkA [47, 97] (some (0, 1000, 65536))).1

/-- `remap_inverse` has instances: 5 ↦ 1005 ↦ 5 under (0, 1000, 65536) -/
example : remapId 5 0 1000 65536 = some 1005 ∧ remapId 1005 1000 0 65536 = some 5 := by decide
/-- a getattr by external uid 1005 reaches the backend as internal uid 5; the backend's owner 5 is
    shown as 1005 -/
example : sA.handle { op := .getattr, uid := 1005, gid := 1006, ino := 1 * SHIFT + 7, ans := .ent 7 5 6 }
    = some (.attr (1 * SHIFT + 7) 1005 1006, [{ bk := 1, method := .req .getattr, uid := 5, gid := 6, args := [.n 7] }]) := by
  decide
/-- crossing lookup of the mount root: owner 5 shown as 1005 (once), not 2005 -/
example : sA.lookupPseudo 1 [97] = some (.entry { inode := 1 * SHIFT + 1, stIno := 1 * SHIFT + 1, uid := 1005, gid := 1006 }) := by
  decide
example : MapInv sA :=
  (mount_lift (fun s => Inv s ∧ MapInv s) (fun h hp => ⟨prim_inv h.1 hp, prim_mapInv h.1 h.2 hp⟩)
    (inv_new _ _).next ⟨inv_new _ _, mapInv_new _ _⟩ _ _).2

end Fbr.Thm.C14
