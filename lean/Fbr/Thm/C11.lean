/-
  C11 — overlay disk state matches the live view across restart; copy-up preserves files.
  PROPERTY THEOREMS ONLY (helper lemmas: Fbr/Lemmas/Ovl*.lean).  Model: Fbr/Ovl.lean.
-/
import Fbr.Thm.C10

namespace Fbr.Thm.C11
open Fbr.Ovl

/-- `set_opaque` on a directory makes it opaque on disk and keeps mode and xattr. -/
theorem set_opaque_sets (L : Layer) (p : Path) (m o x : Nat) (h : L p = .dir m o x) :
    ∃ L', hSetOpaque L p = .ok L' ∧ L' p = .dir m 1 x := by
  refine ⟨L.set p (.dir m 1 x), ?_, ?_⟩
  · simp [hSetOpaque, h]
  · simp [Layer.set]

/-! ## restart

  `importFs s.disk` is a second `OverlayFs` started over the directories as the history left
  them.  -/

/-- After ANY history of operations (modifying or not, successful or failed) a freshly started
    overlay over the same directories shows exactly the overlayfs union of what is on disk then
    — at every path.  (The layers stay trees with directory roots along every history: part of
    `C10.cache_valid_after_history`.) -/
theorem restart_view_is_merge (d : Disk) (hr : d.RootsOK) (ht : d.TreesOK) (ops : List Op) (p : List Name) :
    liveView (importFs (run (importFs d) ops).disk) p = merge (run (importFs d) ops).disk p.reverse :=
  (views_of_consistent (Fbr.Thm.C10.cache_valid_after_history d hr ht ops) p).2

/-- Restart equals live whenever the live forest is a valid cache of the disk. -/
theorem restart_view_eq_live_of_consistent (s : St) (hc : Consistent s) (p : List Name) :
    liveView (importFs s.disk) p = liveView s p :=
  (views_of_consistent hc p).2.trans (views_of_consistent hc p).1.symm

/-- `restart_view_eq_live`: after ANY history of operations (all 19 kinds, successful or failed),
    from any initial disk whose layers are trees with directory roots, a freshly started overlay
    over the same directories shows, at every path, exactly what the running instance shows. -/
theorem restart_view_eq_live (d : Disk) (hr : d.RootsOK) (ht : d.TreesOK) (ops : List Op) (p : List Name) :
    liveView (importFs (run (importFs d) ops).disk) p = liveView (run (importFs d) ops) p :=
  restart_view_eq_live_of_consistent _ (Fbr.Thm.C10.cache_valid_after_history d hr ht ops) p

/-- `restart_view_eq_live` for histories of the operations in `Op.covered` -/
theorem restart_view_eq_live_partial (d : Disk) (hr : d.RootsOK) (ht : d.TreesOK) (ops : List Op)
    (_hops : ∀ op ∈ ops, op.covered = true) (p : List Name) :
    liveView (importFs (run (importFs d) ops).disk) p = liveView (run (importFs d) ops) p :=
  restart_view_eq_live d hr ht ops p

/-- what "deleted" means for a path: nothing is visible there or anywhere below, on disk
    (`merge`), in the running instance and in a freshly started one -/
def DeletedAt (s' : St) (p : List Name) : Prop :=
  ∀ q : List Name, merge s'.disk ((p ++ q).reverse) = .none ∧ liveView s' (p ++ q) = .none ∧
    liveView (importFs s'.disk) (p ++ q) = .none

/-- `deleted_stays_deleted`: after a successful unlink (of a file, symlink or special file living
    in the upper layer, in lower layers, or in both) or a successful rmdir (of a directory that
    lives in the upper layer, in lower layers, or is merged from both; with upper whiteouts to
    clear or without), after ANY history, the path and everything below it is invisible on disk
    (`merge`), in the running instance and in a freshly started one.  For unlink this is the
    property the second `fix:` of this engine (da2e768) restored. -/
theorem deleted_stays_deleted (d : Disk) (hr : d.RootsOK) (ht : d.TreesOK) (ops : List Op)
    (p : List Name) (op : Op) (hop : op = .unlink p ∨ op = .rmdir p) (r : Reply) (s' : St)
    (h : runOp op (run (importFs d) ops) = .ok r s') : DeletedAt s' p := by
  have hc := Fbr.Thm.C10.cache_valid_after_history d hr ht ops
  have key : ∀ (hc' : Consistent s'), (∀ q : List Name, merge s'.disk (q ++ p.reverse) = .none) → DeletedAt s' p := by
    intro hc' hall q
    have hm : merge s'.disk ((p ++ q).reverse) = .none := by
      rw [List.reverse_append]; exact hall q.reverse
    obtain ⟨h1, h2⟩ := views_of_consistent hc' (p ++ q)
    exact ⟨hm, h1.trans hm, h2.trans hm⟩
  rcases hop with rfl | rfl
  · have h1 := runOp_ns_view hc rfl h
    exact key h1.1 h1.2.gone
  · obtain ⟨hm, hc'⟩ := Fbr.Thm.C10.rmdir_refines_plain_fs _ hc p r s' h
    exact key hc' hm

/-- the same for unlink from any state with a valid cache, at the path itself -/
theorem deleted_stays_deleted_partial (s : St) (hc : Consistent s) (p : List Name) (r : Reply) (s' : St)
    (h : runOp (.unlink p) s = .ok r s') :
    merge s'.disk p.reverse = .none ∧ liveView s' p = .none ∧ liveView (importFs s'.disk) p = .none := by
  obtain ⟨hm, hc'⟩ := Fbr.Thm.C10.unlink_refines_plain_fs s hc p r s' h
  obtain ⟨h1, h2⟩ := views_of_consistent hc' p
  exact ⟨hm, h1.trans hm, h2.trans hm⟩

/-- `recreated_dir_is_opaque`: when `do_mkdir` makes a directory where the forest had a node (it
    can only be a whiteout node, otherwise EEXIST) the new upper directory carries the opaque
    marker — so by `C10.opaque_cuts` nothing of the lower layers can show through it after a
    restart — and the cache is still valid (so restart = live).  This is the property the first
    `fix:` of this engine (8653268, F6) restored. -/
theorem recreated_dir_is_opaque (s : St) (hc : Consistent s) (pp : Path) (n : Name) (mode : Nat)
    (pm o : MNode) (hpm : s.mem pp = some pm) (hlo : pm.loaded = true) (ho : s.mem (n :: pp) = some o)
    (s' : St) (h : doCreateLike pp n true (mkChildOf .mkdir n (.dir mode 0 0)) s = .ok () s') :
    (s'.disk.nodeAt 0 (n :: pp)).isOpaqueDir = true ∧ Consistent s' := by
  have := doCreateLike_spec pp n true .mkdir (.dir mode 0 0) (newEntry_dir mode) s hc hpm hlo
  rw [h] at this
  exact ⟨this.2.1 rfl ⟨o, ho⟩, this.1⟩

/-- `recreated_dir_is_empty`: whenever `do_mkdir` succeeds (over nothing, over an upper whiteout,
    over a lower whiteout, whatever directories of that name the lower layers have), the new
    directory shows as a directory with the requested mode and NOTHING is visible below it — on
    disk (`merge`), hence also live and after a restart (`C10.view_is_merge_of_consistent`,
    `restart_view_eq_live_of_consistent`). -/
theorem recreated_dir_is_empty (s : St) (hc : Consistent s) (pp : Path) (n : Name) (mode : Nat)
    (pm : MNode) (hpm : s.mem pp = some pm) (hlo : pm.loaded = true)
    (s' : St) (h : doCreateLike pp n true (mkChildOf .mkdir n (.dir mode 0 0)) s = .ok () s') :
    merge s'.disk (n :: pp) = .dir mode 0 ∧ (∀ (c : Name) (q : List Name), merge s'.disk (q ++ c :: n :: pp) = .none) ∧
      Consistent s' := by
  have := doCreateLike_spec pp n true .mkdir (.dir mode 0 0) (newEntry_dir mode) s hc hpm hlo
  rw [h] at this
  obtain ⟨hc', _, hcr, _⟩ := this
  exact ⟨hcr.1, hcr.2, hc'⟩

/-- Copy-up keeps the cache valid: after `copy_node_up(p)` (a file, symlink, special file or
    directory with any chain of missing parent directories) the forest is still exactly what a
    restart would compute, and on success the node is backed by the upper layer. -/
theorem copy_up_keeps_cache (s : St) (hc : Consistent s) (p : Path) :
    (∀ s', copyNodeUp p s = .ok () s' → Consistent s' ∧ UpAt p s') ∧
    (∀ e s', copyNodeUp p s = .err e s' → Consistent s') := by
  have h := copyNodeUp_spec p s hc
  exact ⟨fun s' hs => by rw [hs] at h; exact ⟨h.cons, h.up⟩, fun e s' hs => by rw [hs] at h; exact h.1⟩

/-- `copy_up_preserves`, end to end: after a successful `copy_node_up(p)` of a node that is visible
    at `p` (a file, symlink, special file or directory, in whatever lower layers, with any chain
    of parent directories missing in the upper layer), the overlayfs union of the disk shows at
    `p` AND AT EVERY ANCESTOR DIRECTORY of `p` exactly what it showed before — type, permission
    bits, content, link target (`VNode.dropX` only forgets the `user.x` xattr value, which copy-up
    does not carry over: known finding `C10:copy-up:xattr-lost`).  So a parent directory created
    by `create_upper_dir` has its original mode.  The node is then backed by the upper layer,
    the cache is still valid (hence live view = restart view = union, `C10.view_is_merge_of_consistent`)
    and no lower layer has changed. -/
theorem copy_up_preserves (s : St) (hc : Consistent s) (p : Path) (hvis : merge s.disk p ≠ .none)
    (hmem : ∃ m, s.mem p = some m) (s' : St) (h : copyNodeUp p s = .ok () s') :
    (∀ q, q.isSuffixOf p = true → (merge s'.disk q).dropX = (merge s.disk q).dropX) ∧
      Consistent s' ∧ UpAt p s' ∧ s'.disk.lowers = s.disk.lowers := by
  have hcud := copyNodeUp_spec p s hc
  rw [h] at hcud
  refine ⟨fun q hq => ?_, hcud.cons, hcud.up, hcud.lowers⟩
  obtain ⟨m, hm⟩ := hmem
  obtain ⟨t, ht⟩ := List.isSuffixOf_iff_suffix.1 hq
  obtain ⟨mq, hmq⟩ := mem_suffix_closed hc t q m (by rw [ht]; exact hm)
  cases hsq : specStat s.disk q with
  | none => exact absurd (ht ▸ merge_none_below s.disk hc.roots q hsq t) hvis
  | some stq =>
    obtain ⟨hwq, r, rest, hr, hstq⟩ := not_whiteout_of_spec hc hmq hsq
    have himg := hcud.anc q hq mq r rest hmq hr hwq
    rw [hstq] at himg
    have hvisq := specStat_visible hc.roots hsq
    -- the node at `q` afterwards: in the upper layer
    obtain ⟨m', hm', hmu'⟩ := hcud.up
    obtain ⟨mq', hmq', _, _⟩ := hcud.keep q mq hmq
    have hmqu' := ancestors_inUpper hcud.cons hq hm' hmu' hmq'
    have hup : UpNode q (s'.disk.nodeAt 0 q) s' := ⟨hcud.cons, ⟨mq', hmq', hmqu'⟩, rfl⟩
    rw [merge_eq_specStat s'.disk hcud.cons.roots, merge_eq_specStat s.disk hc.roots, hsq,
      specStat_of_upNode hup (not_whiteout_of_view himg hvisq.1 hvisq.2)]
    exact himg

/-- "files first modified through the overlay show their complete prior content plus the
    modification": after a successful OPEN(flags)+WRITE(off, data) on a file — wherever it lives,
    copied up on the way if need be — the running instance AND a freshly started one show the
    old mode and the old content changed as pwrite(2) changes it (after truncation with O_TRUNC,
    at the end with O_APPEND); only the xattr of a copied-up file is lost (`dropX`). -/
theorem modified_file_keeps_prior_content (s : St) (hc : Consistent s) (p : List Name) (fl : OFlag) (off : Nat)
    (data : List Nat) (r : Reply) (s' : St) (h : runOp (.write p fl off data) s = .ok r s') :
    ∃ w, w.dropX = (liveView s p).dropX ∧ liveView s' p = writeV fl.isTrunc (fl == .wa) off data w ∧
      liveView (importFs s'.disk) p = writeV fl.isTrunc (fl == .wa) off data w := by
  obtain ⟨hc', w, hw, hm⟩ := Fbr.Thm.C10.write_refines_plain_fs s hc p fl off data r s' h
  obtain ⟨h1, h2⟩ := views_of_consistent hc' p
  exact ⟨w, by rw [consistent_view_is_merge s hc]; exact hw, h1.trans hm, h2.trans hm⟩

/-- `copy_up_preserves`, at the level of what is written into the upper layer (the host calls):
    the entry
    `copy_symlink_up` / `copy_special_up` / `copy_regfile_up` create has the type, the permission
    bits, the link target and (after the content write) the content of the lower original; only
    the `user.x` xattr is dropped (known finding `C10:copy-up:xattr-lost`).  Missing parents are
    made by `create_upper_dir` with `mkdir(name, st.st_mode)` — `.dir st.mode 0 0` in
    `createUpperDir`, whose effect on the cache is `copy_up_keeps_cache`. -/
theorem copy_up_writes (st : Node) (id : Nat) (L : Layer) (pp : Path) (n : Name) :
    (∀ t, st = .symlink t → (upperCopy st id) = .symlink t) ∧
    (∀ i m, st = .other i m → (upperCopy st id) = .other id m) ∧
    (∀ i m c x L1 L2, st = .file i m c x → hMk L pp n (upperCopy st id) = .ok L1 →
      hWrite L1 (n :: pp) 0 c = .ok L2 → L2 (n :: pp) = .file id m c 0) := by
  refine ⟨fun t h => by rw [h]; rfl, fun i m h => by rw [h]; rfl, ?_⟩
  intro i m c x L1 L2 hst hmk hwr
  rw [hst] at hmk
  simp only [upperCopy, hMk] at hmk
  split at hmk
  · cases hmk
    simp only [hWrite, Layer.set, if_true] at hwr
    cases hwr
    simp [Layer.updFile, Layer.set, pwrite]
  · cases hmk

/-- `rmdir_clears_upper_whiteouts`, the whole of `empty_node_directory` as `do_rm` reaches it: for
    a loaded directory node `p` that has an upper directory and whose children in the forest are
    all whiteout nodes (what `count_entries_and_whiteout` has established), the loop succeeds
    (no `delete_whiteout` fails), afterwards the upper directory has NO entry left (so the `rmdir`
    that follows cannot answer ENOTEMPTY), the upper layer is unchanged outside that directory and
    still a tree, the lower layers are untouched, and the forest is unchanged outside the
    directory's subtree. -/
theorem rmdir_clears_upper_whiteouts (s : St) (hc : Consistent s) (L : Layer) (hup : s.disk.upper = some L)
    (p : Path) (m : MNode) (hm : s.mem p = some m) (hmu : m.inUpper = true) (hlo : m.loaded = true)
    (r : Real) (rest : List Real) (hr : m.reals = r :: rest) (hd : (s.disk.statReal r).isDir = true)
    (hwh : ∀ c cm, s.mem (c :: p) = some cm → cm.whiteout = true) :
    ∃ s' L', emptyNodeDirectory p s = .ok () s' ∧ s'.disk.upper = some L' ∧ s'.disk.lowers = s.disk.lowers ∧
      (∀ c, L' (c :: p) = .absent) ∧ L' p = L p ∧ (∀ q, p.isSuffixOf q = false → L' q = L q) ∧ TreeOK L' ∧
      (∀ q, p.isSuffixOf q = false → s'.mem q = s.mem q) := by
  obtain ⟨t, Lt, hrun, hi, hempty⟩ := emptyNodeDirectory_spec hc hup hm hmu hlo hr hd hwh
  exact ⟨t, Lt, hrun, by rw [hi.disk]; rfl, by rw [hi.disk]; rfl, fun c => Node.eq_absent (hempty c), hi.self, hi.out,
    hi.tree, hi.memOut⟩

/-- `rmdir_clears_upper_whiteouts`, end to end: RMDIR of a directory that is empty in the view
    never leaves the cache invalid, and when it succeeds the directory is gone for good — see
    `deleted_stays_deleted`.  One step of the loop at the level of the host call: -/
theorem rmdir_clears_upper_whiteouts_step (L : Layer) (p : Path) (c : Name) (h : L (c :: p) = .whiteout) :
    ∃ L', hDeleteWhiteout L p c = .ok L' ∧ L' (c :: p) = .absent ∧ ∀ q, q ≠ c :: p → L' q = L q := by
  refine ⟨L.set (c :: p) .absent, ?_, ?_, ?_⟩
  · simp [hDeleteWhiteout, h, hUnlink]
  · simp [Layer.set]
  · intro q hq; simp [Layer.set, hq]

/-! non-vacuity: the F6 history on a concrete disk (lower: `a/` with `a/b`; empty upper):
    `unlink a/b; rmdir a; mkdir a` leaves an OPAQUE `a` in the upper layer and nothing shows
    through, live and on disk.  (`decide +kernel`: only the kernel runs the model; the elaborator's
    own evaluation of the same terms costs ten times as much.) -/
section Examples

def f6Upper : Layer := fun q => if q = [] then .dir 0o755 0 0 else .absent
def f6Lower : Layer := fun q =>
  if q = [] then .dir 0o755 0 0 else if q = [0] then .dir 0o755 0 0
  else if q = [1, 0] then .file 1 0o644 [7] 0 else .absent
def f6Disk : Disk := { upper := some f6Upper, lowers := [f6Lower] }
def f6Ops : List Op := [.unlink [0, 1], .rmdir [0], .mkdir [0] 0o700]

example : merge f6Disk [1, 0] = .file 0o644 [7] 0 := by decide
example : (run (importFs f6Disk) f6Ops).disk.nodeAt 0 [0] = .dir 0o700 1 0 := by decide +kernel
example : merge (run (importFs f6Disk) f6Ops).disk [1, 0] = .none := by decide +kernel
example : liveView (run (importFs f6Disk) f6Ops) [0, 1] = .none := by decide +kernel
example : liveView (run (importFs f6Disk) f6Ops) [0] = .dir 0o700 0 := by decide +kernel

/-! link (both copy-ups) and rmdir with upper whiteouts to clear, on the same disk: `link a/b c`
    copies `a/b` up (creating the upper `a`), then a write through the new name is seen through
    the old one; `unlink a/b; unlink c; rmdir a` goes through the window in which the cache is
    invalid (the upper whiteout `a/b` is deleted before `a` is removed) and ends with `a` gone,
    live and on disk. -/
def lnOps : List Op := [.link [0, 1] [2], .write [2] .w 0 [9]]
def rmOps : List Op := [.link [0, 1] [2], .unlink [0, 1], .unlink [2], .rmdir [0]]

example : liveView (run (importFs f6Disk) lnOps) [2] = .file 0o644 [9] 0 := by decide +kernel
example : liveView (run (importFs f6Disk) lnOps) [0, 1] = .file 0o644 [9] 0 := by decide +kernel
example : merge (run (importFs f6Disk) lnOps).disk [1, 0] = .file 0o644 [9] 0 := by decide +kernel
example : (run (importFs f6Disk) rmOps).disk.nodeAt 0 [0] = .whiteout := by decide +kernel
example : liveView (run (importFs f6Disk) rmOps) [0] = .none := by decide +kernel
example : merge (run (importFs f6Disk) rmOps).disk [1, 0] = .none := by decide +kernel
example : liveView (importFs (run (importFs f6Disk) rmOps).disk) [0, 1] = .none := by decide +kernel

end Examples

end Fbr.Thm.C11
