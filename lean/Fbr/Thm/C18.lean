/-
  C18 — a size-sealed export never lets a client change a file's size.

  Model: `Fbr.PtSeal` (requests OPEN / CREATE / WRITE / SETATTR / FALLOCATE / RELEASE of the
  passthrough file system with `seal_size`, over a reference host with the laws "pwrite on an
  O_APPEND descriptor writes at end-of-file", "open(O_TRUNC) truncates", the fallocate mode
  table, ftruncate).  Specification: `Fbr.PtSealSpec` (`Beyond`, `Refused`, `Resolves`).
  Helper lemmas: `Fbr.Lemmas.PtSeal`, `Fbr.Lemmas.PtSealIff`.  PROPERTY THEOREMS ONLY here.

  The three defects recorded for this property (WRITE with O_APPEND, OPEN with O_TRUNC, CREATE
  with O_TRUNC on an existing file) and the descriptor closed by a refused WRITE were repaired in
  /repo (`fix:` commits 8e59410, 4f1b07b, 2186906, 098d060); the model follows the repaired code,
  so the statements below are at full strength.  `*_would_break_*` theorems keep the witnesses:
  they show on the same reference host that the pre-fix behaviour changed sizes.
-/
import Fbr.Lemmas.PtSealIff

namespace Fbr.Thm.C18
open Fbr.PtSeal Fbr.PtSealSpec Fbr.Lemmas.PtSeal

/-- **Sealed sizes are invariant.**  With `seal_size` on, for every host, every handle table,
    every history of requests (any flag words, offsets, lengths, fallocate modes, with or without
    no_open) every file that exists keeps its size — in particular every pre-existing regular
    file ends with the size it had. -/
theorem sealed_sizes_invariant (cfg : Cfg) (hs : cfg.sealed = true) (st : St) (history : List Req)
    (f n : Nat) (hf : st.host.size f = some n) :
    (run cfg st history).host.size f = some n := by
  induction history generalizing st with
  | nil => exact hf
  | cons r rs ih => exact ih _ (step_keeps cfg hs st r f n hf)

/-- …and the same after every single request of the history (the harness's direct oracle). -/
theorem sealed_sizes_invariant_every_prefix (cfg : Cfg) (hs : cfg.sealed = true) (st : St)
    (history : List Req) (k : Nat) (f n : Nat) (hf : st.host.size f = some n) :
    (run cfg st (history.take k)).host.size f = some n :=
  sealed_sizes_invariant cfg hs st (history.take k) f n hf

/-- **Refused iff it would change a size.**  For a request that names an existing file/handle, the
    sealed file system turns it down before any size-affecting host call exactly when the request
    reaches beyond the current end of the file (WRITE from the effective start — end-of-file for
    a descriptor in append mode — , FALLOCATE allocate/punch/zero past the end), is a size-setting
    request (SETATTR size, truncating OPEN, truncating CREATE of an existing file, FALLOCATE
    collapse/insert) or carries an invalid fallocate mode. -/
theorem refused_iff_would_change (cfg : Cfg) (st : St) (r : Req) (hok : HostOk st.host)
    (hres : Resolves cfg st r) :
    Refused (step { cfg with sealed := true } st r) ↔ Beyond cfg st r :=
  (step_verdict cfg st r hok hres).refused_iff

/-- **Within the size, sealing is invisible.**  A request that does not reach beyond the current
    size (and sets no size) gets the same answer, leaves the same host sizes and handle table,
    and makes the same host calls with sealing as without — apart from the `fstat`/`F_GETFL`
    probes the seal check itself needs. -/
theorem within_size_unaffected (cfg : Cfg) (st : St) (r : Req) (hok : HostOk st.host)
    (hres : Resolves cfg st r) (hb : ¬ Beyond cfg st r) :
    Same (step { cfg with sealed := true } st r) (step { cfg with sealed := false } st r) :=
  (step_verdict cfg st r hok hres).same hb

/-- **No single request changes an existing size when sealed** — a refused one in particular (so
    "refused" really protects the size). -/
theorem refused_changes_nothing (cfg : Cfg) (hs : cfg.sealed = true) (st : St) (r : Req) (f n : Nat)
    (hf : st.host.size f = some n) : (step cfg st r).st.host.size f = some n :=
  step_keeps cfg hs st r f n hf

/-! ### the recorded defects, as facts about the same reference host

  Before the fixes the seal check of WRITE compared `offset + size` with the file size even when
  the descriptor was in append mode, and OPEN/CREATE passed `O_TRUNC` to the host.  The host
  calls the old code made change the size on the reference host: -/

/-- witness of F10/WRITE: a 100-byte file, `pwrite(fd, 10 bytes, offset 0)` on an `O_APPEND`
    descriptor — the old check (0 + 10 ≤ 100) passed, the host appends: 110 bytes -/
theorem append_write_would_break_seal :
    let H : Host := { size := fun f => if f = 0 then some 100 else none }
    sealCheckWrite 100 0 10 = .ok () ∧
    (hostPwrite H 0 { canWrite := true, append := true, direct := false } 10 0).1.size 0 = some 110 :=
  ⟨rfl, rfl⟩

/-- …and the repaired check, which starts at end-of-file for such a descriptor, refuses it -/
theorem append_write_now_refused : sealCheckWrite 100 100 10 = .error EPERM := rfl

/-- witness of F10/OPEN,CREATE: `openat(.., O_RDONLY | O_TRUNC)` truncates a 100-byte file -/
theorem trunc_open_would_break_seal :
    let H : Host := { size := fun f => if f = 0 then some 100 else none }
    (hostOpen H 0 { acc := 0, trunc := true }).1.size 0 = some 0 :=
  rfl

def exHost : Host := { size := fun f => if f = 0 then some 100 else if f = 1 then some 4096 else none }

def exSt : St :=
  { host := exHost, next := 2,
    handles := fun h => if h = 1 then some { file := 0, fd := fdOf rdwr, stored := rdwr } else none }

example : HostOk exHost := by
  intro f n h
  simp only [exHost] at h
  split at h
  · cases h; decide
  · split at h
    · cases h; decide
    · cases h

/-- an in-range WRITE resolves, is not beyond, and is performed (10 bytes written) -/
example : Resolves {} exSt (.write 0 1 rdwr 10 90) ∧ ¬ Beyond {} exSt (.write 0 1 rdwr 10 90) ∧
    (step {} exSt (.write 0 1 rdwr 10 90)).ret = .ok 10 := by
  refine ⟨⟨rfl, rfl⟩, ?_, rfl⟩
  rintro ⟨hd, sz, h1, h2, h3⟩
  have : sz = 100 := by simpa [exSt, exHost] using h2.symm
  subst this
  have : hd = { file := 0, fd := fdOf rdwr, stored := rdwr } := by
    simpa [resolve, exSt] using h1.symm
  subst this
  revert h3; decide

/-- the same WRITE with O_APPEND in its flag word is beyond (it would start at byte 100) and is
    refused with EPERM; a history of such requests leaves the size at 100 -/
example : Beyond {} exSt (.write 0 1 { rdwr with append := true } 10 0) ∧
    (step {} exSt (.write 0 1 { rdwr with append := true } 10 0)).ret = .error EPERM ∧
    (run {} exSt [.write 0 1 { rdwr with append := true } 10 0, .opn 0 { acc := 0, trunc := true },
                   .create 1 { acc := 1, trunc := true }, .fallocate 0 1 0 96 8,
                   .setattr 1 none true 0 false]).host.size 0 = some 100 := by
  refine ⟨⟨{ file := 0, fd := fdOf rdwr, stored := rdwr }, 100, rfl, rfl, by decide⟩, rfl, rfl⟩

end Fbr.Thm.C18
