/-
  C05 — passthrough requests have the effect and result of the same host system call.
  PROPERTY THEOREMS ONLY (helper lemmas: Fbr.Lemmas.PtHost*, Fbr.Lemmas.HostRef*).  Model: Fbr.PtHost
  (transducer request ↦ host calls ↦ reply over Fbr.Host); the host is a parameter `H` with laws
  `HostLaws H`.
-/
import Fbr.Lemmas.PtHostCreds
import Fbr.Lemmas.PtHostCalls
import Fbr.Lemmas.PtHostBits
import Fbr.Lemmas.PtHostDirect
import Fbr.Lemmas.PtHostSetattr
import Fbr.Lemmas.PtHostNames
import Fbr.Lemmas.HostRef
import Fbr.Lemmas.PtHostOwner
import Fbr.Lemmas.HostRefOwner
import Fbr.Lemmas.HostRefDemo

namespace Fbr.Thm.C05
open Fbr.Host Fbr.PtHost

variable {σ : Type}

/-- **creds_restored.**  For every host satisfying the laws, every configuration, every state of
    the inode / handle tables and every request: if the serving thread starts as the library
    expects (euid = egid = 0, effective CAP_FSETID = permitted), then after the request — on every
    path: `setresgid` ok then `setresuid` fails, the system call fails, the lookup after a create
    fails, EBADF before any call, … — its euid, egid and CAP_FSETID are what they were. -/
theorem creds_restored (H : HostOps σ) [HostLaws H] (cfg : Cfg) (s : PtState) (r : Req) (h : σ)
    (hroot : (H.creds h).Root) :
    H.creds (fin H (step cfg s r) h) = H.creds h :=
  (neutralM_handle cfg r).root s h hroot

/-- **creds_restored** lifted to every history, by induction on the request list -/
theorem creds_restored_history (H : HostOps σ) [HostLaws H] (cfg : Cfg) (rs : List Req) (s : PtState) (h : σ)
    (hroot : (H.creds h).Root) :
    H.creds (runHistory H cfg s h rs).2 = H.creds h := by
  induction rs generalizing s h with
  | nil => rfl
  | cons r rs ih =>
    have h1 := creds_restored H cfg s r h hroot
    simp only [runHistory]
    rw [ih _ _ (by rw [h1]; exact hroot), h1]

/-- inside every `set_creds(uid, gid)` scope entered from the root state the thread runs with the
    caller's effective ids (the creating call of mkdir / mknod / symlink / create is the body of such
    a scope, see `creating_calls_are_scoped`) -/
theorem scope_runs_as_caller (H : HostOps σ) [HostLaws H] (c0 : Creds) (hroot : c0.Root) (uid gid : Nat) :
    HoareM H (· = c0) (setCreds uid gid)
      (fun r c => (∃ g, r = .ok g) → c.euid = uid ∧ c.egid = gid) := by
  refine hoareM_conseq (hoareM_setCreds c0 (.of_root hroot) uid gid) ?_
  rintro _ c h ⟨g, rfl⟩
  rw [h.2]; exact inScope_ids c0 (.of_root hroot) uid gid

/-- the creating system call of each creating request is, by definition of the model, the body of
    `withCreds ctx.uid ctx.gid` (the `set_creds` scope of `scope_runs_as_caller`) -/
theorem creating_calls_are_scoped (cfg : Cfg) (ctx : Ctx) (p : Nat) (n t : Name) (m r u f ff : Nat) :
    mkdir cfg ctx p n m u = (do
      validateName cfg n
      let d ← inodeData p
      let file ← getFile d
      withCreds ctx.uid ctx.gid (unitCall (.mkdirat file n (clr m u)))
      let e ← doLookup cfg p n
      pure (.entry e)) ∧
    mknod cfg ctx p n m r u = (do
      validateName cfg n
      let d ← inodeData p
      let file ← getFile d
      withCreds ctx.uid ctx.gid (unitCall (.mknodat file n (clr m u) r))
      let e ← doLookup cfg p n
      pure (.entry e)) ∧
    symlink cfg ctx t p n = (do
      validateName cfg n
      let d ← inodeData p
      let file ← getFile d
      withCreds ctx.uid ctx.gid (unitCall (.symlinkat t file n))
      let e ← doLookup cfg p n
      pure (.entry e)) ∧
    create cfg ctx p n f m u ff = (do
      validateName cfg n
      let d ← inodeData p
      let dirFile ← getFile d
      let newFile ← withCreds ctx.uid ctx.gid
        (createFileExcl dirFile n (writebackOpenFlags cfg.writeback f) (clr m (u &&& 0o777)))
      let entry ← doLookup cfg p n
      let file ← (match newFile with
        | some fd => pure fd
        | none => createOpenExisting cfg ctx entry f ff : M Fd)
      let h ← createHandle cfg entry.inode file f
      pure (.created entry h (createOpts cfg.cache))) :=
  ⟨rfl, rfl, rfl, rfl⟩

/-- **created_objects_owned_by_caller.**  For every host satisfying `HostLaws` and the two
    creation laws `OwnerLaws` ("only mkdirat / mknodat / symlinkat / openat(O_CREAT) bring an object
    into existence" and "a new object carries the creating thread's effective uid, and its
    effective gid or — set-gid directory — the directory's group"; both proved of the reference FS,
    `Fbr.Host.Ref.ownerLaws`), every configuration, every state of the tables and every request
    made for a caller (`r.caller = some ctx`: MKDIR, MKNOD, SYMLINK, CREATE), served by a thread in
    the root state: **every object that comes into existence at any step of the request** — whatever
    the host answers along the way, on every path — is, at that moment, owned by `ctx.uid`, with
    group `ctx.gid` (or the group of the set-gid directory it was created in).  Trace level
    (`NewOwned` = at every call of the run, in the state it is issued in); the proof places each
    creating call inside the `set_creds` scope entered from the root state, where the effective ids
    are the caller's (`steps_withCreds`, `inScope_ids`), and shows that no other call of the request
    can create anything. -/
theorem created_objects_owned_by_caller (H : HostOps σ) [HostLaws H] [OwnerLaws H] (cfg : Cfg) (pt : PtState) (r : Req)
    (ctx : Ctx) (hr : r.caller = some ctx) (h : σ) (hroot : (H.creds h).Root) :
    NewOwned H ctx.uid ctx.gid (step cfg pt r) h := by
  have := reqOwned cfg pt r h hroot
  unfold ReqOwned at this
  rw [hr] at this
  exact this

/-- …and every other request (LOOKUP, OPEN, LINK, RENAME, SETATTR, WRITE, …) brings no object into
    existence at any step -/
theorem other_requests_create_nothing (H : HostOps σ) [HostLaws H] [OwnerLaws H] (cfg : Cfg) (pt : PtState) (r : Req)
    (hr : r.caller = none) (h : σ) (hroot : (H.creds h).Root) :
    NoNew H (step cfg pt r) h := by
  have := reqOwned cfg pt r h hroot
  unfold ReqOwned at this
  rw [hr] at this
  exact this

/-- **created_objects_owned_by_caller** over every history: started in the root state, request
    after request (the credentials are the root's again after each, `creds_restored`), whatever is
    created during a request made for a caller is that caller's, and nothing is created during any
    other request (`HistOwned` = `ReqOwned` at every request of the history) -/
theorem created_objects_owned_by_caller_history (H : HostOps σ) [HostLaws H] [OwnerLaws H] (cfg : Cfg) (rs : List Req)
    (pt : PtState) (h : σ) (hroot : (H.creds h).Root) : HistOwned H cfg pt h rs :=
  histOwned cfg rs pt h hroot

/-- **special_files_never_opened.**  Whatever the host answers, every open without `O_PATH` that
    any request issues is either a re-open (through /proc or by file handle) of an inode whose
    recorded type is `S_IFREG` or `S_IFDIR`, or the `O_CREAT|O_EXCL` creation of a new regular file;
    every other `openat` carries `O_PATH|O_NOFOLLOW` (a lookup that never follows a final symlink). -/
theorem special_files_never_opened (cfg : Cfg) (s : PtState) (r : Req) :
    (step cfg s r).OnlyCalls IoSafe :=
  (ioSafe_handle cfg r).h s

/-- an inode recorded as fifo / symlink / device / socket: `open_inode` answers EBADF without any
    host call -/
theorem special_inode_open_is_ebadf (cfg : Cfg) (s : PtState) (d : InodeData) (inode flags : Nat)
    (hd : s.get inode = some d) (hm : isSafeInode d.mode = false) :
    openInode cfg inode flags s = .pure (.error EBADF, s) := by
  simp [openInode, bind_def, M.bind', M.get, M.ofOption, hd, M.pure', Prog.bind, hm, M.throw]

/-- **open_flag_algebra (1)**: without writeback caching the flags are untouched -/
theorem open_flags_no_writeback (flags : Nat) : writebackOpenFlags false flags = flags := by
  simp [writebackOpenFlags]

/-- **open_flag_algebra (2)**: with writeback caching, for *every* flag word: O_WRONLY becomes
    O_RDWR, any other access mode is kept, O_APPEND is cleared, every other bit is kept -/
theorem open_flags_writeback (flags : Nat) :
    ((flags &&& O_ACCMODE) = O_WRONLY →
        (writebackOpenFlags true flags).testBit 0 = false ∧ (writebackOpenFlags true flags).testBit 1 = true) ∧
    ((flags &&& O_ACCMODE) ≠ O_WRONLY →
        (writebackOpenFlags true flags).testBit 0 = flags.testBit 0 ∧
        (writebackOpenFlags true flags).testBit 1 = flags.testBit 1) ∧
    (writebackOpenFlags true flags).testBit 10 = false ∧
    (∀ i, 2 ≤ i → i ≠ 10 → (writebackOpenFlags true flags).testBit i = flags.testBit i) := by
  refine ⟨fun hw => ?_, fun hw => ?_, ?_, fun i h2 hne => ?_⟩
  · rw [writeback_testBit, writeback_testBit]; simp [hw]
  · rw [writeback_testBit, writeback_testBit]; simp [hw]
  · rw [writeback_testBit]; rfl
  · rw [writeback_testBit, if_neg hne, if_neg (by omega)]

/-- **open_flag_algebra (3)**: `open_inode` always sets O_CLOEXEC; it clears O_DIRECT exactly when
    direct I/O is not allowed; otherwise it passes the writeback flags on -/
theorem open_inode_flags (cfg : Cfg) (flags : Nat) :
    (openInodeFlags cfg flags).testBit 19 = true ∧
    (cfg.allowDirectIo = false → (openInodeFlags cfg flags).testBit 14 = false) ∧
    (∀ i, i ≠ 19 → (i ≠ 14 ∨ cfg.allowDirectIo = true) →
        (openInodeFlags cfg flags).testBit i = (writebackOpenFlags cfg.writeback flags).testBit i) := by
  refine ⟨by rw [openInodeFlags_testBit]; rfl, fun ha => ?_, fun i h19 hor => ?_⟩
  · rw [openInodeFlags_testBit, if_neg (by decide)]
    split
    · rfl
    · rename_i hnd
      -- the client did not ask for O_DIRECT: the writeback step does not add it
      have hf : flags.testBit 14 = false := by simpa [ha] using hnd
      cases hw : cfg.writeback
      · rw [open_flags_no_writeback]; exact hf
      · rw [(open_flags_writeback flags).2.2.2 14 (by decide) (by decide)]; exact hf
  · rw [openInodeFlags_testBit, if_neg h19, if_neg]
    rintro ⟨h14, ha, _⟩
    rcases hor with h | h
    · exact h h14
    · rw [h] at ha; cases ha

/-- **open_flag_algebra (4)**: the re-open through /proc strips exactly O_NOFOLLOW and O_CREAT -/
theorem reopen_strips (flags : Nat) :
    (reopenFlags flags).testBit 17 = false ∧ (reopenFlags flags).testBit 6 = false ∧
    ∀ i, i ≠ 17 → i ≠ 6 → (reopenFlags flags).testBit i = flags.testBit i := by
  have h1 : O_NOFOLLOW = 2 ^ 17 := by decide
  have h2 : O_CREAT = 2 ^ 6 := by decide
  unfold reopenFlags
  rw [h1, h2]
  refine ⟨?_, clr_pow_self _ 6, ?_⟩
  · rw [clr_pow_other _ 6 17 (by decide)]; exact clr_pow_self _ 17
  · intro i a b
    rw [clr_pow_other _ 6 i b, clr_pow_other _ 17 i a]

/-- **setattr_decomposition (times)**: `*_NOW` takes precedence over an explicit time, an absent
    time is `UTIME_OMIT` -/
theorem setattr_times_precedence (valid a an m mn : Nat) :
    (setattrTimes valid a an m mn).1 =
      (if has valid FATTR_ATIME_NOW then (0, UTIME_NOW) else if has valid FATTR_ATIME then (a, an) else (0, UTIME_OMIT)) ∧
    (setattrTimes valid a an m mn).2 =
      (if has valid FATTR_MTIME_NOW then (0, UTIME_NOW) else if has valid FATTR_MTIME then (m, mn) else (0, UTIME_OMIT)) :=
  ⟨rfl, rfl⟩

/-- **setattr_decomposition.**  For every `valid` set and all argument values: when every call
    succeeds, SETATTR without a handle on an inode held by descriptor `f` (regular file or
    directory, kill-priv off) issues exactly: fchmodat iff MODE; one fchownat iff UID or GID, with
    -1 (`u32::MAX`) for the absent id; re-open + ftruncate iff SIZE; utimensat iff ATIME or MTIME
    with the `*_NOW` precedence of `setattr_times_precedence`; then the final stat — in this order. -/
theorem setattr_decomposition (cfg : Cfg) (s : PtState) (d : InodeData) (i : Nat) (f : Fd) (st : Stat)
    (valid mode uid gid size a an m mn : Nat)
    (hd : s.get i = some d) (hf : d.handle = .file f) (hsafe : isSafeInode d.mode = true)
    (hk : cfg.killprivV2 = false) :
    callsOf (okAns st) (setattr cfg i none valid mode uid gid size a an m mn) s =
      setattrPlan cfg f d.mode valid mode uid gid size a an m mn := by
  unfold callsOf setattr setattrPlan setattrMode setattrOwner setattrUtimens
  rw [runFn_bind_ok (runFn_inodeData hd), runFn_bind_ok (runFn_getFile hf s),
    runFn_bind_ok (runFn_setattrData cfg i f s),
    runFn_bind_ok (runFn_optCall (has valid FATTR_MODE) _ s rfl),
    runFn_bind_ok (runFn_optCall (has valid (FATTR_UID ||| FATTR_GID)) _ s rfl),
    runFn_bind_ok (runFn_setattrSize st hd hf hsafe hk valid size),
    runFn_bind_ok (runFn_optCall (has valid (FATTR_ATIME ||| FATTR_MTIME)) _ s rfl), runFn_doGetattr st hd hf]
  simp only [List.nil_append, List.append_assoc]

/-- **pt_refines_direct (calls).**  For every configuration, table state and request, whatever the
    host answers: every call the passthrough issues is either tree-neutral (`HCall.readOnly`: O_PATH
    lookups, stat, readlink, reads, non-truncating re-opens, F_SETFL, fsync, credential switches) or
    *the* host call of the request's one-line specification `DirectCall` — mkdir ↦
    `mkdirat(parent, name, mode & !umask)`, mknod ↦ `mknodat(.., mode & !umask, rdev)`, symlink ↦
    `symlinkat(target, parent, name)`, unlink ↦ `unlinkat(.., 0)`, rmdir ↦ `unlinkat(.., AT_REMOVEDIR)`,
    rename ↦ `renameat2(.., flags)`, link ↦ `linkat(fd, "", newparent, name, AT_EMPTY_PATH)`, create ↦
    `openat(.., mode & !(umask & 0o777))` (+ the open of an existing file), setattr ↦ the calls of
    `setattr_decomposition`, write ↦ `pwritev(fd, data, offset)`, fallocate, setxattr, removexattr; the
    read-only requests have no direct call at all. -/
theorem pt_refines_direct (cfg : Cfg) (s : PtState) (r : Req) : (step cfg s r).OnlyCalls (Allowed r) :=
  (allowed_handle cfg r).h s

/-- **pt_refines_direct (tree, read-only requests).**  For every host satisfying the laws: lookup,
    forget, getattr, readlink, flush, release(dir), lseek, statfs, getxattr and listxattr leave every
    host object exactly as it was — the final host tree is that of "no call at all". -/
theorem readonly_requests_leave_tree (H : HostOps σ) [HostLaws H] (cfg : Cfg) (s : PtState) (r : Req)
    (hr : r.isReadOnly = true) (h : σ) (o : Obj) :
    H.view (fin H (step cfg s r) h) o = H.view h o :=
  view_of_onlyReadOnly H _ (readOnly_requests_calls cfg s r hr) h o

/-- **pt_refines_direct (exact, unlink / rmdir).**  On an inode held by an O_PATH descriptor the
    request *is* the single host call: same effect (whatever `unlinkat` does to the host), same
    result (success, or the call's errno). -/
theorem unlink_is_the_direct_call (cfg : Cfg) (s : PtState) (p : Nat) (n : Name) (d : InodeData) (f : Fd)
    (hd : s.get p = some d) (hf : d.handle = .file f) (hv : validatePathComponent n = none) :
    step cfg s (.unlink p n) =
      .call (.unlinkat f n 0) (fun a => .pure ((match a with | .ok => .ok .unit | .err e => .error e | _ => .error EIO), s)) ∧
    step cfg s (.rmdir p n) =
      .call (.unlinkat f n AT_REMOVEDIR) (fun a => .pure ((match a with | .ok => .ok .unit | .err e => .error e | _ => .error EIO), s)) := by
  have hval := validateName_ok cfg n hv s
  constructor
  · simp only [step, handle, unlink]
    rw [bind_ok hval, doUnlink_file hd hf n 0]; rfl
  · simp only [step, handle, rmdir]
    rw [bind_ok hval, doUnlink_file hd hf n AT_REMOVEDIR]; rfl

/-- the laws are satisfiable: the reference FS is an instance -/
example (sent : Obj → Bool) (root : Obj) : HostLaws (Ref.ops sent root) := inferInstance

/-- the creation laws are satisfiable: the reference FS is an instance -/
example (sent : Obj → Bool) (root : Obj) : OwnerLaws (Ref.ops sent root) := inferInstance

/-- ownership is not vacuous: on the demo host of C06 with a world-writable export root, MKDIR "b"
    for uid 1000 / gid 1001 succeeds and the new directory (object 5) belongs to 1000:1001, while
    the serving thread is root again afterwards -/
example :
    let h0 := (Ref.stepCore Ref.demo (.fchmodatProc 0 0o777 0)).2
    let p := step {} (initState (.file 0) 2 16877) (.mkdir ⟨1000, 1001⟩ 1 [98] 0o755 0o022)
    (h0.nodes 5).isNone = true ∧
    ((fin (Ref.ops Ref.demoSent 2) p h0).nodes 5).map (fun n => (n.uid, n.gid, n.kind)) = some (1000, 1001, .dir) ∧
    (fin (Ref.ops Ref.demoSent 2) p h0).creds.euid = 0 := by decide

/-- a request that really switches credentials: MKDIR by uid 1000 / gid 1001 issues, for any
    answers, `setresgid(1001)` first and `setresuid(1000)` second (so `creds_restored` is about
    programs that do change the credentials in between) -/
example : ((step {} (initState (.file 1) 1 16877) (.mkdir ⟨1000, 1001⟩ 1 [97] 0o755 0o022)).runFn (fun _ => .ok)).2 =
    [.setresgid 1001, .setresuid 1000, .mkdirat 1 [97] 0o755, .setresgid 0, .setresuid 0,
     .openat 1 [97] (O_NOFOLLOW ||| O_CLOEXEC ||| O_PATH) 0] := by decide

/-- the early-return path "setresgid ok, setresuid fails": the gid guard is dropped, nothing else
    is called, EPERM is returned, the tables are untouched -/
example :
    let r := (step {} (initState (.file 1) 1 16877) (.mkdir ⟨1000, 1001⟩ 1 [97] 0o755 0o022)).runFn
      (fun c => match c with | .setresuid 1000 => .err EPERM | _ => .ok)
    r.2 = [.setresgid 1001, .setresuid 1000, .setresgid 0] ∧ r.1.2 = initState (.file 1) 1 16877 ∧
    (match r.1.1 with | .error e => e | .ok _ => 0) = EPERM := by decide

/-- flag algebra is not vacuous: O_WRONLY|O_APPEND|O_NOFOLLOW|O_CREAT under writeback, no direct I/O -/
example : reopenFlags (openInodeFlags { writeback := true, allowDirectIo := false } (O_WRONLY ||| O_APPEND ||| O_NOFOLLOW ||| O_CREAT ||| O_DIRECT)) =
    (O_RDWR ||| O_CLOEXEC) := by decide

/-- a fifo inode is never re-opened -/
example : openInode {} 2 O_RDONLY ((initState (.file 1) 1 16877).insert { inode := 2, handle := .file 5, id := 7, refcount := 1, mode := S_IFIFO ||| 0o644 }) =
    .pure (.error EBADF, (initState (.file 1) 1 16877).insert { inode := 2, handle := .file 5, id := 7, refcount := 1, mode := S_IFIFO ||| 0o644 }) :=
  special_inode_open_is_ebadf _ _ { inode := 2, handle := .file 5, id := 7, refcount := 1, mode := S_IFIFO ||| 0o644 } _ _ (by decide) (by decide)

end Fbr.Thm.C05
