/-
  C13 — Wire structures and constants match the kernel's FUSE ABI.

  PROPERTY THEOREMS ONLY.  Facts: `Fbr.Gen.AbiRust` (regenerated from /repo/src/abi/*.rs by the
  syn translator) and `Fbr.Gen.AbiKernel` (regenerated from /usr/include/linux/fuse.h by the C
  compiler).  Specification: `Fbr.AbiSpec` (hand-written pairing) and `Fbr.Abi.layout`
  (`repr(C)`).  The theorems about the tables quantify over a finite generated table and are
  decided completely by kernel evaluation; `opcode_from_total` is over all naturals and the
  conversion theorems over all attribute, stat and request values.

  What the kernel is slow at in these tables is `String.decEq` on literals.  So before `decide +kernel` a
  goal is rewritten to compare names by their bytes (`TableEval.lookup_key`, `TableEval.key_beq`), and
  the `*_all_covered` sweeps are decided in one pass by `TableEval.coverB`, whose answer does not depend
  on the order of the tables (`TableEval.coverB_iff`); the reasons are at the head of `Fbr.Lemmas.TableEval`.
-/
import Fbr.AbiSpec
import Fbr.Conv
import Fbr.Gen.AbiRust
import Fbr.Gen.AbiKernel
import Fbr.Lemmas.TableEval

namespace Fbr.Thm.C13
open Fbr Fbr.Abi Fbr.AbiSpec Fbr.Gen

/-- Every Rust wire structure has the kernel's size, field order, offsets and widths
    (in the pairing mode declared in `AbiSpec`). -/
theorem structs_match : ∀ p ∈ structPairs, pairOk rustStructs kernelStructs p = true := by
  simp only [pairOk, ← TableEval.key_beq]; decide +kernel

/-- No `#[repr(C)]` structure of the ABI files escapes the comparison. -/
theorem structs_all_covered :
    ∀ s ∈ rustStructs, s.name ∈ structPairs.map (·.rust)
      ∨ (Mode.concat s.name) ∈ structPairs.map (·.mode)
      ∨ s.name ∈ structsWithoutCounterpart := by
  have h : TableEval.coverB (fun n => (structPairs.map (·.mode)).contains (Mode.concat n) || structsWithoutCounterpart.contains n
        || (structPairs.map (·.rust)).contains n)
      (rustStructs.map (·.name)) (structPairs.map (·.rust)) = true := by decide +kernel
  intro s hs
  have := (TableEval.coverB_iff fun n hn => by simp [hn]).1 h _ (List.mem_map_of_mem hs)
  simp only [Bool.or_eq_true, List.contains_iff_mem] at this
  exact this.elim .inr .inl

/-- The translator understood every constant expression, bitflags member and match arm. -/
theorem nothing_unknown :
    rustConstsUnknown = [] ∧ rustBitflagsUnknown = [] ∧ opcodeFromUnknownArms = [] := by
  decide +kernel

/-- Every paired constant has the kernel's numeric value. -/
theorem consts_match :
    ∀ p ∈ constPairs, (rustConsts.lookup p.1).isSome = true
      ∧ rustConsts.lookup p.1 = kernelMacros.lookup p.2 := by
  simp only [TableEval.lookup_key]; decide +kernel

theorem consts_all_covered :
    ∀ c ∈ rustConsts, c.1 ∈ constPairs.map (·.1) ∨ c.1 ∈ constsWithoutCounterpart :=
  TableEval.covered (by decide +kernel)

def bitflagValue (ty member : String) : Option Nat :=
  match rustBitflags.find? (·.1 == ty) with
  | some (_, _, ms) => ms.lookup member
  | none => none

/-- Every bitflags member has the value of the kernel macro paired with it. -/
theorem bitflags_match :
    ∀ p ∈ bitflagPairs, (bitflagValue p.1 p.2.1).isSome = true
      ∧ bitflagValue p.1 p.2.1 = kernelMacros.lookup p.2.2 := by
  simp only [bitflagValue, TableEval.lookup_key, ← TableEval.key_beq]; decide +kernel

theorem bitflags_all_covered :
    ∀ b ∈ rustBitflags, ∀ m ∈ b.2.2,
      (b.1, m.1) ∈ bitflagPairs.map (fun p => (p.1, p.2.1)) ∨ (b.1, m.1) ∈ bitflagsWithoutCounterpart := by
  have h : TableEval.coverB
      (fun c => (bitflagPairs.map (fun p => (p.1, p.2.1))).contains c || bitflagsWithoutCounterpart.contains c)
      (rustBitflags.flatMap fun b => b.2.2.map fun m => (b.1, m.1)) (bitflagPairs.map (fun p => (p.1, p.2.1))) = true := by
    decide +kernel
  intro b hb m hm
  simpa only [Bool.or_eq_true, List.contains_iff_mem] using
    (TableEval.coverB_iff fun c hc => by simp [hc]).1 h _ (List.mem_flatMap.2 ⟨b, hb, List.mem_map.2 ⟨m, hm, rfl⟩⟩)

def enumValue (en variant : String) : Option Nat :=
  match rustEnums.find? (·.1 == en) with
  | some (_, _, vs) => vs.lookup variant
  | none => none

def kernelEnumValue (en member : String) : Option Nat :=
  match kernelEnums.find? (·.1 == en) with
  | some (_, ms) => ms.lookup member
  | none => none

/-- Every opcode has the kernel's number. -/
theorem opcodes_match :
    ∀ p ∈ opcodePairs, (enumValue "Opcode" p.1).isSome = true
      ∧ enumValue "Opcode" p.1 = kernelEnumValue "fuse_opcode" p.2 := by
  simp only [enumValue, kernelEnumValue, TableEval.lookup_key, ← TableEval.key_beq]; decide +kernel

theorem opcodes_all_covered :
    ∀ e ∈ rustEnums, e.1 = "Opcode" → ∀ v ∈ e.2.2,
      v.1 ∈ opcodePairs.map (·.1) ∨ v.1 ∈ opcodesWithoutCounterpart := by
  have h : ∀ e ∈ rustEnums, e.1 = "Opcode" → TableEval.coverB
      (fun c => (opcodesWithoutCounterpart.map TableEval.key).contains c || ((opcodePairs.map (·.1)).map TableEval.key).contains c)
      (e.2.2.map (TableEval.key ·.1)) ((opcodePairs.map (·.1)).map TableEval.key) = true := by decide +kernel
  exact fun e he heq => TableEval.covered (h e he heq)

/-- Every notification code has the kernel's number. -/
theorem notify_codes_match :
    ∀ p ∈ notifyPairs, (enumValue "NotifyOpcode" p.1).isSome = true
      ∧ enumValue "NotifyOpcode" p.1 = kernelEnumValue "fuse_notify_code" p.2 := by
  decide +kernel

theorem notify_codes_all_covered :
    ∀ e ∈ rustEnums, e.1 = "NotifyOpcode" → ∀ v ∈ e.2.2,
      v.1 ∈ notifyPairs.map (·.1) ∨ v.1 ∈ notifyWithoutCounterpart := by
  decide +kernel

/-- The opcode numbers the kernel can send that the library knows: the kernel's value of every
    paired enumerator, minus the two byte-swap detection markers (they are not requests). -/
def knownOps : List Nat :=
  (opcodePairs.filter (fun p => p.1 != "CuseInitBswapReserved" && p.1 != "InitBswapReserved")).filterMap
    (fun p => kernelEnumValue "fuse_opcode" p.2)

def maxOpcode : Nat := (enumValue "Opcode" "MaxOpcode").getD 0

/-- `From<u32> for Opcode` is total: a known number maps to itself, **every** other number —
    all of them, not a sample — maps to the unsupported-opcode value. -/
theorem opcode_from_total (n : Nat) :
    opcodeFrom n = if n ∈ knownOps then n else maxOpcode := by
  have hk : knownOps = opcodeFromArms.map (·.1) := by
    simp only [knownOps, kernelEnumValue, TableEval.lookup_key, ← TableEval.key_beq]; decide +kernel
  have hm : maxOpcode = 50 := by decide +kernel
  rw [hk, hm]
  unfold opcodeFrom
  split <;> first | decide | (simp only [opcodeFromArms, List.map, List.mem_cons, List.not_mem_nil, or_false]; rw [if_neg]; intro h; grind)

/-- and the arms of the match are identity arms (`k => Opcode::K` with discriminant `k`). -/
theorem opcode_from_arms_identity : ∀ a ∈ opcodeFromArms, a.1 = a.2 := by decide +kernel

theorem opcode_from_default_is_max : opcodeFromDefault = some maxOpcode := by decide +kernel

open Fbr.Conv

/-- The conversion functions in today's source are the ones `Fbr.Conv` models. -/
theorem convs_as_modelled : Gen.convs = Conv.expectedConvs := by decide +kernel

/-- a wire attribute is well-formed when its 32-bit fields are 32-bit -/
def Attr.WF (a : Attr) : Prop :=
  a.atimensec < u32 ∧ a.mtimensec < u32 ∧ a.ctimensec < u32 ∧ a.nlink < u32 ∧ a.rdev < u32 ∧ a.blksize < u32

/-- wire → host → wire is the identity on **every** well-formed attribute (no field lost). -/
theorem attr_roundtrip_wire (a : Attr) (h : Attr.WF a) :
    attrWithFlags (statOfAttr a) a.flags = a := by
  obtain ⟨h1, h2, h3, h4, h5, h6⟩ := h
  cases a
  simp only [attrWithFlags, statOfAttr, Attr.mk.injEq, true_and, and_true] at *
  refine ⟨?_, ?_, ?_, ?_, ?_, ?_⟩ <;> exact Nat.mod_eq_of_lt ‹_›

/-- host values that fit the wire widths -/
def Stat.Fits (st : Stat) : Prop :=
  st.atimeNsec < u32 ∧ st.mtimeNsec < u32 ∧ st.ctimeNsec < u32 ∧ st.nlink < u32 ∧ st.rdev < u32 ∧ st.blksize < u32

/-- host → wire → host preserves every field the wire format can carry, whenever the host
    values fit the wire widths (exactly the guard under which no truncation happens). -/
theorem stat_roundtrip_host (st : Stat) (flags : Nat) (h : Stat.Fits st) :
    statOfAttr (attrWithFlags st flags) = st := by
  obtain ⟨h1, h2, h3, h4, h5, h6⟩ := h
  cases st
  simp only [attrWithFlags, statOfAttr, Stat.mk.injEq, true_and, and_true] at *
  refine ⟨?_, ?_, ?_, ?_, ?_, ?_⟩ <;> exact Nat.mod_eq_of_lt ‹_›

/-- the guard is necessary: a nanosecond field that does not fit is truncated -/
example : statOfAttr (attrWithFlags { (default : Stat) with atimeNsec := 2 ^ 32 + 5 } 0)
    ≠ { (default : Stat) with atimeNsec := 2 ^ 32 + 5 } := by decide

/-- 64-bit fields are never altered, whatever their value (no hypothesis). -/
theorem attr_wide_fields_exact (st : Stat) (f : Nat) :
    let a := attrWithFlags st f
    a.ino = st.ino ∧ a.size = st.size ∧ a.blocks = st.blocks ∧ a.atime = st.atime ∧
    a.mtime = st.mtime ∧ a.ctime = st.ctime ∧ a.mode = st.mode ∧ a.uid = st.uid ∧ a.gid = st.gid ∧
    a.flags = f := by
  simp [attrWithFlags]

/-- `From<stat64> for Attr` is `with_flags` with no flags. -/
theorem attr_of_stat_no_flags (st : Stat) : (attrOfStat st).flags = 0 := rfl

/-- SETATTR: every field the client can set reaches the host structure unchanged. -/
theorem setattr_to_stat_fields (s : SetattrIn) :
    let st := statOfSetattr s
    st.mode = s.mode ∧ st.uid = s.uid ∧ st.gid = s.gid ∧ st.size = s.size ∧ st.atime = s.atime ∧
    st.mtime = s.mtime ∧ st.ctime = s.ctime ∧ st.atimeNsec = s.atimensec ∧
    st.mtimeNsec = s.mtimensec ∧ st.ctimeNsec = s.ctimensec := by
  simp [statOfSetattr]

/-- STATFS: 64-bit counters exact; 32-bit fields exact when they fit. -/
theorem statvfs_to_kstatfs_fields (s : Statvfs)
    (h : s.bsize < u32 ∧ s.namemax < u32 ∧ s.frsize < u32) :
    let k := kstatfsOfStatvfs s
    k.blocks = s.blocks ∧ k.bfree = s.bfree ∧ k.bavail = s.bavail ∧ k.files = s.files ∧
    k.ffree = s.ffree ∧ k.bsize = s.bsize ∧ k.namelen = s.namemax ∧ k.frsize = s.frsize := by
  obtain ⟨h1, h2, h3⟩ := h
  simp [kstatfsOfStatvfs, Nat.mod_eq_of_lt h1, Nat.mod_eq_of_lt h2, Nat.mod_eq_of_lt h3]

/-- an entry's attribute flags survive the conversion used by every entry-carrying reply -/
theorem entry_out_keeps_attr_flags (e : Entry) : (entryOutOfEntry e).attr.flags = e.attrFlags := rfl

/-- non-vacuity: a concrete well-formed attribute and a fitting stat -/
example : Attr.WF { (default : Attr) with ino := 7, atimensec := 999999999, nlink := 3, flags := 2 } := by
  unfold Attr.WF u32; decide
example : Stat.Fits { (default : Stat) with ino := 7, size := 2 ^ 63, mtimeNsec := 5, blksize := 4096 } := by
  unfold Stat.Fits u32; decide

end Fbr.Thm.C13
