/-
  C06 — nothing outside the exported directory is reachable; names are single components.
  PROPERTY THEOREMS ONLY.  Part 1: the name checks (model + generated source tables);
  part 2 (below): the inode table stays inside the export (host laws).
-/
import Fbr.Lemmas.PtHostNames
import Fbr.Gen.PtSync
import Fbr.Gen.PtMod
import Fbr.Gen.PtUtil
import Fbr.Gen.VfsSync
import Fbr.Gen.VfsMod
import Fbr.Lemmas.HostRefDemo
import Fbr.Lemmas.PtHostExport

namespace Fbr.Thm.C06
open Fbr.Host Fbr.PtHost

/-- **validate_ok_iff.**  For every name (a C string: no interior NUL), `validate_path_component`
    accepts it iff it is not ".", not ".." and contains no '/'.  The empty name is accepted (the
    code does not reject it; the host call then fails with ENOENT). -/
theorem validate_ok_iff (n : Name) (h0 : (0 : UInt8) ∉ n) :
    validatePathComponent n = none ↔ (n ≠ [46] ∧ n ≠ [46, 46] ∧ SLASH ∉ n) := by
  rw [validate_none_iff, ← Bool.not_eq_true, isDotOrDotdot_iff n h0, not_or, and_assoc]

/-- the only error of the check is EINVAL -/
theorem validate_err_is_einval (n : Name) : validatePathComponent n = none ∨ validatePathComponent n = some EINVAL := by
  unfold validatePathComponent; split <;> simp

/-- non-vacuity: ordinary names pass; ".", "..", "a/b" do not; the empty name passes -/
example : validatePathComponent [97] = none ∧ validatePathComponent [] = none ∧
    validatePathComponent [46] = some EINVAL ∧ validatePathComponent [46, 46] = some EINVAL ∧
    validatePathComponent [97, 47, 98] = some EINVAL ∧ validatePathComponent [46, 46, 46] = none := by decide

/-- **lookup_single_component.**  A LOOKUP whose name contains '/' is answered EINVAL and the
    request's program is `pure`: not a single host call is made, the tables are unchanged — for
    every configuration, table state and parent. -/
theorem lookup_single_component (cfg : Cfg) (s : PtState) (p : Nat) (n : Name) (h : SLASH ∈ n) :
    step cfg s (.lookup p n) = .pure (.error EINVAL, s) := by
  simp [step, handle, lookup, (mem_withNul_slash n).mpr h, M.throw]

/-- **mutators_validate_names (model).**  A standalone passthrough (`do_import`) answers EINVAL to
    every request that creates, removes, renames or links a name when that name is ".", ".." or
    contains '/', and its program is `pure`: no host call, tables unchanged.  (RENAME: either name.) -/
theorem mutators_reject_bad_names (cfg : Cfg) (s : PtState) (hc : cfg.doImport = true) (n : Name)
    (hb : validatePathComponent n = some EINVAL) (ctx : Ctx) (p q i : Nat) (t o : Name) (m r u f ff : Nat) :
    step cfg s (.mkdir ctx p n m u) = .pure (.error EINVAL, s) ∧
    step cfg s (.mknod ctx p n m r u) = .pure (.error EINVAL, s) ∧
    step cfg s (.symlink ctx t p n) = .pure (.error EINVAL, s) ∧
    step cfg s (.create ctx p n f m u ff) = .pure (.error EINVAL, s) ∧
    step cfg s (.unlink p n) = .pure (.error EINVAL, s) ∧
    step cfg s (.rmdir p n) = .pure (.error EINVAL, s) ∧
    step cfg s (.link i p n) = .pure (.error EINVAL, s) ∧
    step cfg s (.rename p n q o f) = .pure (.error EINVAL, s) ∧
    (validatePathComponent o = none → step cfg s (.rename p o q n f) = .pure (.error EINVAL, s)) := by
  have bad : ∀ {r : Req}, r.checkedFirst = some n → step cfg s r = .pure (.error EINVAL, s) := fun hr =>
    step_checkedFirst_bad cfg s hc hr hb
  refine ⟨bad rfl, bad rfl, bad rfl, bad rfl, bad rfl, bad rfl, bad rfl, bad rfl, fun ho => ?_⟩
  simp only [step, handle, rename]
  rw [bind_ok (validateName_ok cfg o ho s)]
  exact bind_throw (validateName_bad cfg n hc hb s)

/-- **dotdot_at_root_is_root (model).**  A lookup of ".." in the root inode issues exactly the
    host calls of a lookup of "." — the name handed to `openat` is "." — whatever the host answers. -/
theorem dotdot_at_root_is_root (cfg : Cfg) (s : PtState) :
    step cfg s (.lookup ROOT_ID [46, 46]) = step cfg s (.lookup ROOT_ID [46]) := by
  have h1 : (SLASH ∈ withNul [46, 46]) = False := by simp [withNul, SLASH]
  have h2 : (SLASH ∈ withNul [46]) = False := by simp [withNul, SLASH]
  simp only [step, handle, lookup, List.contains_eq_mem, decide_eq_true_eq, h1, h2, if_false]
  have : doLookup cfg ROOT_ID [46, 46] = doLookup cfg ROOT_ID [46] := by
    unfold doLookup
    simp [startsWith, withNul, PARENT_DIR_CSTR, DOT]
  rw [this]

/-- **mutators_validate_names (PassthroughFs, source).**  In `src/passthrough/sync_io.rs` the first
    statement of mkdir, rmdir, create, unlink, mknod, symlink is `self.validate_path_component(name)?;`,
    of link `…(newname)?;`, and rename starts with the check of `oldname` followed by the check of
    `newname`; lookup starts with the '/' test. -/
theorem pt_mutators_start_with_name_check :
    (∀ fn ∈ ["mkdir", "rmdir", "create", "unlink", "mknod", "symlink"],
      (leadOf Gen.ptSyncLead "PassthroughFs<S>" "FileSystem" fn).bind List.head? = some "self.validate_path_component(name)?;") ∧
    (leadOf Gen.ptSyncLead "PassthroughFs<S>" "FileSystem" "link").bind List.head? = some "self.validate_path_component(newname)?;" ∧
    (leadOf Gen.ptSyncLead "PassthroughFs<S>" "FileSystem" "rename").map (·.take 2) =
      some ["self.validate_path_component(oldname)?;", "self.validate_path_component(newname)?;"] ∧
    (leadOf Gen.ptSyncLead "PassthroughFs<S>" "FileSystem" "lookup").bind List.head? =
      some "ifname.to_bytes_with_nul().contains(&SLASH_ASCII){returnErr(einval());}" := by
  decide +kernel

/-- the method only skips the check behind a VFS and otherwise calls the shared function -/
theorem pt_validate_method_shape :
    leadOf Gen.ptModLead "PassthroughFs<S>" "" "validate_path_component" =
      some ["if!self.cfg.do_import{returnOk(());}", "validate_path_component(name)"] := by
  decide +kernel

/-- **mutators_validate_names (Vfs, source).**  In `src/api/vfs/sync_io.rs` the first statement of
    symlink, mknod, mkdir, unlink, rmdir, create is `validate_path_component(name)?;`, of link
    `…(newname)?;`; rename starts with both checks, before the first `get_real_rootfs` (i.e. before
    any backend is selected); lookup starts with the '/' test. -/
theorem vfs_mutators_start_with_name_check :
    (∀ fn ∈ ["symlink", "mknod", "mkdir", "unlink", "rmdir", "create"],
      (leadOf Gen.vfsSyncLead "Vfs" "FileSystem" fn).bind List.head? = some "validate_path_component(name)?;") ∧
    (leadOf Gen.vfsSyncLead "Vfs" "FileSystem" "link").bind List.head? = some "validate_path_component(newname)?;" ∧
    leadOf Gen.vfsSyncLead "Vfs" "FileSystem" "rename" =
      some ["validate_path_component(oldname)?;", "validate_path_component(newname)?;",
            "let(root,idata_old)=self.get_real_rootfs(olddir)?;"] ∧
    (leadOf Gen.vfsSyncLead "Vfs" "FileSystem" "lookup").bind List.head? =
      some "ifname.to_bytes_with_nul().contains(&SLASH_ASCII){returnErr(io::Error::from_raw_os_error(libc::EINVAL));}" := by
  decide +kernel

/-- the shared check is the text the model `validatePathComponent` / `isSafePathComponent` /
    `isDotOrDotdot` was written from, and '/' is 47 -/
theorem name_check_source_pinned :
    leadOf Gen.vfsModLead "" "" "validate_path_component" =
      some ["matchis_safe_path_component(name){true=>Ok(()),false=>Err(io::Error::from_raw_os_error(libc::EINVAL)),}"] ∧
    leadOf Gen.vfsModLead "" "" "is_safe_path_component" =
      some ["letbytes=name.to_bytes_with_nul();", "ifbytes.contains(&SLASH_ASCII){returnfalse;}", "!is_dot_or_dotdot(name)"] ∧
    leadOf Gen.vfsModLead "" "" "is_dot_or_dotdot" =
      some ["letbytes=name.to_bytes_with_nul();", "bytes.starts_with(CURRENT_DIR_CSTR)||bytes.starts_with(PARENT_DIR_CSTR)"] ∧
    Gen.vfsModConsts.lookup "SLASH_ASCII" = some 47 := by
  decide +kernel

/-- the lookup path as the model has it: every lookup opens with `O_NOFOLLOW|O_CLOEXEC|flags`
    (`open_file_restricted`), `do_lookup` rewrites ".." at the root to ".", the re-open strips
    `O_NOFOLLOW`/`O_CREAT` and is guarded by `is_safe_inode` = regular file or directory -/
theorem lookup_path_source_pinned :
    leadOf Gen.ptModLead "PassthroughFs<S>" "" "open_file_restricted" =
      some ["letflags=libc::O_NOFOLLOW|libc::O_CLOEXEC|flags;", "openat(dir,pathname,flags,mode)"] ∧
    (∃ l, leadOf Gen.ptModLead "PassthroughFs<S>" "" "do_lookup" = some l ∧
      "letname=ifparent==fuse::ROOT_ID&&name.to_bytes_with_nul().starts_with(PARENT_DIR_CSTR){CStr::from_bytes_with_nul(CURRENT_DIR_CSTR).unwrap()}else{name};" ∈ l) ∧
    leadOf Gen.ptUtilLead "" "" "reopen_fd_through_proc" =
      some ["letname=CString::new(format!(\"{}\",fd.as_raw_fd()).as_str())?;", "openat(proc_self_fd,&name,flags&!libc::O_NOFOLLOW&!libc::O_CREAT,0,)"] ∧
    leadOf Gen.ptUtilLead "" "" "is_safe_inode" = some ["matches!(mode&libc::S_IFMT,libc::S_IFREG|libc::S_IFDIR)"] ∧
    (leadOf Gen.ptSyncLead "PassthroughFs<S>" "" "open_inode").map (·.drop 1) =
      some ["if!is_safe_inode(data.mode){Err(ebadf())}else{letmutnew_flags=self.get_writeback_open_flags(flags);if!self.cfg.allow_direct_io&&flags&libc::O_DIRECT!=0{new_flags&=!libc::O_DIRECT;}data.open_file(new_flags|libc::O_CLOEXEC,&self.proc_self_fd)}"] := by
  refine ⟨by decide +kernel, ?_, by decide +kernel, by decide +kernel, by decide +kernel⟩
  refine ⟨_, rfl, ?_⟩
  decide +kernel

end Fbr.Thm.C06

namespace Fbr.Thm.C06
open Fbr.Host Fbr.Host.Ref

/-- **nofollow_never_leaves.**  In the reference FS, from a state in which every descriptor
    denotes an export object (`Good`): a lookup `openat(dirfd, name, O_NOFOLLOW|O_CLOEXEC|O_PATH)` of a
    name without '/' — other than ".." on the export root — that succeeds returns a descriptor of
    the directory entry *itself* (`lookup1`: a symbolic link is returned as the link, never its
    target), that object belongs to the export, and the new state is again `Good`. -/
theorem nofollow_never_leaves (s : State) (g : Good s) (dfd : Fd) (d : Obj) (name : Name) (f : Fd) (o : Obj)
    (hd : fdObj s dfd = some d) (hslash : name.contains Ref.SLASH = false)
    (hroot : ¬ (d = s.exportRoot ∧ name = dotdot))
    (h : (stepCore s (.openat dfd name (O_NOFOLLOW ||| O_CLOEXEC ||| O_PATH) 0)).1 = .fd f o) :
    lookup1 s d name = .ok o ∧ s.sent o = false ∧
    Good (stepCore s (.openat dfd name (O_NOFOLLOW ||| O_CLOEXEC ||| O_PATH) 0)).2 := by
  have hnf : has (O_NOFOLLOW ||| O_CLOEXEC ||| O_PATH) O_NOFOLLOW = true := by decide
  have hconf : ConfinedOpen s (.openat dfd name (O_NOFOLLOW ||| O_CLOEXEC ||| O_PATH) 0) :=
    Or.inr ⟨hnf, by decide, hslash, fun ⟨h1, h2⟩ => hroot ⟨by rw [hd] at h1; exact Option.some.inj h1, h2⟩⟩
  have hs := (stepCore_eff s (.openat dfd name (O_NOFOLLOW ||| O_CLOEXEC ||| O_PATH) 0)).says
  rw [h] at hs
  obtain ⟨_, ho⟩ := hs.2 fun _ _ _ _ e => by cases e; decide
  refine ⟨?_, ho.inside g hconf, good_step s g _ hconf⟩
  cases ho with
  | path hd' _ hr => rw [hd] at hd'; cases hd'; rw [hnf] at hr; exact resolve_single_nofollow hslash hr

/-- the re-open through /proc denotes the same inode as the descriptor it re-opens -/
theorem reopen_same_object (s : State) (f f' : Fd) (o : Obj) (fl md : Nat)
    (h : (stepCore s (.reopen f fl md)).1 = .fd f' o) : fdObj s f = some o := by
  have hs := (stepCore_eff s (.reopen f fl md)).says
  rw [h] at hs
  obtain ⟨_, ho⟩ := hs.2 nofun
  cases ho with | reopen hf => exact hf

/-- **rename_link_stay_inside.**  From a `Good` state, mkdirat, mknodat, symlinkat, linkat,
    unlinkat and renameat2 (every flag value, every name — names that are not plain single
    components are refused by the host) leave every object of the sentinel tree exactly as it was
    and lead to a `Good` state: whatever is created, linked, removed or moved stays among the
    export objects. -/
theorem rename_link_stay_inside (s : State) (g : Good s) (c : HCall)
    (hc : (∃ d n m, c = .mkdirat d n m) ∨ (∃ d n m r, c = .mknodat d n m r) ∨ (∃ t d n, c = .symlinkat t d n) ∨
          (∃ f o d n fl, c = .linkat f o d n fl) ∨ (∃ d n fl, c = .unlinkat d n fl) ∨
          (∃ a x b y fl, c = .renameat2 a x b y fl)) :
    Good (stepCore s c).2 ∧ ∀ x, s.sent x = true → (stepCore s c).2.nodes x = s.nodes x := by
  have hp : Fbr.PtHost.Plain c := by
    rcases hc with ⟨_, _, _, rfl⟩ | ⟨_, _, _, _, rfl⟩ | ⟨_, _, _, rfl⟩ | ⟨_, _, _, _, _, rfl⟩ | ⟨_, _, _, rfl⟩ | ⟨_, _, _, _, _, rfl⟩ <;> trivial
  exact ⟨good_step s g c (hp.confined s), sentinel_untouched s g c (hp.confined s)⟩

/-- **confined_program_stays_inside.**  For the reference host: `Good` (every open descriptor — the
    O_PATH descriptors of the inode table and the descriptors of the handle table are descriptors
    — and every file handle denotes an object of the export) is preserved by every *program* all of
    whose calls are confined in the state they are issued in (`AllConfined`), and such a run
    changes no object of the sentinel tree.  (`inode_table_within_export` below proves that every
    request of the passthrough is such a program.) -/
theorem confined_program_stays_inside {α : Type} (sent : Obj → Bool) (root : Obj) (p : Prog α) (s : State)
    (inv : Good s) (hconf : AllConfined sent root p s) :
    Good ((p.run (ops sent root) s).2.1) ∧
    (∀ f e, (p.run (ops sent root) s).2.1.fds f = some e → s.sent e.obj = false) ∧
    (∀ x, s.sent x = true → (p.run (ops sent root) s).2.1.nodes x = s.nodes x) := by
  have h := run_good sent root p s inv hconf
  refine ⟨h.1, ?_, h.2.nodes⟩
  intro f e he
  rw [← h.2.sent]
  exact h.1.fds f e he

open Fbr.PtHost in
/-- **inode_table_within_export.**  The passthrough model (`Fbr.PtHost`, every configuration bit:
    file handles, `use_host_ino`, `no_open`, …) run on the reference host FS.  Start: a host state
    in which every descriptor / file handle denotes an export object (`Good`) and the descriptor
    tables are well-formed (`Wf`: ids below their counters, one handle id per inode); the table
    after `import()` (`initState`), whose root handle denotes the export root.  Then for **every
    history** `rs` of requests — every name, every inode / handle number, every flag word —

    * the host state is `Good` again, and every entry of the inode table denotes — by its O_PATH
      descriptor or its file handle — the object recorded as its id, an object of the export;
    * **exactly the entries numbered 1 denote the export root** (".." is rewritten only on inode 1,
      so ".." is never sent on a descriptor of the export root under another number);
    * every open descriptor (inode table, handle table, temporaries) and every file handle of the
      host denotes an export object; no object of the sentinel tree has changed.

    No hypothesis on the history when the passthrough is standalone (`do_import = true`, see
    `inode_table_within_export_standalone`).  Behind a VFS (`do_import = false`) the passthrough
    skips its own name check, and the hypothesis `FrontChecked` states what the front end has
    checked instead (`vfs_mutators_start_with_name_check`): names handed to symlink / mknod /
    mkdir / create / link contain no '/'.  Proof: the joint invariant `Fbr.PtHost.J` of table and
    host is kept by every request and every call of every request is confined in the state it is
    issued in (`jsafe_handle`: `do_lookup`'s one `openat` is `O_PATH|O_NOFOLLOW`, single component,
    never ".." on the export root; CREATE's is `O_CREAT|O_EXCL`); induction over the history. -/
theorem inode_table_within_export (sent : Obj → Bool) (root : Obj) (cfg : Cfg) (rs : List Req) (h : State)
    (inv : Good h) (wf : Wf h) (rootHandle : IHandle) (rootMode : Nat)
    (hroot : Denotes h rootHandle h.exportRoot) (hfront : ∀ r ∈ rs, r.FrontChecked cfg) :
    Good (runHistory (ops sent root) cfg (initState rootHandle h.exportRoot rootMode) h rs).2 ∧
    (∀ d ∈ (runHistory (ops sent root) cfg (initState rootHandle h.exportRoot rootMode) h rs).1.inodes,
      Denotes (runHistory (ops sent root) cfg (initState rootHandle h.exportRoot rootMode) h rs).2 d.handle d.id ∧
      h.sent d.id = false ∧ (d.id = h.exportRoot ↔ d.inode = ROOT_ID)) ∧
    (∀ f e, (runHistory (ops sent root) cfg (initState rootHandle h.exportRoot rootMode) h rs).2.fds f = some e →
      h.sent e.obj = false) ∧
    (∀ k o, (runHistory (ops sent root) cfg (initState rootHandle h.exportRoot rootMode) h rs).2.handles k = some o →
      h.sent o = false) ∧
    (∀ x, h.sent x = true →
      (runHistory (ops sent root) cfg (initState rootHandle h.exportRoot rootMode) h rs).2.nodes x = h.nodes x) := by
  have j0 := j_init h inv wf rootHandle rootMode hroot
  obtain ⟨j, ⟨hsent, hexp, hnodes⟩⟩ := j_history sent root cfg rs hfront _ h j0
  refine ⟨j.good, ?_, ?_, ?_, hnodes⟩
  · intro d hd
    refine ⟨j.den d hd, ?_, ?_⟩
    · rw [← hsent]; exact j.inside d hd
    · rw [← hexp]; exact ⟨j.uniq d hd, j.rootId d hd⟩
  · intro f e he; rw [← hsent]; exact j.good.fds f e he
  · intro k o hk; rw [← hsent]; exact j.good.handles k o hk

open Fbr.PtHost in
/-- the standalone passthrough (`do_import = true`, names checked by `validate_path_component`):
    `inode_table_within_export` for every history, no hypothesis on the requests -/
theorem inode_table_within_export_standalone (sent : Obj → Bool) (root : Obj) (cfg : Cfg) (hcfg : cfg.doImport = true)
    (rs : List Req) (h : State) (inv : Good h) (wf : Wf h) (rootHandle : IHandle) (rootMode : Nat)
    (hroot : Denotes h rootHandle h.exportRoot) :
    Good (runHistory (ops sent root) cfg (initState rootHandle h.exportRoot rootMode) h rs).2 ∧
    (∀ d ∈ (runHistory (ops sent root) cfg (initState rootHandle h.exportRoot rootMode) h rs).1.inodes,
      Denotes (runHistory (ops sent root) cfg (initState rootHandle h.exportRoot rootMode) h rs).2 d.handle d.id ∧
      h.sent d.id = false ∧ (d.id = h.exportRoot ↔ d.inode = ROOT_ID)) ∧
    (∀ f e, (runHistory (ops sent root) cfg (initState rootHandle h.exportRoot rootMode) h rs).2.fds f = some e →
      h.sent e.obj = false) ∧
    (∀ k o, (runHistory (ops sent root) cfg (initState rootHandle h.exportRoot rootMode) h rs).2.handles k = some o →
      h.sent o = false) ∧
    (∀ x, h.sent x = true →
      (runHistory (ops sent root) cfg (initState rootHandle h.exportRoot rootMode) h rs).2.nodes x = h.nodes x) :=
  inode_table_within_export sent root cfg rs h inv wf rootHandle rootMode hroot
    (fun r _ => frontChecked_standalone cfg r hcfg)

/-- every request of every such history is a confined program: `AllConfined` holds of
    `step cfg pt r` in any state satisfying the joint invariant (which every reachable state
    does, `j_history`) -/
theorem requests_are_confined (sent : Obj → Bool) (root : Obj) (cfg : Fbr.PtHost.Cfg) (r : Fbr.PtHost.Req)
    (hr : r.FrontChecked cfg) (pt : Fbr.PtHost.PtState) (h : State) (j : Fbr.PtHost.J pt h) :
    AllConfined sent root (Fbr.PtHost.step cfg pt r) h :=
  (Fbr.PtHost.j_request sent root cfg r hr pt h j).1

/-- the invariant holds of a concrete state with a sentinel tree around the export -/
example : Good demo := demo_good

/-- the hypotheses of `inode_table_within_export` hold of it: well-formed tables, and descriptor 0
    (the root handle of `import()`) denotes the export root -/
example : Wf demo ∧ Fbr.PtHost.Denotes demo (.file 0) demo.exportRoot := ⟨Fbr.PtHost.demo_wf, rfl⟩

/-- a history on that host that walks down, back up with "..", and onto the out-pointing symlink:
    "a" gets number 2, ".." from it finds the root entry again (number 1, object 2: its count goes
    2 → 4 with the "." / ".." lookups), the symlink is entered as itself (object 3) -/
example :
    (Fbr.PtHost.runHistory (ops demoSent 2) {} (Fbr.PtHost.initState (.file 0) 2 16877) demo
      [.lookup 1 sA, .lookup 2 dotdot, .lookup 2 dot, .lookup 1 dotdot, .lookup 1 sLnk]).1.inodes.map
      (fun d => (d.inode, d.id, d.refcount)) = [(3, 3, 1), (2, 4, 2), (1, 2, 4)] := by decide

/-- O_NOFOLLOW on a symlink that points out of the export yields the link itself (object 3) … -/
example : (stepCore demo (.openat 0 sLnk (O_NOFOLLOW ||| O_CLOEXEC ||| O_PATH) 0)).1 = .fd 1 3 := by decide

/-- … whereas the same call without O_NOFOLLOW reaches the sentinel file (object 1): the flag is
    what keeps lookups inside -/
example : (stepCore demo (.openat 0 sLnk (O_CLOEXEC ||| O_PATH) 0)).1 = .fd 1 1 ∧ demo.sent 1 = true := by decide

/-- ".." on the export root reaches the sentinel parent (object 0): the rewrite to "." is needed -/
example : (stepCore demo (.openat 0 dotdot (O_NOFOLLOW ||| O_CLOEXEC ||| O_PATH) 0)).1 = .fd 1 0 ∧ demo.sent 0 = true := by decide

/-- a name with '/' walks out of the export: the single-component check is needed -/
example : (stepCore demo (.openat 0 sUpSecret (O_NOFOLLOW ||| O_CLOEXEC ||| O_PATH) 0)).1 = .fd 1 1 := by decide

/-- "." and ".." below the root stay inside -/
example : (stepCore demo (.openat 0 dot (O_NOFOLLOW ||| O_CLOEXEC ||| O_PATH) 0)).1 = .fd 1 2 := by decide

end Fbr.Thm.C06
