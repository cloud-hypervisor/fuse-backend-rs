/-
  C12 — INIT negotiation enables exactly the features both sides asked for.

  PROPERTY THEOREMS ONLY.  Model: the INIT part of `Fbr.Srv` (`initCapable`, `initEnabled`,
  `initFlagsOut`, `initOutFull`, `initOutBody`, `initHandler`), tied to `Server::init` by the
  `srv` correspondence run (all majors/minors/flag words/presence of the extended payload/`want`
  sets) and the direct INIT oracle.  Bit-level statements use `Nat.testBit`, so they hold for
  every flag word, not a sample.

  The layer toggles (VFS / passthrough / overlay: no_open, no_opendir, writeback, killpriv_v2,
  perfile_dax "only when negotiated") and "the VFS refuses a second INIT" are stated over
  `Fbr.InitFs`, tied to `Vfs::init`, `PassthroughFs::init`, `OverlayFs::init` by the `initfs`
  correspondence run (toggles observed by behaviour: OPEN/OPENDIR → ENOSYS, FUSE_ATTR_DAX).
-/
import Fbr.Lemmas.SrvReply
import Fbr.Gen.AbiRust
import Fbr.InitFs
import Fbr.Lemmas.Bits

namespace Fbr.Thm.C12
open Fbr.Srv Fbr.Wire

/-- the bits `FsOptions` knows, from the generated bitflags table of today's source -/
def fsOptionsAllFromSource : Nat :=
  match Gen.rustBitflags.find? (·.1 == "FsOptions") with
  | some (_, _, ms) => ms.foldl (fun acc m => acc ||| m.2) 0
  | none => 0

/-- the model's mask of known option bits is exactly the union of today's `FsOptions` members -/
theorem known_bits_from_source : FS_OPTIONS_ALL = fsOptionsAllFromSource := by decide +kernel

theorem init_ext_bit : INIT_EXT = 2 ^ 30 := by decide

/-- **Enabled is the intersection**: a bit is enabled iff the client offered it (capable), the
    file system wants it, and the library knows it. -/
theorem enabled_is_intersection (capable want : Nat) (i : Nat) :
    (initEnabled capable want).testBit i =
      (capable.testBit i && (want.testBit i && FS_OPTIONS_ALL.testBit i)) := by
  simp [initEnabled, Nat.testBit_and]

/-- capable = the offered words restricted to known bits; `flags2` counts only when INIT_EXT is
    set AND the extended payload is present; without the payload INIT_EXT itself is dropped -/
theorem capable_with_payload (flags : Nat) (rest : Bytes) (hext : flags &&& INIT_EXT != 0)
    (hp : rest.length ≥ 48) :
    initCapable flags rest = (flags ||| (u32At rest 0 <<< 32)) &&& FS_OPTIONS_ALL := by
  simp [initCapable, hext, hp]

theorem capable_without_payload (flags : Nat) (rest : Bytes) (hext : flags &&& INIT_EXT != 0)
    (hp : rest.length < 48) :
    initCapable flags rest = (flags &&& (2 ^ 64 - 1 - INIT_EXT)) &&& FS_OPTIONS_ALL := by
  have : ¬ rest.length ≥ 48 := by omega
  simp [initCapable, hext, this]

theorem capable_without_ext (flags : Nat) (rest : Bytes) (hext : ¬ (flags &&& INIT_EXT != 0)) :
    initCapable flags rest = flags &&& FS_OPTIONS_ALL := by
  simp [initCapable, hext]

/-- a 32-bit `flags` word offers no extended bit unless INIT_EXT and the payload are there -/
theorem capable_no_extended_without_marker (flags : Nat) (rest : Bytes) (hf : flags < 2 ^ 32)
    (h : ¬ (flags &&& INIT_EXT != 0) ∨ rest.length < 48) (i : Nat) (hi : 32 ≤ i) :
    (initCapable flags rest).testBit i = false := by
  have hflag : flags.testBit i = false := Nat.testBit_lt_two_pow (Nat.lt_of_lt_of_le hf (Nat.pow_le_pow_right (by decide) hi))
  rcases h with h | h
  · rw [capable_without_ext flags rest h]; simp [Nat.testBit_and, hflag]
  · by_cases hext : flags &&& INIT_EXT != 0
    · rw [capable_without_payload flags rest hext h]; simp [Nat.testBit_and, hflag]
    · rw [capable_without_ext flags rest hext]; simp [Nat.testBit_and, hflag]

/-- the word sent back differs from the enabled set at most in the INIT_EXT marker -/
theorem flags_out_bits (en : Nat) (i : Nat) (hi : i ≠ 30) :
    (initFlagsOut en).testBit i = en.testBit i := by
  unfold initFlagsOut
  split
  · rw [Nat.testBit_or, init_ext_bit, Nat.testBit_two_pow]
    simp [Ne.symm hi]
  · rfl

/-- **Extended bits only together with the marker**: whenever the `flags2` half of the reply is
    non-zero, the `flags` half carries INIT_EXT (bit 30), so the client will read `flags2`. -/
theorem extended_bits_need_marker (en : Nat) (h : initFlagsOut en >>> 32 ≠ 0) :
    (initFlagsOut en).testBit 30 = true := by
  unfold initFlagsOut at h ⊢
  split
  · rw [Nat.testBit_or, init_ext_bit, Nat.testBit_two_pow]; simp
  · next hz =>
    simp only [bne_iff_ne, ne_eq, Decidable.not_not] at hz
    rw [if_neg (by simpa using hz)] at h
    exact absurd hz h

/-- and the marker is added only when an extended bit is enabled (never gratuitously) -/
theorem marker_only_when_needed (en : Nat) (h30 : en.testBit 30 = false) (hz : en >>> 32 = 0) :
    (initFlagsOut en).testBit 30 = false := by
  unfold initFlagsOut
  simp [hz, h30]

/-- the reply is laid out for the client's minor version: 8, 24 or 64 bytes -/
theorem reply_layout_by_minor (cfg : Cfg) (minor ra en : Nat) :
    (initOutBody cfg minor ra en).length = if minor < 5 then 8 else if minor < 23 then 24 else 64 := by
  unfold initOutBody
  have hl : (initOutFull cfg ra en).length = 64 := by simp [initOutFull]
  split
  · simp [List.length_take, hl]
  · split
    · simp [List.length_take, hl]
    · exact hl

/-- the fields of the full reply as the kernel reads them: version 7.33, echoed readahead,
    `flags`/`flags2` = the two halves of the word above, the write limit and page count -/
theorem init_out_fields (cfg : Cfg) (ra en : Nat) (rest : Bytes) :
    u32At (initOutFull cfg ra en ++ rest) 0 = 7 ∧ u32At (initOutFull cfg ra en ++ rest) 4 = 33 ∧
    u32At (initOutFull cfg ra en ++ rest) 8 = ra % 2 ^ 32 ∧
    u32At (initOutFull cfg ra en ++ rest) 12 = initFlagsOut en % 2 ^ 32 % 2 ^ 32 ∧
    u32At (initOutFull cfg ra en ++ rest) 20 = initMaxWrite cfg en % 2 ^ 32 ∧
    u32At (initOutFull cfg ra en ++ rest) 32 = (initFlagsOut en >>> 32) % 2 ^ 32 := by
  unfold initOutFull KERNEL_VERSION KERNEL_MINOR_VERSION
  simp only [List.append_assoc]
  refine ⟨?_, ?_, ?_, ?_, ?_, ?_⟩ <;> wire_norm

/-- a lower major is refused with EPROTO and the file system is never asked -/
theorem major_too_low (cfg : Cfg) (fs : Call → Ans) (u : Nat) (calls0 : List Call) (rest b : Bytes)
    (h : u32At b 0 < 7) :
    initHandler cfg fs u calls0 rest b = errRes cfg u calls0 [] (.os EPROTO) := by
  unfold initHandler KERNEL_VERSION
  simp [h]

/-- a higher major is answered with a bare 7.33 reply (the client retries with 7.x) and the file
    system is never asked -/
theorem major_too_high (cfg : Cfg) (fs : Call → Ans) (u : Nat) (calls0 : List Call) (rest b : Bytes)
    (h : u32At b 0 > 7) :
    initHandler cfg fs u calls0 rest b =
      okRes cfg u calls0 [] (le32 7 ++ le32 33 ++ zeros 56) [] cfg.minor := by
  unfold initHandler KERNEL_VERSION KERNEL_MINOR_VERSION
  have : ¬ u32At b 0 < 7 := by omega
  simp [h, this]

/-- the negotiated write size always fits the request buffer (4 KiB page size):
    max_write + header room ≤ 1 MiB + 4 KiB, and is never zero -/
theorem max_write_fits (cfg : Cfg) (en : Nat) (hp : cfg.pagesize = 4096) :
    initMaxWrite cfg en + BUFFER_HEADER_SIZE ≤ MAX_BUFFER_SIZE + BUFFER_HEADER_SIZE ∧ 0 < initMaxWrite cfg en := by
  unfold initMaxWrite MAX_REQ_PAGES MIN_READ_BUFFER BUFFER_HEADER_SIZE MAX_BUFFER_SIZE
  rw [hp]
  split
  · decide
  · split <;> decide

/-- max_pages is reported exactly when MAX_PAGES was negotiated -/
theorem max_pages_iff (en : Nat) : initMaxPages en = (if en &&& MAX_PAGES_FLAG != 0 then 256 else 0) := rfl

/-- non-vacuity: a client offering INIT_EXT + per-file DAX with the payload present, and a file
    system wanting per-file DAX, get bit 33 and the marker -/
example :
    let cap := initCapable (INIT_EXT ||| 0x20) (le32 2 ++ zeros 44)
    let en := initEnabled cap 0x200000000
    en = 0x200000000 ∧ (initFlagsOut en).testBit 30 = true ∧ initFlagsOut en >>> 32 = 2 := by
  decide

/-! ### the layers switch features on only when negotiated -/
section Layers
open Fbr.InitFs

/-- **VFS**: after `init`, no-open mode is on only if the client offered zero-message open AND
    the options the VFS returns (hence the reply) carry it; likewise no-opendir.  For every
    option record (including caller-supplied `out_opts`) and every capability word. -/
theorem vfs_toggles_only_when_negotiated (o : VfsOpts) (capable : Nat) :
    ((vfsNegotiate o capable).noOpen = true →
        has capable ZERO_MESSAGE_OPEN = true ∧ has (vfsNegotiate o capable).outOpts ZERO_MESSAGE_OPEN = true) ∧
    ((vfsNegotiate o capable).noOpendir = true →
        has capable ZERO_MESSAGE_OPENDIR = true ∧ has (vfsNegotiate o capable).outOpts ZERO_MESSAGE_OPENDIR = true) := by
  rw [vfsNegotiate_noOpen, vfsNegotiate_noOpendir, ZMO_pow, ZMOD_pow]
  simp only [has_pow]
  exact ⟨fun h => ⟨vfsNegotiate_outOpts_within o capable 17 h, h⟩,
    fun h => ⟨vfsNegotiate_outOpts_within o capable 24 h, h⟩⟩

/-- and conversely the VFS never drops a negotiated zero-message mode it was configured for -/
theorem vfs_toggles_when_negotiated (o : VfsOpts) (capable : Nat) (h : o.noOpen = true)
    (hn : has (vfsNegotiate o capable).outOpts ZERO_MESSAGE_OPEN = true) :
    (vfsNegotiate o capable).noOpen = true := by
  -- bit 17 of the options returned is set only if `o.noOpen` (`vfsNegotiate_noOpen`): `h` is not needed
  rw [ZMO_pow, has_pow] at hn
  rw [vfsNegotiate_noOpen, hn]

/-- the VFS never asks for an option the server did not offer -/
theorem vfs_wants_within_offered (o : VfsOpts) (capable : Nat) (i : Nat) :
    (vfsNegotiate o capable).outOpts.testBit i = true → capable.testBit i = true :=
  vfsNegotiate_outOpts_within o capable i

/-- **The VFS refuses a second INIT** (and accepts one again after DESTROY) — for every history -/
theorem second_init_refused (s : VfsState) (c1 c2 : Nat) :
    (vfsInit (vfsInit s c1).1 c2).2 = none ∨ s.initialized = true ∧ (vfsInit s c1).2 = none := by
  unfold vfsInit
  cases h : s.initialized <;> simp [h]

theorem init_after_destroy_accepted (s : VfsState) (c : Nat) : (vfsInit (vfsDestroy s) c).2 ≠ none := by
  simp [vfsInit, vfsDestroy]

theorem gate_and (c : LayerCfg) (sw : Bool) (capable k : Nat) :
    gate c sw capable (2 ^ k) = (capable.testBit k && gate c sw capable (2 ^ k)) := by
  unfold gate
  rw [has_pow]
  cases capable.testBit k <;> simp

/-- **Passthrough**: each toggle is on exactly when its feature bit is both offered and wanted
    (the server enables `capable ∩ want`), standalone or under the VFS, for every configuration
    and capability word. -/
theorem pt_toggles_iff_negotiated (c : LayerCfg) (capable : Nat) :
    ((ptInit c capable).2.noOpen = has (capable &&& (ptInit c capable).1) ZERO_MESSAGE_OPEN) ∧
    ((ptInit c capable).2.noOpendir = has (capable &&& (ptInit c capable).1) ZERO_MESSAGE_OPENDIR) ∧
    ((ptInit c capable).2.writeback = has (capable &&& (ptInit c capable).1) WRITEBACK_CACHE) ∧
    ((ptInit c capable).2.killprivV2 = has (capable &&& (ptInit c capable).1) HANDLE_KILLPRIV_V2) ∧
    ((ptInit c capable).2.perfileDax = has (capable &&& (ptInit c capable).1) PERFILE_DAX) := by
  unfold ptInit
  simp only
  obtain ⟨b16, b17, b24, b28, b33, _⟩ := ptOpts_bits (gate c c.writeback capable WRITEBACK_CACHE)
    (gate c c.noOpen capable ZERO_MESSAGE_OPEN) (gate c c.noOpendir capable ZERO_MESSAGE_OPENDIR)
    (gate c c.killprivV2 capable HANDLE_KILLPRIV_V2) (has capable PERFILE_DAX)
  simp only [ZMO_pow, ZMOD_pow, WB_pow, KP2_pow, DAX_pow] at *
  refine ⟨?_, ?_, ?_, ?_, ?_⟩
  · rw [has_pow, Nat.testBit_and, b17]; exact gate_and c c.noOpen capable 17
  · rw [has_pow, Nat.testBit_and, b24]; exact gate_and c c.noOpendir capable 24
  · rw [has_pow, Nat.testBit_and, b16]; exact gate_and c c.writeback capable 16
  · rw [has_pow, Nat.testBit_and, b28]; exact gate_and c c.killprivV2 capable 28
  · simp only [has_pow, Nat.testBit_and] at b33 ⊢
    rw [b33]; cases capable.testBit 33 <;> rfl

/-- with no-open negotiated the passthrough never also advertises ATOMIC_O_TRUNC -/
theorem pt_no_atomic_trunc (c : LayerCfg) (capable : Nat) : (ptInit c capable).1.testBit 3 = false :=
  (ptOpts_bits _ _ _ _ _).2.2.2.2.2

/-- **Overlay**: no-open / no-opendir / writeback / kill-priv exactly as the passthrough; per-file
    DAX is on exactly when the configuration asks for it and the bit is offered, and the option
    word carries the bit exactly then. -/
theorem ovl_toggles_iff_negotiated (c : LayerCfg) (capable : Nat) :
    ((ovlInit c capable).2.noOpen = (ptInit c capable).2.noOpen) ∧
    ((ovlInit c capable).2.noOpendir = (ptInit c capable).2.noOpendir) ∧
    ((ovlInit c capable).2.writeback = (ptInit c capable).2.writeback) ∧
    ((ovlInit c capable).2.killprivV2 = (ptInit c capable).2.killprivV2) ∧
    ((ovlInit c capable).2.perfileDax = (c.perfileDax && capable.testBit 33)) ∧
    ((ovlInit c capable).1.testBit 33 = (ovlInit c capable).2.perfileDax) := by
  unfold ovlInit
  simp only [DAX_pow, has_pow]
  refine ⟨trivial, trivial, trivial, trivial, trivial, ?_⟩
  cases hd : (c.perfileDax && capable.testBit 33)
  · simp only [Bool.false_eq_true, if_false]
    rw [without_bit _ _ _ (by decide)]
    simp
  · simp only [if_true]
    rw [Nat.testBit_or, Nat.testBit_two_pow]
    simp

end Layers

end Fbr.Thm.C12
