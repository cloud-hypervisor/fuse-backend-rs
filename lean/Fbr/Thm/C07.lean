/-
  C07 — The VFS routes every request to the one mount owning the inode, and only to it.

  PROPERTY THEOREMS ONLY (+ non-vacuity examples).  Model: `Fbr.Vfs` (`State`, `State.mount`,
  `State.umount`, `State.handle`, ...), histories: `Fbr.Persist.step` / `after`.
  Source-structure facts come from the generated table `Fbr.Gen.vfsSyncFns`.
-/
import Fbr.Vfs
import Fbr.Persist
import Fbr.Lemmas.VfsAlloc
import Fbr.Lemmas.VfsStep
import Fbr.Lemmas.VfsInv
import Fbr.Lemmas.VfsRoute
import Fbr.Gen.VfsSync
import Fbr.Gen.VfsMod
import Fbr.Gen.PseudoFs
import Fbr.Lemmas.VfsMap
import Fbr.Lemmas.VfsPseudo
import Fbr.Lemmas.VfsPersist
import Fbr.Lemmas.VfsNoPanic

namespace Fbr.Thm.C07
open Fbr.Vfs Fbr.Persist Fbr.Lemmas.VfsAlloc Fbr.Lemmas.VfsStep Fbr.Lemmas.VfsInv Fbr.Lemmas.VfsRoute
open Fbr.Lemmas.VfsMap Fbr.Lemmas.VfsPseudo Fbr.Lemmas.VfsPersist Fbr.Lemmas.VfsNoPanic

/-- operations of a live VFS (save/restore histories are the subject of C19) -/
def Op.live : Op → Bool
  | .saveRestore _ => false
  | _ => true

/-- `Inv`: every mount point's slot holds exactly its backend, distinct mount points have
    distinct slots, every occupied slot belongs to a mount point, slot 0 is never used, slots are
    below 256, recorded root inodes fit 56 bits, `next_super` is a `u8`.  Every operation
    preserves it. -/
theorem inv_preserved (s : State) (op : Op) (hl : Op.live op = true) (h : Inv s) : Inv (step s op).1 :=
  step_lift Inv (ok := fun op => Op.live op = true) (fun h => h.next) prim_inv hl (fun h => by cases h) h

/-- ... hence it holds after every history of mounts, over-mounts, umounts, init/destroy and
    requests, from every initial configuration (any number of mounts: index wrap-around included). -/
theorem inv_all_histories (opts : Opts) (rm : Bool) (ops : List Op) (hl : ∀ op ∈ ops, Op.live op = true) :
    Inv (after (State.new opts rm) ops) :=
  after_lift Inv (fun h => h.next) prim_inv ops hl (fun h => by cases h) (inv_new opts rm)

/-- `allocate_fs_idx` returns a vacant, non-zero slot below 256, or fails — and it fails exactly
    when all 255 usable slots are occupied; for every value of `next_super` (so also after it
    wrapped around), and it leaves the tables alone. -/
theorem allocate_idx_correct (s : State) (hn : s.nextSuper < 256) :
    (s.allocateFsIdx).1.nextSuper < 256 ∧
    (s.allocateFsIdx).1.supers = s.supers ∧ (s.allocateFsIdx).1.mnts = s.mnts ∧
    (∀ i, (s.allocateFsIdx).2 = some i → i ≠ 0 ∧ i < 256 ∧ s.supers i = none) ∧
    ((s.allocateFsIdx).2 = none ↔ ∀ i, 0 < i → i < 256 → (s.supers i).isSome = true) :=
  allocate_spec s hn

/-- fuel sufficiency: 257 iterations are enough — more fuel never changes the answer -/
theorem allocate_fuel_sufficient (supers : Nat → Option Bk) (start : Nat) (hs : start < 256) (extra : Nat) :
    allocLoop supers ALLOC_FUEL start start false = allocLoop supers (ALLOC_FUEL + extra) start start false := by
  obtain ⟨res, hres, _⟩ := allocLoop_run supers start hs 256 0 rfl
  have h1 := hres ALLOC_FUEL (by unfold ALLOC_FUEL; omega)
  have h2 := hres (ALLOC_FUEL + extra) (by unfold ALLOC_FUEL; omega)
  simp only [Nat.add_zero, Nat.mod_eq_of_lt hs, Nat.lt_irrefl, decide_false] at h1 h2
  rw [h1, h2]

/-- a successful mount returns an index that was vacant and is now held by this backend -/
theorem mount_takes_vacant_slot (s : State) (b : Bk) (path : Name) (map : Option Map) (idx : Nat)
    (hn : s.nextSuper < 256) (h : (s.mount b path map).2.1 = .mounted idx) :
    idx ≠ 0 ∧ idx < 256 ∧ s.supers idx = none ∧ (s.mount b path map).1.supers idx = some b := by
  obtain ⟨h0, hlt, hvac, hb, _⟩ := mount_mounted hn h
  exact ⟨h0, hlt, hvac, hb⟩

/-- whatever a request does, it calls at most one backend, at most once: the backend
    `get_real_rootfs` resolves the request inode to, under the operation's own name and with that
    backend's own inode number as first argument -/
theorem only_owner (s : State) (r : Req) (res : Res) (calls : List Call)
    (h : s.handle r = some (res, calls)) :
    calls = [] ∨ ∃ b idx i c, s.getRealRootfs r.ino = some (.ok (.backend b idx i)) ∧ calls = [c] ∧
      c.bk = b.id ∧ c.method = .req r.op ∧ c.args.head? = some (.n i) := by
  obtain ⟨res', _, hr⟩ := handle_routed h
  generalize nameCheck r = n, s.blocked r = bl, hg : s.getRealRootfs r.ino = g at hr
  -- only the delivery row produces a call
  cases hr with
  | backend cu cg b idx i t2 au ag => exact Or.inr ⟨b, idx, i, _, rfl, rfl, rfl, rfl, callArgs_head⟩
  | _ => exact Or.inl rfl

/-- `ino = idx·2^56 + i` with `supers idx = some b`: every call goes to `b` with inode `i` -/
theorem routes_to_owner (s : State) (r : Req) (b : Bk) (res : Res) (calls : List Call)
    (hidx : fsIdx r.ino ≠ 0) (hb : s.supers (fsIdx r.ino) = some b)
    (h : s.handle r = some (res, calls)) :
    calls = [] ∨ ∃ c, calls = [c] ∧ c.bk = b.id ∧ c.method = .req r.op ∧ c.args.head? = some (.n (lowIno r.ino)) := by
  rcases only_owner s r res calls h with h0 | ⟨b', idx, i, c, hg, hc, h1, h2, h3⟩
  · exact Or.inl h0
  · rw [getRealRootfs_slot s r.ino hidx, hb] at hg
    simp only [Option.some.injEq, Except.ok.injEq, Target.backend.injEq] at hg
    obtain ⟨rfl, _, rfl⟩ := hg
    exact Or.inr ⟨c, hc, h1, h2, h3⟩

/-- ... and it is delivered exactly once when nothing refuses it before routing: the names are
    valid path components, OPEN/OPENDIR are not disabled, it is not a two-inode operation, and the
    configured id mappings do not overflow (`s.handle r ≠ none`) -/
theorem delivered_exactly_once (s : State) (r : Req) (b : Bk) (res : Res) (calls : List Call)
    (hidx : fsIdx r.ino ≠ 0) (hb : s.supers (fsIdx r.ino) = some b)
    (hname : nameCheck r = true) (hblk : s.blocked r = false)
    (hop : r.op ≠ .rename ∧ r.op ≠ .link)
    (h : s.handle r = some (res, calls)) :
    ∃ c, calls = [c] ∧ c.bk = b.id ∧ c.method = .req r.op ∧ c.args.head? = some (.n (lowIno r.ino)) := by
  obtain ⟨res', _, hr⟩ := handle_routed h
  -- with the stages' answers put in, the rows left are the refusal of a second inode and the delivery
  rw [hname, hblk, getRealRootfs_slot s r.ino hidx, hb] at hr
  cases hr with
  | secondErr _ e hs =>
    rw [second_single (not_or.mpr hop)] at hs
    cases hs
  | backend => exact ⟨_, rfl, rfl, rfl, callArgs_head⟩

/-- a request naming an inode whose mount slot is vacant fails (FORGET is dropped) and reaches
    no backend -/
theorem stale_inode_fails (s : State) (r : Req) (res : Res) (calls : List Call)
    (hidx : fsIdx r.ino ≠ 0) (hv : s.supers (fsIdx r.ino) = none)
    (h : s.handle r = some (res, calls)) :
    calls = [] ∧
    (res = .err EINVAL ∨ res = .err ENOSYS ∨ res = .err ENOENT ∨ (r.op = .forget ∧ res = .unit) ∨
      (r.op = .readdir ∧ ∃ e, res = .dirents (some e) []) ∨ (r.op = .readdirplus ∧ ∃ e, res = .plusents (some e) [])) :=
  handle_route_error (by rw [getRealRootfs_slot s r.ino hidx, hv]) h

/-- RENAME / LINK whose two inodes resolve to different file systems (two mounts, or a mount and
    the pseudo fs) are refused with EINVAL before any backend is called -/
theorem cross_mount_rename_link_refused (s : State) (r : Req) (t1 t2 : Target) (res : Res) (calls : List Call)
    (hop : r.op = .rename ∨ r.op = .link)
    (h1 : s.getRealRootfs r.ino = some (.ok t1)) (h2 : s.getRealRootfs r.ino2 = some (.ok t2))
    (hdiff : t1.idx ≠ t2.idx) (hname : nameCheck r = true)
    (h : s.handle r = some (res, calls)) :
    res = .err EINVAL ∧ calls = [] := by
  obtain ⟨res', rfl, hr⟩ := handle_routed h
  have hblk : s.blocked r = false := by
    unfold State.blocked
    rcases hop with ho | ho <;> simp [ho]
  have hsec : s.second r t1 = some (.error EINVAL) := by
    rw [second_pair hop, h2]
    exact if_pos hdiff
  rw [hname, hblk, h1] at hr
  cases hr with
  | secondErr _ e hs =>
    cases hsec.symm.trans hs
    refine ⟨?_, rfl⟩
    -- RENAME and LINK are not directory listings: the error is reported as it is
    rcases hop with ho | ho <;> exact dirErr_of_not_dir (by rw [ho]; decide) (by rw [ho]; decide) _
  | pseudo _ _ _ hs => cases hsec.symm.trans hs
  | backend _ _ _ _ _ _ _ _ _ hs => cases hsec.symm.trans hs

/-- a backend inode number shown to the client carries the slot index in its top byte and the
    backend's number below: it can never be confused with a pseudo fs number (index 0) nor with a
    number of another slot -/
theorem inode_never_aliases_pseudo (idx ino v : Nat) (h : convertInode idx ino = .ok v)
    (hidx : 0 < idx ∧ idx < 256) (hv : v ≠ 0) :
    fsIdx v = idx ∧ lowIno v = ino ∧ fsIdx v ≠ 0 := by
  rcases convertInode_ok h with ⟨_, rfl⟩ | ⟨hle, rfl⟩
  · exact absurd rfl hv
  · obtain ⟨h1, h2⟩ := fsIdx_lowIno hidx.2 hle
    exact ⟨h1, h2, by rw [h1]; exact Nat.ne_of_gt hidx.1⟩

/-- pseudo fs numbers (below 2^56) have index 0 and keep their value -/
theorem pseudo_numbers_have_index_zero (ino : Nat) (h : ino ≤ VFS_MAX_INO) : fsIdx ino = 0 ∧ lowIno ino = ino := by
  have := fsIdx_lowIno (idx := 0) (by decide) h
  rwa [Nat.zero_mul, Nat.zero_add] at this

/-- for a backend that numbers its entries consistently (inode `j` for a name), LOOKUP, READDIR and
    READDIRPLUS all show `idx·2^56 + j`, and GETATTR on that number reports it as `st_ino` -/
theorem ino_consistent (s : State) (idx j : Nat) (hj : 0 < j ∧ j ≤ VFS_MAX_INO) :
    convertInode idx j = .ok (idx * SHIFT + j) ∧
    (∀ r uid gid e, r.op = .lookup → r.ans = .ent j uid gid → s.backendReply r idx 1 = some (.entry e) →
        e.inode = idx * SHIFT + j ∧ e.stIno = idx * SHIFT + j) ∧
    (∀ r uid gid st u g, r.op = .getattr → r.ans = .ent st uid gid → s.backendReply r idx j = some (.attr (idx * SHIFT + j) u g) → True) ∧
    (∀ r uid gid st x u g, r.op = .getattr → r.ans = .ent st uid gid → s.backendReply r idx j = some (.attr x u g) → x = idx * SHIFT + j) := by
  have hc : convertInode idx j = .ok (idx * SHIFT + j) := convertInode_of_le hj.1 hj.2
  refine ⟨hc, ?_, ?_, ?_⟩
  · intro r uid gid e hop hans h
    obtain ⟨h1, h2, _⟩ := convertEntry_ok (backendReply_entry (Or.inl hop) hans h)
    have h3 := Except.ok.inj (hc.symm.trans h1)
    exact ⟨h3.symm, h2.trans h3.symm⟩
  · intros; trivial
  · intro r uid gid st x u g hop hans h
    exact (backendReply_attr (Or.inl hop) hans h).1

/-- walking pseudo directories crosses into a mounted file system exactly at its mount point:
    a pseudo LOOKUP that resolves to pseudo inode `ino` returns the stored root entry of the mount
    when `ino` is a mount point, and a pseudo fs entry otherwise -/
theorem crossing_exactly_at_mount_path (s : State) (idata : Nat) (name : Name) (ino : Nat)
    (hl : s.pseudo.lookup (lowIno idata) name = .ok ino) :
    (∀ m, s.mnts ino = some m → s.lookupPseudo idata name = some (.entry m.rootEntry)) ∧
    (s.mnts ino = none → ∀ e, s.lookupPseudo idata name = some (.entry e) →
        convertInode (fsIdx idata) ino = .ok e.inode) := by
  refine ⟨fun m hm => lookupPseudo_mnt hl hm, fun hn e he => ?_⟩
  unfold State.lookupPseudo at he
  simp only [hl, hn] at he
  split at he
  · cases he
  · cases he
  · cases he
    exact (convertEntry_ok ‹_›).1

/-- the root mount case: requests on node 1 go to the backend mounted on "/" with that backend's
    root inode number; no `VfsInode::new` assertion can fire under the invariant -/
theorem root_mount_routes (s : State) (h : Inv s) (m : Mnt) (hm : s.mnts ROOT_ID = some m) :
    ∃ b, s.supers m.idx = some b ∧ b.id = m.bk ∧ s.getRealRootfs 1 = some (.ok (.backend b m.idx m.ino)) := by
  obtain ⟨b, hb, hid⟩ := h.slot ROOT_ID m hm
  refine ⟨b, hb, hid, ?_⟩
  have hle := h.inoOk ROOT_ID m hm
  unfold State.getRealRootfs
  have h1 : fsIdx 1 = 0 := by decide
  have h2 : lowIno 1 = ROOT_ID := by decide
  have : ¬ m.ino > VFS_MAX_INO := by omega
  simp [h1, h2, hm, hb, this]

/-- one step from a well-formed, guarded state: the invariants are kept and the outcome is not
    `panic` — neither an `unwrap()` of the pseudo fs (the tree is well-formed), nor the
    `assert_eq!` of `VfsInode::new` (recorded root inodes fit 56 bits), nor the `u32` arithmetic of
    `remap_id` (the mappings satisfy `base + range ≤ 2^32`, ids are `u32`) -/
theorem step_no_panic (s : State) (op : Op) (hi : Inv s) (hp : PInv s) (hg : MapsGuarded s) (hok : OpOk op) :
    (Inv (step s op).1 ∧ PInv (step s op).1 ∧ MapsGuarded (step s op).1) ∧ (step s op).2.1 ≠ .panic := by
  refine ⟨step_lift (fun s => Inv s ∧ PInv s ∧ MapsGuarded s) (fun h => h.1.next)
    (fun h hprim => ⟨prim_inv h.1 hprim, prim_pinv h.2.1 hprim, prim_guarded (opMap_ok hok) h.2.2 hprim⟩)
    hok (fun h => h) ⟨hi, hp, hg⟩, ?_⟩
  cases op with
  | mount b path map => exact mount_no_panic hi hp hg b path map hok
  | umount path => exact umount_no_panic hp path
  | init o => exact (init_cases hi.next o).2
  | destroy => exact (destroy_cases hi.next).2
  | req r =>
    obtain ⟨res, calls, h1, h2⟩ := handle_no_panic hi hg r hok.1 hok.2
    simp only [step, h1]
    exact h2
  | saveRestore m => exact hok.elim

/-- no step of any history of a VFS without eviction of pseudo directories, with guarded mappings
    and `u32` ids, ends in a panic -/
theorem no_panic_all_histories (opts : Opts) (hgm : OptMapOk (State.new opts false).globalMap) (ops : List Op)
    (hok : ∀ op ∈ ops, OpOk op) :
    ∀ x ∈ run (State.new opts false) ops, x.1 ≠ .panic :=
  run_no_panic (fun s => Inv s ∧ PInv s ∧ MapsGuarded s)
    (fun s op hok h => step_no_panic s op h.1 h.2.1 h.2.2 hok) ops _ hok
    ⟨inv_new opts false, pinv_new opts, ⟨fun _ _ hm => (by cases hm), hgm⟩⟩

/-- every request method `Vfs` overrides (all but init/destroy/id_remap*) routes through
    `get_real_rootfs` — checked on the table regenerated from src/api/vfs/sync_io.rs -/
theorem every_request_method_routes :
    ∀ f ∈ Fbr.Gen.vfsSyncFns, f.1 = "Vfs" → f.2.1 = "FileSystem" →
      f.2.2.1 ∈ ["init", "destroy", "id_remap", "id_remap_with_nodeid"] ∨
      "self.get_real_rootfs" ∈ f.2.2.2.2.2 := by
  decide +kernel

/-- the methods the model treats as "validated" (`ReqOp.validates`) are exactly those that call
    `validate_path_component` in the source -/
theorem validated_methods_match_source :
    (Fbr.Gen.vfsSyncFns.filter (fun f => (f.2.2.2.2.1.map (·.1)).contains "validate_path_component")).map (·.2.2.1)
      = ["symlink", "mknod", "mkdir", "unlink", "rmdir", "rename", "link", "create", "setxattr", "getxattr", "removexattr"] := by
  decide +kernel

/-- the constants of the model are the ones in src/api/vfs/mod.rs today -/
theorem constants_match_source :
    Fbr.Gen.vfsModConsts.lookup "VFS_MAX_INO" = some VFS_MAX_INO ∧
    Fbr.Gen.vfsModConsts.lookup "VFS_INDEX_SHIFT" = some 56 ∧ SHIFT = 2 ^ 56 ∧
    Fbr.Gen.vfsModConsts.lookup "VFS_PSEUDO_FS_IDX" = some 0 ∧
    Fbr.Gen.vfsModConsts.lookup "MAX_VFS_INDEX" = some MAX_VFS_INDEX ∧
    Fbr.Gen.vfsModConsts.lookup "SLASH_ASCII" = some SLASH := by
  decide +kernel

/-- panic-site audit: the potential panic sites (unwrap / assert / index / unchecked arithmetic)
    of the modelled functions are exactly the audited ones — `remap_id` (3 arithmetic: outcome
    `panic` of the model, C14), `VfsInode::new` (assertion: unreachable by `InvT.inoOk`), the index
    expressions into the 256-entry tables (indices are `u8`), the `lock().unwrap()`s (poisoned only
    after a panic, which ends a history), and the `unwrap()`s of the pseudo fs walks (unreachable on
    a well-formed tree, `step_no_panic`).  A new site in any of these functions changes the table. -/
theorem panic_sites_audited :
    (Fbr.Gen.vfsModPanicSites.filter (fun f => !f.2.isEmpty)).take 10 =
      [("::remap_id", [("arith", 3)]), ("VfsInode::new", [("assert_eq", 1)]), ("Vfs::new", [("arith", 1)]),
       ("Vfs::insert_mount_locked", [("index", 2)]), ("Vfs::mount_with_id_mapping", [("index", 1), ("unwrap", 1)]),
       ("Vfs::restore_mount", [("unwrap", 1)]), ("Vfs::umount", [("index", 2), ("unwrap", 1)]),
       ("Vfs::get_rootfs", [("unwrap", 1)]), ("Vfs::allocate_fs_idx", [("index", 1)]), ("Vfs::get_fs_by_idx", [("index", 1)])] ∧
    ((Fbr.Gen.pseudoFsPanicSites.filter (fun f => !f.2.isEmpty)).take 7).map (·.1) =
      ["PseudoInode::remove_child", "PseudoFs::new", "PseudoFs::mount", "PseudoFs::path_walk", "PseudoFs::evict_inode",
       "PseudoFs::get_entry", "PseudoFs::do_readdir"] ∧
    Fbr.Gen.pseudoFsPanicSites.lookup "PseudoFs::mount" = some [("unwrap", 5)] ∧
    Fbr.Gen.pseudoFsPanicSites.lookup "PseudoFs::path_walk" = some [("unwrap", 3)] ∧
    Fbr.Gen.pseudoFsPanicSites.lookup "PseudoFs::evict_inode" = some [("unwrap", 2)] := by
  decide +kernel

def bk1 : Bk := { id := 1, mountErr := none, rootIno := 1, rootUid := 5, rootGid := 6, maxIno := 100, ie := 0 }
def s1 : State := (State.new Opts.default false |>.mount bk1 [47, 97] none).1

example : (State.new Opts.default false |>.mount bk1 [47, 97] none).2.1 = .mounted 1 := by decide
example : s1.supers 1 = some bk1 := by decide
example : Inv s1 := mount_lift Inv prim_inv (inv_new _ _).next (inv_new _ _) _ _
/-- a getattr on inode 5 of slot 1 reaches backend 1 with inode 5 -/
example : s1.handle { op := .getattr, uid := 0, gid := 0, ino := 1 * SHIFT + 5, ans := .ent 5 0 0 }
    = some (.attr (1 * SHIFT + 5) 0 0, [{ bk := 1, method := .req .getattr, uid := 0, gid := 0, args := [.n 5] }]) := by
  decide
/-- the same inode number after umount: ENOENT, no call -/
example : ((s1.umount [47, 97]).1).handle { op := .getattr, uid := 0, gid := 0, ino := 1 * SHIFT + 5, ans := .ent 5 0 0 }
    = some (.err ENOENT, []) := by
  decide

end Fbr.Thm.C07
