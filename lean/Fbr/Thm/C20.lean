/-
  C20 — The asynchronous request path behaves exactly like the synchronous one.

  PROPERTY THEOREMS ONLY (helpers: `Fbr.Lemmas.SrvAsyncEq`).  Models: `Fbr.SrvAsync.handle`
  (async_io.rs) and `Fbr.Srv.handle` (sync_io.rs) over the same file system function; both are
  tied to the real code by the `srv` correspondence run in async mode, whose direct oracle also
  runs BOTH real request paths on every generated request and compares calls, reply bytes and
  return value.

  Full statement of the property:  ∀ cfg fs req, forget (SrvAsync.handle cfg fs req) = Srv.handle cfg fs req.
  It is FALSE of the code for one family of inputs, recorded as a known finding
  (`C20:write:size-over-1MiB`): `async_write` refuses a WRITE whose `size` field exceeds 1 MiB
  before calling the file system, the synchronous handler passes it on
  (`write_oversize_counterexample`).  `async_eq_sync_partial` proves the statement for every
  other request.  The second hypothesis is not a restriction of the server: the
  `AsyncFileSystem` trait has no way to return a passthrough id from `open`/`create`, so a file
  system that answers both traits consistently never returns one (`NoPassthrough`).

  What holds of every request and every file system, with no hypothesis, is `forget_handleBodyA` /
  `forget_afterRemapA` (`Fbr.Lemmas.SrvAsyncEq`): past the remap call the asynchronous path is the
  synchronous one over a file system whose OPEN and CREATE answers have lost their passthrough id
  (`seenBy`), except that a WRITE whose structure is present and asks for more than 1 MiB is answered
  ENOMEM.  The theorems below are that statement under the two hypotheses.
-/
import Fbr.Lemmas.SrvAsyncEq
import Fbr.SrvSpec
import Fbr.Gen.Server

namespace Fbr.Thm.C20
open Fbr.Srv Fbr.SrvAsync Fbr.Wire

/-- Today's async dispatch arms and async handlers are the ones `Fbr.SrvAsync` was written from. -/
theorem async_dispatch_as_modelled :
    Gen.srvAsyncDispatch = SrvSpec.expectedAsyncDispatch ∧ Gen.srvAsyncFns = SrvSpec.expectedAsyncFns :=
  ⟨rfl, rfl⟩

/-- the file system never returns a passthrough id (the async trait cannot carry one) -/
def NoPassthrough (fs : Call → Ans) : Prop :=
  (∀ c fh o pt, fs c = .opened fh o pt → pt = none) ∧ (∀ c e fh o pt, fs c = .created e fh o pt → pt = none)

/-- the `size` field of a WRITE request -/
def writeSize (req : Bytes) : Nat := u32At ((req.drop IN_HDR).take 40) 16

theorem handleBody_unknown (cfg : Cfg) (fs : Call → Ans) (ctx : Ctx) (calls0 : List Call)
    (hdrLen op u nodeid : Nat) (r : Bytes) (h1 : asyncOps.contains op = false) (h2 : syncRouted op = false) :
    handleBody cfg fs ctx calls0 hdrLen op u nodeid r = errRes cfg u calls0 [] (.os ENOSYS) :=
  handleBody_unrouted h1 h2

theorem simple_open_eq (cfg : Cfg) (fs : Call → Ans) (u : Nat) (calls0 : List Call) (c : Call)
    (hpt : NoPassthrough fs) :
    simple cfg fs u calls0 c [] openBodyA =
      simple cfg fs u calls0 c [] (fun a => match a with
        | .opened fh opts pt => some (openOutBytes fh opts pt, [])
        | _ => none) := by
  unfold simple finish
  cases h : fs c <;> simp only [openBodyA]
  next fh o pt => rw [hpt.1 c fh o pt h]

theorem simple_create_eq (cfg : Cfg) (fs : Call → Ans) (u : Nat) (calls0 : List Call) (c : Call)
    (al : List Nat) (hpt : NoPassthrough fs) :
    simple cfg fs u calls0 c al createBodyA =
      simple cfg fs u calls0 c al (fun a => match a with
        | .created e fh opts pt => some (entryOutBytes (Conv.entryOutOfEntry e), openOutBytes fh opts pt)
        | _ => none) := by
  unfold simple finish
  cases h : fs c <;> simp only [createBodyA]
  next e fh o pt => rw [hpt.2 c e fh o pt h]

/-- per-opcode agreement of the ten async handlers with their synchronous twins -/
theorem handleBodyA_eq (cfg : Cfg) (fs : Call → Ans) (ctx : Ctx) (calls0 : List Call)
    (hdrLen op u nodeid : Nat) (r : Bytes) (hpt : NoPassthrough fs)
    (hw : ¬ (op = 16 ∧ u32At (r.take 40) 16 > MAX_BUFFER_SIZE)) :
    forget (handleBodyA cfg fs ctx calls0 hdrLen op u nodeid r) =
      handleBody cfg fs ctx calls0 hdrLen op u nodeid r := by
  rw [forget_handleBodyA, if_neg fun h => hw ⟨h.1, h.2.2⟩, seenBy_eq op hpt.1 hpt.2]

/-- **The asynchronous path observes exactly like the synchronous one** — same file-system
    calls with the same arguments, same reply bytes (or the same absence of a reply), same
    return value, same negotiated version — for every request byte string, transport and
    capacity, except WRITE requests whose size field exceeds 1 MiB (known finding). -/
theorem async_eq_sync_partial (cfg : Cfg) (fs : Call → Ans) (req : Bytes) (hpt : NoPassthrough fs)
    (hw : ¬ (opOf req = 16 ∧ writeSize req > MAX_BUFFER_SIZE)) :
    forget (SrvAsync.handle cfg fs req) = Srv.handle cfg fs req := by
  have after : ∀ a, forget (afterRemapA cfg fs req a) = afterRemap cfg fs req a := by
    intro a
    rw [forget_afterRemapA, if_neg fun h => hw ⟨h.1, h.2.2⟩, seenBy_eq _ hpt.1 hpt.2]
  unfold SrvAsync.handle Srv.handle
  split
  · rfl
  · cases fs (remapCall req) <;> first | rfl | exact after _

/-- the divergence that remains: a WRITE with `size = 2^20 + 1` reaches the file system on the
    synchronous path and is refused with ENOMEM on the asynchronous one -/
theorem write_oversize_counterexample :
    let hdr := le32 80 ++ le32 16 ++ le64 1 ++ le64 1 ++ le32 0 ++ le32 0 ++ le32 0 ++ le32 0
    let body := le64 0 ++ le64 0 ++ le32 (2 ^ 20 + 1) ++ le32 0 ++ le64 0 ++ le32 0 ++ le32 0
    let cfg : Cfg := { fusedev := true, cap := 4096 }
    let fs : Call → Ans := fun _ => .count 0
    (forget (SrvAsync.handle cfg fs (hdr ++ body))).calls.length = 1 ∧
    (Srv.handle cfg fs (hdr ++ body)).calls.length = 2 := by
  decide

/-- non-vacuity of the hypotheses -/
example : NoPassthrough (fun _ => Ans.opened (some 3) 0 none) :=
  ⟨by intro c fh o pt h; cases h; rfl, by intro c e fh o pt h; cases h⟩

end Fbr.Thm.C20
