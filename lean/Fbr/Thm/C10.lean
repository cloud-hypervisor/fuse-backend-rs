/-
  C10 — the overlay shows the overlayfs union of its layers and never modifies lowers.
  PROPERTY THEOREMS ONLY (helper lemmas: Fbr/Lemmas/Ovl*.lean).  Model: Fbr/Ovl.lean.
-/
import Fbr.Lemmas.OvlAll

namespace Fbr.Thm.C10
open Fbr.Ovl

/-! ## merge algebra: what the SPEC `merge` means
  `cands d pp n` (Fbr.Lemmas.OvlMerge) are the layers, topmost first, that take part in the merged
  directory `pp` and have an entry called `n`. -/

/-- Topmost wins: what is visible at `pp/n` is the entry of the topmost contributing layer
    (nothing when that entry is a whiteout). -/
theorem topmost_wins (d : Disk) (pp : Path) (n : Name) (i : Nat) (rest : List Nat)
    (h : cands d pp n = i :: rest) : merge d (n :: pp) = (d.nodeAt i (n :: pp)).view := by
  rw [merge_cons, h]

/-- no layer contributes the name: nothing is visible -/
theorem nothing_from_nothing (d : Disk) (pp : Path) (n : Name) (h : cands d pp n = []) :
    merge d (n :: pp) = .none := by
  rw [merge_cons, h]

/-- Whiteout hides: when the topmost contributing entry is a whiteout, the name and everything
    below it are invisible, whatever the layers underneath contain. -/
theorem whiteout_hides (d : Disk) (pp : Path) (n : Name) (i : Nat) (rest : List Nat)
    (h : cands d pp n = i :: rest) (hw : d.nodeAt i (n :: pp) = .whiteout) :
    ∀ q : Path, merge d (q ++ n :: pp) = .none :=
  merge_below_nil (by rw [stackIdx_cons, h, cutIdx_whiteout hw])

/-- A non-directory on top shadows: a directory of the same name in a lower layer contributes
    nothing, all its children are invisible. -/
theorem file_over_dir_shadows (d : Disk) (pp : Path) (n : Name) (i : Nat) (rest : List Nat)
    (h : cands d pp n = i :: rest) (hnd : (d.nodeAt i (n :: pp)).isDir = false) :
    ∀ (m : Name) (q : Path), merge d (q ++ m :: n :: pp) = .none := by
  refine fun m => merge_below_nil ?_
  -- the stack at `pp/n` is empty or `[i]`, and `i` contributes no children
  rw [stackIdx_cons, cands, stackIdx_of_cands h, visIdx, if_neg (by simp [hnd])]
  split <;> simp [hnd, cutIdx_nil]

/-- Opaque cuts: below an opaque directory only its own layer is consulted. -/
theorem opaque_cuts (d : Disk) (pp : Path) (n : Name) (i : Nat) (rest : List Nat)
    (h : cands d pp n = i :: rest) (ho : (d.nodeAt i (n :: pp)).isOpaqueDir = true) (m : Name) :
    stackIdx d (n :: pp) = [i] ∧ merge d (m :: n :: pp) = (d.nodeAt i (m :: n :: pp)).view := by
  have hd : (d.nodeAt i (n :: pp)).isDir = true := by
    cases hn : (d.nodeAt i (n :: pp)).isDir with
    | true => rfl
    | false => rw [Node.not_opaque_of_not_dir hn] at ho; cases ho
  have h1 : stackIdx d (n :: pp) = [i] := by
    rw [stackIdx_of_cands h, visIdx_of_dir hd, dirsIdx_of_opaque hd ho]
  refine ⟨h1, ?_⟩
  cases ha : (d.nodeAt i (m :: n :: pp)).isAbsent with
  | true => rw [nothing_from_nothing d _ m (by simp [cands, h1, hd, ha]), Node.eq_absent ha]; rfl
  | false => exact topmost_wins d _ m i [] (by simp [cands, h1, hd, ha])

/-- A directory over a non-directory: the lower entry and everything under it is cut off, the
    merged directory consists of the upper directory alone. -/
theorem dir_over_file_shadows (d : Disk) (pp : Path) (n : Name) (i j : Nat) (rest : List Nat)
    (h : cands d pp n = i :: j :: rest) (hd : (d.nodeAt i (n :: pp)).isDir = true)
    (hf : (d.nodeAt j (n :: pp)).isDir = false) :
    stackIdx d (n :: pp) = [i] := by
  -- opaque or not, `i` is kept and nothing of `j :: rest` is
  rw [stackIdx_of_cands h, visIdx_of_dir hd]
  cases ho : (d.nodeAt i (n :: pp)).isOpaqueDir with
  | true => exact dirsIdx_of_opaque hd ho
  | false => rw [dirsIdx_of_plain hd ho, dirsIdx_of_nondir hf]

/-- Directories merge: two non-opaque directories on top both take part, and a name that only
    the lower one has is visible through the merged directory. -/
theorem dirs_merge (d : Disk) (pp : Path) (n m : Name) (i j : Nat) (rest : List Nat)
    (h : cands d pp n = i :: j :: rest)
    (hi : ∃ mo x, d.nodeAt i (n :: pp) = .dir mo 0 x) (hj : (d.nodeAt j (n :: pp)).isDir = true)
    (hmi : d.nodeAt i (m :: n :: pp) = .absent) (hmj : (d.nodeAt j (m :: n :: pp)).isAbsent = false) :
    merge d (m :: n :: pp) = (d.nodeAt j (m :: n :: pp)).view := by
  obtain ⟨mo, x, hi⟩ := hi
  -- both directories take part in `pp/n`; of the two only `j` has an entry `m`
  have hdi : (d.nodeAt i (n :: pp)).isDir = true := by rw [hi]; rfl
  have hoi : (d.nodeAt i (n :: pp)).isOpaqueDir = false := by rw [hi]; rfl
  have h1 : ∃ tl, stackIdx d (n :: pp) = i :: j :: tl := by
    obtain ⟨tl, htl⟩ := dirsIdx_head rest hj
    exact ⟨tl, by rw [stackIdx_of_cands h, visIdx_of_dir hdi, dirsIdx_of_plain hdi hoi, htl]⟩
  obtain ⟨tl, h1⟩ := h1
  exact topmost_wins d _ m j _ (by
    rw [cands, h1, List.filter_cons_of_neg (by simp [hmi, Node.isAbsent]), List.filter_cons_of_pos (by simp [hj, hmj])])

/-! non-vacuity: a concrete three-layer disk exercising every rule -/
section Examples

/-- upper: `a` whiteout, `b` opaque dir with `b/x`, `c` dir with `c/u`;
    lower1: `a` file, `b` dir with `b/y`, `c` dir with `c/v`, `d` file; lower2: `d` dir with `d/z` -/
def exUpper : Layer := fun q =>
  if q = [] then .dir 0o755 0 0 else if q = [0] then .whiteout else if q = [1] then .dir 0o755 1 0
  else if q = [3, 1] then .file 1 0o644 [7] 0 else if q = [2] then .dir 0o700 0 0
  else if q = [4, 2] then .file 2 0o600 [] 0 else .absent
def exLower1 : Layer := fun q =>
  if q = [] then .dir 0o755 0 0 else if q = [0] then .file 3 0o644 [1] 0 else if q = [1] then .dir 0o711 0 0
  else if q = [4, 1] then .file 4 0o644 [2] 0 else if q = [2] then .dir 0o755 0 0
  else if q = [3, 2] then .symlink 5 else if q = [3] then .file 5 0o444 [3] 0 else .absent
def exLower2 : Layer := fun q =>
  if q = [] then .dir 0o755 0 0 else if q = [3] then .dir 0o755 0 0
  else if q = [0, 3] then .file 6 0o644 [4] 0 else .absent
def exDisk : Disk := { upper := some exUpper, lowers := [exLower1, exLower2] }

example : merge exDisk [0] = .none := by decide +kernel                       -- whiteout hides lower file
example : merge exDisk [1] = .dir 0o755 0 := by decide +kernel                -- topmost wins
example : merge exDisk [3, 1] = .file 0o644 [7] 0 := by decide +kernel        -- opaque dir keeps its own
example : merge exDisk [4, 1] = .none := by decide +kernel                    -- opaque cuts lower b/y
example : merge exDisk [4, 2] = .file 0o600 [] 0 := by decide +kernel         -- dirs merge: upper c/u
example : merge exDisk [3, 2] = .symlink 5 := by decide +kernel               -- dirs merge: lower c/v
example : merge exDisk [3] = .file 0o444 [3] 0 := by decide +kernel           -- file over dir
example : merge exDisk [0, 3] = .none := by decide +kernel                    -- ... shadows d/z
example : cands exDisk [] 2 = [0, 1] := by decide +kernel

end Examples

/-! ## lower layers are never modified

  `run (importFs d) ops` is the state after `OverlayFs::new` + `import` over the disk `d` and the
  history `ops` (any layer contents, any operations, any length).  `log` holds every call of a
  mutating layer method (mkdir, create, mknod, symlink, link, unlink, rmdir, setattr, setxattr,
  removexattr, write, open-for-write, create_whiteout, delete_whiteout, set_opaque) the overlay
  issued, with the index of the layer it was issued on (0 = upper). -/

/-- Every mutating call the overlay ever issues is issued on the upper layer, and the lower
    layers of the disk are, as functions, exactly the ones the history started with — for every
    initial disk and every history.  (Proved through the invariant "a real inode flagged
    `in_upper_layer` belongs to layer 0", which `RealInode`'s mutators and the direct
    `layer.<method>` call sites rely on.) -/
theorem lowers_never_mutated (d : Disk) (ops : List Op) :
    (∀ c ∈ (run (importFs d) ops).log, c.layer = 0) ∧ (run (importFs d) ops).disk.lowers = d.lowers :=
  (run_inv ops _ (import_inv d)).upper

/-- the same for a single operation from any state reachable that way, including failed ones -/
theorem step_keeps_lowers (d : Disk) (ops : List Op) (op : Op) :
    (runOp op (run (importFs d) ops)).st.disk.lowers = d.lowers :=
  ((runOp_inv op).st (run_inv ops _ (import_inv d))).upper.2

/-- Without an upper layer nothing is ever changed: no mutating call is issued on any layer and
    the disk stays literally the same, whatever the history. -/
theorem no_upper_changes_nothing (d : Disk) (hd : d.upper = none) (ops : List Op) :
    (run (importFs d) ops).log = [] ∧ (run (importFs d) ops).disk = d := by
  exact (run_inv ops _ (import_inv d)).noUpper hd

/-- Without an upper layer every modifying operation (create, mkdir, mknod, symlink, link,
    unlink, rmdir, open for writing, write, chmod, truncate, setxattr, removexattr) fails, after
    any history, and leaves the disk and the (empty) call log as they were. -/
theorem no_upper_modifying_fails (d : Disk) (hd : d.upper = none) (ops : List Op) (op : Op)
    (hm : op.isModifying = true) :
    ∃ e s', runOp op (run (importFs d) ops) = .err e s' ∧ s'.disk = d ∧ s'.log = [] := by
  have h := run_inv ops _ (import_inv d)
  have hf := runOp_fails hd op hm _ h
  cases hr : runOp op (run (importFs d) ops) with
  | ok a s' => exact (hf.1 a s' hr).elim
  | err e s' =>
    have h' := (hf.2 e s' hr).noUpper hd
    exact ⟨e, s', rfl, h'.2, h'.1⟩

/-! ## the visible tree is the union

  `liveView s p` is what a client gets by walking the (root-first) path `p` through the overlay
  in state `s` (LOOKUP per component, then the node's attributes / content / target / xattr from
  the real inode the overlay would use); `merge d q` is the SPEC at the leaf-first path `q`.
  `Disk.RootsOK` (every layer root is a directory) and `Disk.TreesOK` (every layer is a tree:
  whatever exists lies in a directory) are the only assumptions on the layers. -/

/-- Whenever the in-memory forest is a valid cache of the disk (`Consistent`: every node keeps
    exactly the real inodes `scan_childrens`/`new_from_real_inodes` would compute from the disk
    now, loaded directories list exactly the names that have any), the live view at EVERY path
    equals the overlayfs union of the layers. -/
theorem view_is_merge_of_consistent (s : St) (hc : Consistent s) (p : List Name) :
    liveView s p = merge s.disk p.reverse :=
  consistent_view_is_merge s hc p

/-- A freshly imported overlay shows exactly the overlayfs union of its layers — for every
    layer contents (any number of lowers, with or without upper, whiteouts, opaque directories,
    same names as files and directories in several layers) and every path of any depth. -/
theorem fresh_view_is_merge (d : Disk) (hr : d.RootsOK) (ht : d.TreesOK) (p : List Name) :
    liveView (importFs d) p = merge d p.reverse := by
  rw [consistent_view_is_merge _ (import_consistent d hr ht), importFs_disk]

/-- `view_is_merge`: after ANY history of operations — all 19 kinds: lookup, readdir, read,
    readlink, getxattr, open (any flags), walk, write, chmod, truncate, setxattr, removexattr (with
    copy-up of files, symlinks, special files and of any chain of missing parent directories),
    create, mkdir, mknod, symlink (over nothing, over an upper whiteout, over a lower whiteout;
    `set_opaque` included), link (both copy-ups included), unlink and rmdir (with or without
    whiteout, `lower_entry_exists` and the clearing of upper whiteouts by `empty_node_directory`
    included), successful or failed — from ANY initial disk whose layers are trees with directory
    roots, the live view at EVERY path is the overlayfs union of what is on disk then.

    Proof: the in-memory forest stays a valid cache of the disk (`Consistent`) over every
    operation (`Fbr.Ovl.runOp_cons_all`).  For `rmdir` the invariant is broken inside the
    operation (upper whiteouts are deleted before the directory itself goes); that window is
    described exactly (`Fbr.Ovl.RmReady`) and the end of `do_rm` re-establishes the invariant. -/
theorem view_is_merge (d : Disk) (hr : d.RootsOK) (ht : d.TreesOK) (ops : List Op) (p : List Name) :
    liveView (run (importFs d) ops) p = merge (run (importFs d) ops).disk p.reverse := by
  exact consistent_view_is_merge _ (run_cons_all ops _ (import_consistent d hr ht)) p

/-- every operation kind keeps the cache invariant, one at a time, from any state with a valid
    cache, whether the operation succeeds or fails -/
theorem every_op_keeps_cache (s : St) (hc : Consistent s) (op : Op) : Consistent (runOp op s).st :=
  (runOp_cons_all op).st hc

/-- the cache is valid after every history -/
theorem cache_valid_after_history (d : Disk) (hr : d.RootsOK) (ht : d.TreesOK) (ops : List Op) :
    Consistent (run (importFs d) ops) :=
  run_cons_all ops _ (import_consistent d hr ht)

/-- `view_is_merge` for histories of the operations in `Op.covered` -/
theorem view_is_merge_partial (d : Disk) (hr : d.RootsOK) (ht : d.TreesOK) (ops : List Op)
    (_hops : ∀ op ∈ ops, op.covered = true) (p : List Name) :
    liveView (run (importFs d) ops) p = merge (run (importFs d) ops).disk p.reverse :=
  view_is_merge d hr ht ops p

/-- `every_op_keeps_cache` for an operation in `Op.covered` -/
theorem covered_op_keeps_cache (s : St) (hc : Consistent s) (op : Op) (_hop : op.covered = true) :
    Consistent (runOp op s).st :=
  every_op_keeps_cache s hc op

/-! ## operations update the union as an ordinary file system would

  `op_refines_plain_fs` is proved in pieces; see `op_refines_plain_fs_partial` for what exactly is
  and is not covered. -/

/-- Non-modifying operations (lookup, readdir, read, readlink, getxattr, open read-only, walk)
    leave the union unchanged at every path, as they leave an ordinary file system unchanged —
    after ANY history (of all 19 operation kinds), whether they succeed or fail.  They leave the
    disk itself as it is, from any state (`Fbr.Ovl.runOp_ro_disk`): the two well-formedness
    hypotheses are not used, here and in `op_refines_plain_fs_partial`. -/
theorem readonly_op_refines_plain_fs (d : Disk) (hr : d.RootsOK) (ht : d.TreesOK) (ops : List Op)
    (op : Op) (hop : op.isModifying = false) :
    merge (runOp op (run (importFs d) ops)).st.disk = merge (run (importFs d) ops).disk := by
  rw [runOp_ro_disk op hop]

/-- `op_refines_plain_fs`, PARTIAL.  What is proved, each from ANY state with a valid cache (hence
    after any history, `cache_valid_after_history`):
    (1) non-modifying operations change the union nowhere (`readonly_op_refines_plain_fs`; this
        theorem states it for read-only histories, against the initial disk);
    (2) for each of the 13 modifying operations, what the union shows AT THE TARGET PATH after a
        successful operation: `unlink_refines_plain_fs`, `rmdir_refines_plain_fs` (gone, with
        everything below), `create_` / `mknod_` / `symlink_` / `mkdir_refines_plain_fs` (the new entry;
        a new directory is empty), `link_refines_plain_fs` (the new name shows what the old name
        shows), `chmod_` / `truncate_` / `write_` / `open_` / `setxattr_` / `removexattr_refines_plain_fs`
        (the old entry changed as chmod(2) / ftruncate(2) / pwrite(2) / open(O_TRUNC) / setxattr(2)
        change it, with type, mode, content and target carried over a copy-up);
    (3) every operation, successful or failed, keeps live view = union (`view_is_merge`).
    (4) the FRAME for the six operations that only add or remove a name (create, mkdir, mknod,
        symlink, unlink, rmdir), successful or failed: the union at every path outside the target's
        subtree is unchanged up to xattrs (`namespace_op_frame`); a failed unlink / rmdir changes
        the union nowhere (`failed_remove_changes_nothing`).
    NOT proved in Lean (the reason for `_partial`): the frame for link and for the six
    attribute-changing operations (chmod, truncate, write, open-for-write, setxattr,
    removexattr: that the union at all OTHER paths is unchanged), and which errno an operation
    answers.  The frame holds only up to the `user.*` xattrs of entries that get copied up (known
    finding `C10:copy-up:xattr-lost`); for the attribute-changing operations and link it is in
    addition not expressible over this view type, which carries no inode identity (a chmod or
    write through one hard link is visible through the other), and file copy-up would need an
    "inode ids on disk are below `nextId`" invariant in the model.  Those parts rest on the
    harness's ordinary-directory reference run (`C10:not-plain-fs:*`). -/
theorem op_refines_plain_fs_partial (d : Disk) (hr : d.RootsOK) (ht : d.TreesOK) (ops : List Op)
    (hops : ∀ op ∈ ops, op.isModifying = false) (op : Op) (hop : op.isModifying = false) :
    merge (runOp op (run (importFs d) ops)).st.disk = merge d := by
  rw [runOp_ro_disk op hop, run_ro_disk ops hops, importFs_disk]

/-- a successful unlink removes the name from the union (from any state with a valid cache, in
    particular after any history) -/
theorem unlink_refines_plain_fs (s : St) (hc : Consistent s) (p : List Name) (r : Reply) (s' : St)
    (h : runOp (.unlink p) s = .ok r s') : merge s'.disk p.reverse = .none ∧ Consistent s' := by
  have h1 := runOp_ns_view hc rfl h
  exact ⟨h1.2.1, h1.1⟩

/-- a successful rmdir removes the name and everything that any layer has below it from the
    union: whatever upper whiteouts had to be cleared to empty the upper directory, nothing of
    the lower layers shows through afterwards -/
theorem rmdir_refines_plain_fs (s : St) (hc : Consistent s) (p : List Name) (r : Reply) (s' : St)
    (h : runOp (.rmdir p) s = .ok r s') :
    (∀ q : List Name, merge s'.disk (q ++ p.reverse) = .none) ∧ Consistent s' := by
  have h1 := runOp_ns_view hc rfl h
  exact ⟨h1.2.gone, h1.1⟩

/-- a successful create leaves an empty regular file with the requested mode at the path -/
theorem create_refines_plain_fs (s : St) (hc : Consistent s) (p : List Name) (mode : Nat) (r : Reply) (s' : St)
    (h : runOp (.create p mode) s = .ok r s') :
    merge s'.disk p.reverse = .file mode [] 0 ∧ Consistent s' := by
  obtain ⟨hc', hcr⟩ := runOp_ns_view hc rfl h
  exact ⟨hcr.1, hc'⟩

/-- a successful mknod leaves a special file with the requested mode at the path -/
theorem mknod_refines_plain_fs (s : St) (hc : Consistent s) (p : List Name) (mode : Nat) (r : Reply) (s' : St)
    (h : runOp (.mknod p mode) s = .ok r s') :
    merge s'.disk p.reverse = .other mode ∧ Consistent s' := by
  obtain ⟨hc', hcr⟩ := runOp_ns_view hc rfl h
  exact ⟨hcr.1, hc'⟩

/-- a successful symlink leaves a symbolic link with the requested target at the path -/
theorem symlink_refines_plain_fs (s : St) (hc : Consistent s) (p : List Name) (t : Nat) (r : Reply) (s' : St)
    (h : runOp (.symlink p t) s = .ok r s') :
    merge s'.disk p.reverse = .symlink t ∧ Consistent s' := by
  obtain ⟨hc', hcr⟩ := runOp_ns_view hc rfl h
  exact ⟨hcr.1, hc'⟩

/-- a successful mkdir leaves a directory with the requested mode at the path, and that directory
    is EMPTY in the union — whatever the lower layers have at and below that path (a deleted
    lower directory of the same name does not come back: the F6 property, on the level of the
    union) -/
theorem mkdir_refines_plain_fs (s : St) (hc : Consistent s) (p : List Name) (mode : Nat) (r : Reply) (s' : St)
    (h : runOp (.mkdir p mode) s = .ok r s') :
    merge s'.disk p.reverse = .dir mode 0 ∧
      (∀ (c : Name) (q : List Name), merge s'.disk (q ++ c :: p.reverse) = .none) ∧ Consistent s' := by
  obtain ⟨hc', hcr⟩ := runOp_ns_view hc rfl h
  exact ⟨hcr.1, hcr.2, hc'⟩

/-- a successful link makes the new name show exactly what the old name shows (type, mode,
    content, xattr: they are the same upper file from then on), which is a non-directory -/
theorem link_refines_plain_fs (s : St) (hc : Consistent s) (src dst : List Name) (r : Reply) (s' : St)
    (h : runOp (.link src dst) s = .ok r s') :
    merge s'.disk dst.reverse = merge s'.disk src.reverse ∧ merge s'.disk src.reverse ≠ .none ∧
      (∀ m x, merge s'.disk src.reverse ≠ .dir m x) ∧ Consistent s' := by
  obtain ⟨hc', h1, h2, h3⟩ := (runOp_link_spec s.disk src dst s ⟨hc, rfl⟩).1 r s' h
  exact ⟨h1, h2, h3, hc'⟩

/-- THE FRAME of the six operations that only add or remove a name (create, mkdir, mknod,
    symlink, unlink, rmdir) with target path `p`: whether the operation succeeds or fails, the
    union at EVERY path that is not `p` or below `p` is what it was — up to `user.x` xattrs
    (`dropX`), because parent directories that exist only in lower layers are copied up without
    their xattrs (known finding `C10:copy-up:xattr-lost:dir`).  Together with the target-path
    theorems above (`create_` … `rmdir_refines_plain_fs`) this is the complete plain-file-system
    refinement statement for these operations, modulo that xattr loss: the copy-up of any chain
    of missing parents, the deletion of upper whiteouts by `empty_node_directory`, the new
    whiteout or opaque marker are all invisible in the union. -/
theorem namespace_op_frame (s : St) (hc : Consistent s) (op : Op) (p : List Name)
    (hop : op = .unlink p ∨ op = .rmdir p ∨ (∃ mode, op = .create p mode) ∨ (∃ mode, op = .mkdir p mode) ∨
      (∃ mode, op = .mknod p mode) ∨ (∃ t, op = .symlink p t)) (q : Path)
    (hq : p.reverse.isSuffixOf q = false) :
    (merge (runOp op s).st.disk q).dropX = (merge s.disk q).dropX := by
  obtain ⟨T, hT⟩ : ∃ T, op.nsChange = some (p, T) := by
    rcases hop with rfl | rfl | ⟨mode, rfl⟩ | ⟨mode, rfl⟩ | ⟨mode, rfl⟩ | ⟨t, rfl⟩ <;> exact ⟨_, rfl⟩
  exact (((runOp_ns_spec s.disk hT).post fun _ _ h => h.2.2).onErr fun _ h => h.2).st ⟨hc, rfl⟩ q hq

/-- a FAILED unlink or rmdir leaves the union unchanged at every path, up to xattrs (it may have
    copied parent directories up before failing) -/
theorem failed_remove_changes_nothing (s : St) (hc : Consistent s) (op : Op) (p : List Name)
    (hop : op = .unlink p ∨ op = .rmdir p) (e : Nat) (s' : St) (h : runOp op s = .err e s') (q : Path) :
    (merge s'.disk q).dropX = (merge s.disk q).dropX := by
  rcases hop with rfl | rfl
  · exact ((rmOp_spec s.disk p false _ _ s ⟨hc, rfl⟩).2 e s' h).2 q
  · exact ((rmOp_spec s.disk p true _ _ s ⟨hc, rfl⟩).2 e s' h).2 q

/-! The attribute-changing operations.  `ViewChanged d d' q gv` (Fbr.Lemmas.OvlAttr): at `q` the
    union of `d'` shows `gv w`, where `w` is what the union of `d` showed up to the `user.x` xattr
    (`w.dropX = (merge d q).dropX`): when the node has to be copied up first its type, mode,
    content and link target are preserved and only the xattr is lost (known finding
    `C10:copy-up:xattr-lost`).  `chmodV`, `truncV`, `writeV`, `openV`, `setxV` are the obvious
    changes of a visible node (`pwrite` / `resize` are pwrite(2) / ftruncate(2) on chunk lists). -/

theorem chmod_refines_plain_fs (s : St) (hc : Consistent s) (p : List Name) (mode : Nat) (r : Reply) (s' : St)
    (h : runOp (.chmod p mode) s = .ok r s') :
    Consistent s' ∧ ViewChanged s.disk s'.disk p.reverse (chmodV mode) :=
  runOp_attr_view hc rfl (chmodN_view mode) h

theorem truncate_refines_plain_fs (s : St) (hc : Consistent s) (p : List Name) (k : Nat) (r : Reply) (s' : St)
    (h : runOp (.truncate p k) s = .ok r s') :
    Consistent s' ∧ ViewChanged s.disk s'.disk p.reverse (truncV k) :=
  runOp_attr_view hc rfl (truncN_view k) h

/-- OPEN(flags) + WRITE(off, data) + RELEASE: with O_TRUNC the old content goes first, with
    O_APPEND the data lands at the end -/
theorem write_refines_plain_fs (s : St) (hc : Consistent s) (p : List Name) (fl : OFlag) (off : Nat)
    (data : List Nat) (r : Reply) (s' : St) (h : runOp (.write p fl off data) s = .ok r s') :
    Consistent s' ∧ ViewChanged s.disk s'.disk p.reverse (writeV fl.isTrunc (fl == .wa) off data) :=
  runOp_attr_view hc rfl (writeAtN_openN_view _ _ off data) h

/-- OPEN with a writing flag: only O_TRUNC changes what is visible -/
theorem open_refines_plain_fs (s : St) (hc : Consistent s) (p : List Name) (fl : OFlag) (hfl : fl.isWrite = true)
    (r : Reply) (s' : St) (h : runOp (.open p fl) s = .ok r s') :
    Consistent s' ∧ ViewChanged s.disk s'.disk p.reverse (openV fl.isTrunc) :=
  runOp_attr_view hc (op := .open p fl) (if_pos hfl) (openN_view _) h

/-- setxattr: the value is exactly the new one (nothing of the old xattr matters) -/
theorem setxattr_refines_plain_fs (s : St) (hc : Consistent s) (p : List Name) (v : Nat) (r : Reply) (s' : St)
    (h : runOp (.setx p v) s = .ok r s') :
    Consistent s' ∧ ViewChanged s.disk s'.disk p.reverse (setxV v) :=
  runOp_attr_view hc rfl (setxN_view v) h

theorem removexattr_refines_plain_fs (s : St) (hc : Consistent s) (p : List Name) (r : Reply) (s' : St)
    (h : runOp (.rmx p) s = .ok r s') :
    Consistent s' ∧ ViewChanged s.disk s'.disk p.reverse (setxV 0) :=
  runOp_attr_view hc rfl (setxN_view 0) h

/-- for setxattr the statement without the "up to the xattr" clause: type, mode and content are
    exactly the old ones, the xattr is the new value -/
theorem setxattr_exact (s : St) (hc : Consistent s) (p : List Name) (v : Nat) (r : Reply) (s' : St)
    (h : runOp (.setx p v) s = .ok r s') :
    merge s'.disk p.reverse = setxV v (merge s.disk p.reverse) := by
  obtain ⟨_, w, hw, hm⟩ := setxattr_refines_plain_fs s hc p v r s' h
  rw [hm]
  exact setxV_of_dropX v hw

/-! non-vacuity of the hypotheses: the example disk is well-formed -/
example : exDisk.RootsOK := by
  intro i hi
  have : i = 0 ∨ i = 1 ∨ i = 2 := by
    have : i = 0 ∨ ∃ a, a < 2 ∧ a + 1 = i := by simpa [exDisk, Disk.indices] using hi
    rcases this with h | ⟨a, ha, rfl⟩
    · exact Or.inl h
    · omega
  rcases this with rfl | rfl | rfl <;> decide

end Fbr.Thm.C10
